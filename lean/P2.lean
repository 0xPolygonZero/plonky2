import P2.Model.Goldilocks
import P2.Model.GlExt
import P2.Model.Fp
import P2.Model.Ext
import P2.Drv.Util
import P2.Drv.C14
import P2.Model.Poseidon
import P2.Model.Sponge
import P2.Model.Challenger
import P2.Model.PoseidonFast
import P2.Drv.C13
import P2.Model.Merkle
import P2.Model.PathCompression
import P2.Drv.C12
import P2.Model.BitRev
import P2.Model.Fft
import P2.Model.Poly
import P2.Drv.C15
import P2.Model.GL2
import P2.Model.Fri
import P2.Drv.Parse
import P2.Drv.C05
import P2.Model.Gates
import P2.Model.Plonk
import P2.Drv.ParseGates
import P2.Drv.ParsePlonk
import P2.Drv.C04
import P2.Model.Compress
import P2.Drv.C16
import P2.Drv.C07
import P2.Drv.C03
import P2.Model.Circuit
import P2.Drv.C01
import P2.Model.PlonkAlg
import P2.Model.Codec
import P2.Drv.C17
import P2.Model.CircuitVerifier
import P2.Drv.C19
import P2.Model.Air
import P2.Model.Stark
import P2.Drv.Stark
import P2.Lemmas.FriShape
import P2.Props.C18b
import P2.Model.BatchFri
import P2.Props.C05c
import P2.Props.C09
import P2.Props.C09b
import P2.Props.C09c
import P2.Props.C10
import P2.Props.C10b
import P2.Model.Keccak
import P2.Model.BatchMerkle
import P2.Drv.C12x
import P2.Props.C12c
import P2.Model.StarkCircuit
import P2.Props.C11
import P2.Props.C02c
import P2.Props.GL2Field
import P2.Props.C15b
import P2.Model.Decompress
import P2.Props.C16b
import P2.Props.C09d
import P2.Props.C12d
import P2.Props.GL2Inst
import P2.Props.C08c
import P2.Model.FriTail
import P2.Props.C11b
import P2.Props.C01c
import P2.Props.C14GenB
import P2.Props.C01
import P2.Props.C01b
import P2.Props.C14
import P2.Props.C16a
import P2.Props.C17
import P2.Props.C19
import P2.Props.C20
import P2.Findings.FC14_1
