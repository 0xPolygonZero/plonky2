/-
Known finding F-C14-1 (NOT an obligation of any check — it asserts a defect of the unchanged tree, and a
repair of the constants must not raise an alarm; build it by hand with `lake build P2.Findings.FC14_1`).
`Field::MULTIPLICATIVE_GROUP_GENERATOR` is documented as a generator of the entire multiplicative group;
for D = 2 and D = 4 the constant is a monomial `c·X`, and `X^D = 7` is in the base field, so its order
divides `D(p−1)`. The theorems are the NEGATION of "g generates", with a concrete witness: a prime `q`
dividing `|E| − 1` with `g^((|E|−1)/q) = 1`, evaluated by the kernel on the constants extracted from /repo.
The same witnesses are replayed on the implementation on every run of C14 (harness/src/c14.rs
`generator_orders`), which is what prints the KNOWN-FINDING line.
-/
import P2.Props.C14GenB
namespace P2.Findings.FC14_1
open P2 P2.Props.C14Gen P2.Props.C14GenB

theorem ext2_mult_gen_not_generator :
    (Gen.ORDER ^ 2 - 1) % 7 = 0 ∧
    extPow ext2P (extOfList Gen.EXT2_MULT_GEN) ((Gen.ORDER ^ 2 - 1) / 7) = Ext.ofBase ext2P 1 :=
  ⟨by decide, extPow_ext2 (x := pair Gen.EXT2_MULT_GEN) (y := (1, 0)) (by decide +kernel)⟩

theorem ext4_mult_gen_not_generator :
    (Gen.ORDER ^ 4 - 1) % 13 = 0 ∧
    extPow ext4P (extOfList Gen.EXT4_MULT_GEN) ((Gen.ORDER ^ 4 - 1) / 13) = Ext.ofBase ext4P 1 :=
  ⟨by decide, extPow_ext4 (x := quad Gen.EXT4_MULT_GEN) (y := (1, 0, 0, 0)) (by decide +kernel)⟩

end P2.Findings.FC14_1
