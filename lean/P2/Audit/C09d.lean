import P2.Props.C09d
#print axioms P2.Props.C09d.lookupChunk_def
#print axioms P2.Props.C09d.helperOK_iff
#print axioms P2.Props.C09d.lookupsOK_iff
#print axioms P2.Props.C09d.ctlVarsOK_iff
#print axioms P2.Props.C09d.lookupsOK_of_no_lookups
#print axioms P2.Props.C09d.numHelperColumns_eq
#print axioms P2.Props.C09d.numLookupHelperColumns_eq
#print axioms P2.Props.C09d.numLookupHelperColumns_none_iff
#print axioms P2.Props.C09d.lookups_degree_one_panics
#print axioms P2.Props.C09d.lookups_degree_one_verify_panics
#print axioms P2.Props.C09d.evalHelperColumns_some
#print axioms P2.Props.C09d.evalLookups_some
#print axioms P2.Props.C09d.evalCtlChecks_some
#print axioms P2.Props.C09d.evalVanishingPoly_some
#print axioms P2.Props.C09d.getChallengesFrom_lookupSet
#print axioms P2.Props.C09d.getChallenges_lookupSet
#print axioms P2.Props.C09d.getChallenges_lookupSet_iff
#print axioms P2.Props.C09d.verifyWithChallenges_never_panics_lookups
#print axioms P2.Props.C09d.verify_never_panics_lookups
#print axioms P2.Props.C09d.getDummyPolys_some
#print axioms P2.Props.C09d.alphasPrime_def
#print axioms P2.Props.C09d.zetaPrime_def
#print axioms P2.Props.C09d.getChallenges_returns
#print axioms P2.Props.C09d.verify_panic_surface
#print axioms P2.Props.C09d.ctlVarsFromProof_ok
#print axioms P2.Props.C09d.numCtlHelpersZsAll_byCtl
#print axioms P2.Props.C09d.verifyWithChallenges_never_panics_ctl
#print axioms P2.Props.C09d.lookAir_ok
#print axioms P2.Props.C09d.look_consumer
#print axioms P2.Props.C09d.ctlVar_ok
#print axioms P2.Props.C09d.todo_reachable
#print axioms P2.Props.C09d.filter_index_reachable
#print axioms P2.Props.C09d.look_getChallenges
#print axioms P2.Props.C09d.look_consumerPrime
