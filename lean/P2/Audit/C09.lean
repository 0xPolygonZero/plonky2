import P2.Props.C09
import P2.Props.C09b
import P2.Props.C09c
#print axioms P2.Props.C09.zip_map_accs
#print axioms P2.Props.C09.constraint_map
#print axioms P2.Props.C09.consumer_accs
#print axioms P2.Props.C09.consumer_new_accs
#print axioms P2.Props.C09.emit_eq
#print axioms P2.Props.C09.satisfied_iff
#print axioms P2.Props.C09.wrong_public_input_count_rejected
#print axioms P2.Props.C09.quotient_cap_presence_enforced
#print axioms P2.Props.C09.validateShape_accept_iff
#print axioms P2.Props.C09.shape_quotientCap_iff
#print axioms P2.Props.C09.shape_quotientPolys_iff
#print axioms P2.Props.C09.chunks0_unreachable_after_shape
#print axioms P2.Props.C09.validateShape_no_panic
#print axioms P2.Props.C09.verifyWithChallenges_accept_iff
#print axioms P2.Props.C09.verify_accept_iff
#print axioms P2.Props.C09.verify_accept_imp
#print axioms P2.Props.C09.quotientChunks_length
#print axioms P2.Props.C09.recoverDegreeBits_error_iff
#print axioms P2.Props.C09.recoverDegreeBits_ok_iff
#print axioms P2.Props.C09.verify_panics_of_recoverDegreeBits_error
#print axioms P2.Props.C09.verifyWithChallenges_panics_of_recoverDegreeBits_error
#print axioms P2.Props.C09.consumerAt_error_iff
#print axioms P2.Props.C09.verifyWithChallenges_never_panics_partial
#print axioms P2.Props.C09.getChallenges_shapes
#print axioms P2.Props.C09.verify_never_panics_partial
#print axioms P2.Props.C09.tiny_consumer
#print axioms P2.Props.C09c.run_drop
#print axioms P2.Props.C09c.preFri_eq
#print axioms P2.Props.C09c.state_headOf
#print axioms P2.Props.C09c.getChallenges_order
#print axioms P2.Props.C09c.stark_schedule_observes
#print axioms P2.Props.C09c.preAlphas_observes
#print axioms P2.Props.C09c.preZeta_observes
#print axioms P2.Props.C09c.preLookup_observes
#print axioms P2.Props.C09c.stark_observed_inj
#print axioms P2.Props.C09c.statement_or_cap_changes_transcript
#print axioms P2.Props.C09c.getChallenges_fri_order
#print axioms P2.Props.C09c.friOps_beta_split
#print axioms P2.Props.C09c.friOps_pow_split
#print axioms P2.Props.C09c.friOps_observes
#print axioms P2.Props.C09c.friOps_observed_inj
#print axioms P2.Props.C09c.tiny_getChallenges
#print axioms P2.Lemmas.Stark.validateShape_accept_iff
#print axioms P2.Lemmas.Stark.verifyWithChallenges_accept_iff
#print axioms P2.Lemmas.Stark.identityThenFri_accept_iff
#print axioms P2.Lemmas.StarkTranscript.getChallengesFrom_ok
#print axioms P2.Lemmas.StarkSchedule.midState_eq
#print axioms P2.Lemmas.StarkSchedule.tailFrom_eq
#print axioms P2.Lemmas.StarkSchedule.friChallenges_eq
#print axioms P2.Lemmas.StarkSchedule.friOps_eq
#print axioms P2.Lemmas.StarkNoPanic.friInstance_wf
#print axioms P2.Lemmas.StarkNoPanic.getChallengesFrom_shapes
#print axioms P2.Lemmas.StarkNoPanic.friChallenges_betas_length
#print axioms P2.Lemmas.StarkNoPanic.friChallenges_queryIndices_lt
#print axioms P2.Props.C09b.horner_eq_reduce
#print axioms P2.Props.C09b.horner_eq_reduce'
#print axioms P2.Props.C09b.horner_eq_sum
#print axioms P2.Props.C09b.horner_eq_sum_range
#print axioms P2.Props.C09b.consumer_acc_zero_set
#print axioms P2.Props.C09b.consumer_acc_zeros_card
#print axioms P2.Props.C09b.consumer_terms_zero_of_many_zeros
#print axioms P2.Props.C09b.consumer_acc_of_all_zero
#print axioms P2.Props.C09b.consumer_accs_eq_sum
#print axioms P2.Props.C09b.consumer_accs_eq_reduce
#print axioms P2.Props.C09b.consumer_all_zero_of_many_alphas
#print axioms P2.Props.C09b.consumer_acc_zero_mem
#print axioms P2.Props.C09b.evalConstraints_accs
#print axioms P2.Props.C09b.evalL0LLastK_eq
#print axioms P2.Props.C09b.fopsPow_eq
#print axioms P2.Props.C09b.l0_mul
#print axioms P2.Props.C09b.l0_of_pow_eq_one
#print axioms P2.Props.C09b.l0_eq_evalL0
#print axioms P2.Props.C09b.l0_eq_geom
#print axioms P2.Props.C09b.l0_poly_at_one
#print axioms P2.Props.C09b.lLast_eq_l0
#print axioms P2.Props.C09b.lLast_mul
#print axioms P2.Props.C09b.lLast_of_pow_eq_one
#print axioms P2.Props.C09b.lLast_eq_evalL0
#print axioms P2.Props.C09b.lLast_poly_root
#print axioms P2.Props.C09b.lLast_eq_geom
#print axioms P2.Props.C09b.zLast_eq_zero_iff
#print axioms P2.Props.C09b.zLast_root
#print axioms P2.Props.C09b.evalL0LLast_ok
#print axioms P2.Props.C09b.evalL0LLast_eq_twin
#print axioms P2.Props.C09b.evalL0LLast_error_iff
