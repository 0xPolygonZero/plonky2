import P2.Props.C04
import P2.Props.C04b
import P2.Props.C09c
#print axioms P2.Props.C04.observed_append
#print axioms P2.Props.C04.plonk_schedule_observes
#print axioms P2.Props.C04.fri_schedule_observes
#print axioms P2.Props.C04.fri_params_observed
#print axioms P2.Props.C04.runState_append
#print axioms P2.Props.C04.run_append
#print axioms P2.Props.C04.run_prefix
#print axioms P2.Props.C04.run_length
#print axioms P2.Props.C04.run_congr_prefix
#print axioms P2.Props.C04.duplexing_inj
#print axioms P2.Props.C04.duplexing_differs
#print axioms P2.Props.C04.state_dependence
#print axioms P2.Props.C04.state_dependence_boundary
#print axioms P2.Props.C04.single_block_state
#print axioms P2.Props.C04.state_dependence_single_block
#print axioms P2.Props.C04.history_state_dependence
#print axioms P2.Props.C04.challenges_explicit
#print axioms P2.Props.C04.challenges_from_state
#print axioms P2.Props.C04.plonk_observed_inj
#print axioms P2.Props.C04.wires_cap_changes_transcript
#print axioms P2.Props.C04.statement_or_cap_changes_transcript
#print axioms P2.Props.C04.fri_observed_inj
#print axioms P2.Props.C09c.run_drop
#print axioms P2.Props.C09c.preFri_eq
#print axioms P2.Props.C09c.state_headOf
#print axioms P2.Props.C09c.getChallenges_order
#print axioms P2.Props.C09c.stark_schedule_observes
#print axioms P2.Props.C09c.preAlphas_observes
#print axioms P2.Props.C09c.preZeta_observes
#print axioms P2.Props.C09c.preLookup_observes
#print axioms P2.Props.C09c.stark_observed_inj
#print axioms P2.Props.C09c.statement_or_cap_changes_transcript
#print axioms P2.Props.C09c.getChallenges_fri_order
#print axioms P2.Props.C09c.friOps_beta_split
#print axioms P2.Props.C09c.friOps_pow_split
#print axioms P2.Props.C09c.friOps_observes
#print axioms P2.Props.C09c.friOps_observed_inj
#print axioms P2.Props.C09c.tiny_getChallenges
