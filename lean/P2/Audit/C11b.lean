import P2.Props.C11b
#print axioms P2.Props.C11b.prefixSum_mono
#print axioms P2.Props.C11b.stepBit_mono
#print axioms P2.Props.C11b.prefixSum_succ
#print axioms P2.Props.C11b.prefixSum_le_sum
#print axioms P2.Props.C11b.stepBit_lt_dmax
#print axioms P2.Props.C11b.active_prefix
#print axioms P2.Props.C11b.lt_countP_range_iff
#print axioms P2.Props.C11b.lt_numActive_iff
#print axioms P2.Props.C11b.numActive_le
#print axioms P2.Props.C11b.exactlyFirst_iff
#print axioms P2.Props.C11b.exactlyFirst_unique
#print axioms P2.Props.C11b.sum_range_single
#print axioms P2.Props.C11b.inUse_eq
#print axioms P2.Props.C11b.inUse_le_one
#print axioms P2.Props.C11b.inUse_ne_one_iff
#print axioms P2.Props.C11b.tail_forced_zero_iff
#print axioms P2.Props.C11b.forcedZero_zero
#print axioms P2.Props.C11b.tailConstraints_iff
#print axioms P2.Props.C11b.finalBits_full
#print axioms P2.Props.C11b.prefixSum_replicate
#print axioms P2.Props.C11b.numActive_constantArity
#print axioms P2.Props.C11b.finalBits_eq_native_partial
