import P2.Props.C16b
#print axioms P2.Props.C16.lookup_after_first_wins_fold
#print axioms P2.Props.C16.first_wins_fold_keys_nodup
#print axioms P2.Props.C16.sortByKey_is_perm
#print axioms P2.Props.C16.lookup_after_sort
#print axioms P2.Props.C16.lookup_in_compressed_map
#print axioms P2.Props.C16.compress_initial_first_wins_partial
#print axioms P2.Props.C16.consistent_of_accept
#print axioms P2.Props.C16.consistentFrom_cons
#print axioms P2.Props.C16.insert_undoes_remove
#print axioms P2.Props.C16.decompress_query_aligned_partial
#print axioms P2.Props.C16.compress_keeps_transcript_parts
#print axioms P2.Props.C16.getChallenges_congr
#print axioms P2.Props.C16.challenges_of_compressed
#print axioms P2.Props.C16.verifyCompressed_of_roundtrip
#print axioms P2.Lemmas.C16.align_layers
#print axioms P2.Lemmas.C16.rebuild_seen
#print axioms P2.Lemmas.C16.consistentFrom_of_stepsFrom
#print axioms P2.Lemmas.C16.qsort_perm
#print axioms P2.Props.C16.compress_step_first_wins
#print axioms P2.Props.C16.combineInitial_reads_leaves
#print axioms P2.Props.C16.inferred_and_rebuilt
#print axioms P2.Props.C16.rebuilt_evals
#print axioms P2.Props.C16.inferred_and_rebuilt_of_accept
#print axioms P2.Props.C16.merkle_roundtrip_first_wins
#print axioms P2.Props.C16.initial_tree_paths_roundtrip
#print axioms P2.Lemmas.C16.compress_steps_eq
#print axioms P2.Lemmas.C16.compress_step_lookup
#print axioms P2.Lemmas.C16.layerIndex_eq
#print axioms P2.Lemmas.C16.Etrue_eq
#print axioms P2.Lemmas.C16.layersOK_of
#print axioms P2.Lemmas.C16.inferLayers_seen
#print axioms P2.Lemmas.C16.initial_entry
#print axioms P2.Lemmas.C16.glue_queries
#print axioms P2.Lemmas.C16.expectedFrom_eq
#print axioms P2.Lemmas.C16.fillLayer_specW
#print axioms P2.Lemmas.C16.specW_self
#print axioms P2.Lemmas.C16.roundtrip_firstwins
#print axioms P2.Props.C16.verifyCompressed_accept_imp
#print axioms P2.Props.C16.verifyCompressed_rejects_bad_shape
