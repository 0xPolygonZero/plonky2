import P2.Props.C14Gen
import P2.Props.C14
#print axioms P2.Props.C14Gen.order_tie
#print axioms P2.Props.C14Gen.epsilon_tie
#print axioms P2.Props.C14Gen.order_shape
#print axioms P2.Props.C14Gen.two_adicity
#print axioms P2.Props.C14Gen.generators_tie
#print axioms P2.Props.C14Gen.pow2_generator_order
#print axioms P2.Props.C14Gen.pow2_generator_from_mult
#print axioms P2.Props.C14Gen.mult_generator_generates
#print axioms P2.Props.C14Gen.ext_params_tie
#print axioms P2.Props.C14Gen.dth_roots
#print axioms P2.Props.C14Gen.binomial_criteria
#print axioms P2.Props.C14Gen.batch_width
#print axioms P2.Props.C14.glAdd_spec
#print axioms P2.Props.C14.glSub_spec
#print axioms P2.Props.C14.glNeg_spec
#print axioms P2.Props.C14.toCanonical_spec
#print axioms P2.Props.C14.reduce96_spec
#print axioms P2.Props.C14.reduce128_spec
#print axioms P2.Props.C14.reduce160_spec
#print axioms P2.Props.C14.glMul_spec
#print axioms P2.Props.C14.glSquare_spec
#print axioms P2.Props.C14.glMulAcc_spec
#print axioms P2.Props.C14.addCanonicalU64_spec
#print axioms P2.Props.C14.subCanonicalU64_spec
#print axioms P2.Props.C14.fromNoncanonicalI64_spec
#print axioms P2.Props.C14.expPow2_spec
#print axioms P2.Props.C14.expU64_spec
#print axioms P2.Props.C14.P_prime
#print axioms P2.Props.C14.tryInverse_spec
#print axioms P2.Props.C14.extMul_spec2_arr
#print axioms P2.Props.C14.extMul_spec4_arr
#print axioms P2.Props.C14.extMul_spec5_arr
