import P2.Props.C17
/- axioms used by every theorem of C17 (expected: none beyond propext / Quot.sound) -/
#print axioms P2.Props.C17.roundtrip
#print axioms P2.Props.C17.roundtrip_exact
#print axioms P2.Props.C17.read_consumes
#print axioms P2.Props.C17.seq_length
#print axioms P2.Props.C17.proofWithPis_roundtrip
#print axioms P2.Props.C17.proof_roundtrip
#print axioms P2.Props.C17.friProof_roundtrip
#print axioms P2.Props.C17.openingSet_roundtrip
#print axioms P2.Props.C17.merkleCap_roundtrip
#print axioms P2.Props.C17.merkleProof_roundtrip
#print axioms P2.Props.C17.compressedFriProof_roundtrip
#print axioms P2.Props.C17.compressedProof_roundtrip
#print axioms P2.Props.C17.leBytes8
#print axioms P2.Props.C17.readFieldsGreedy_write
#print axioms P2.Props.C17.compressedProofWithPis_roundtrip
#print axioms P2.Props.C17.readFieldsGreedy_spec
#print axioms P2.Props.C17.compressed_publicInputs_bounded
#print axioms P2.Props.C17.WF_field
#print axioms P2.Props.C17.WF_fieldExt
#print axioms P2.Props.C17.WF_vecN
#print axioms P2.Props.C17.WF_vecLenK
#print axioms P2.Props.C17.WF_hash
#print axioms P2.Props.C17.WF_merkleCap
#print axioms P2.Props.C17.WF_merkleProof
#print axioms P2.Props.C17.WF_publicInputs
#print axioms P2.Props.C17.WF_pair
#print axioms P2.Props.C17.WF_map
#print axioms P2.Props.C17.allSeq_iff
#print axioms P2.Props.C17.WF_seq
#print axioms P2.Props.C17.WF_openingSet
#print axioms P2.Props.C17.WF_initialTreeProof
#print axioms P2.Props.C17.WF_queryStep
#print axioms P2.Props.C17.WF_queryRound
#print axioms P2.Props.C17.WF_friProof
#print axioms P2.Props.C17.WF_proof
#print axioms P2.Props.C17.WF_proofWithPis
#print axioms P2.Props.C17.proofWithPis_roundtrip_explicit
#print axioms P2.Props.C17.read_field_length
#print axioms P2.Props.C17.readSeq_length_const
#print axioms P2.Props.C17.read_hash_length
#print axioms P2.Props.C17.publicInputs_bounded
#print axioms P2.Props.C17.merkleProof_bounded
#print axioms P2.Props.C17.u8_guard_necessary
#print axioms P2.Props.C17.u8_guard_necessary_decided
#print axioms P2.Props.C17.u8_guard_sharp
#print axioms P2.Lemmas.C17.toNat_toUInt8_mod
#print axioms P2.Lemmas.C17.leBytes_length
#print axioms P2.Lemmas.C17.readLE_leBytes
#print axioms P2.Lemmas.C17.readLE_spec
#print axioms P2.Lemmas.C17.readSeq_writeSeq
#print axioms P2.Lemmas.C17.readSeq_suffix
#print axioms P2.Lemmas.C17.read_suffix
