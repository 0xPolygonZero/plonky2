import P2.Props.C05
import P2.Props.C05b
import P2.Props.C05c
#print axioms P2.Props.C05.firstBad_accept_iff
#print axioms P2.Props.C05.firstBad_mem
#print axioms P2.Props.C05.verify_accept_iff
#print axioms P2.Props.C05.bad_pow_rejected
#print axioms P2.Props.C05.queryRound_accept
#print axioms P2.Props.C05.stepsFrom_accept_cons
#print axioms P2.Props.C05.stepsFrom_nil
#print axioms P2.Props.C05.constantArityBits_spec
#print axioms P2.Props.C05.lagrangeEval_eq_interpolate
#print axioms P2.Props.C05.lagrangeEval_eq_interpolate_finset
#print axioms P2.Props.C05.lagrangeEval_eq_poly_eval
#print axioms P2.Props.C05.lagrangeEval_eq_poly_eval'
#print axioms P2.Props.C05.splitPoly_eval
#print axioms P2.Props.C05.cosetPoly_degree_lt
#print axioms P2.Props.C05.splitPoly_eq_cosetPoly_on_coset
#print axioms P2.Props.C05.cosetPoly_eval_eq_fold
#print axioms P2.Props.C05.fold_identity
#print axioms P2.Props.C05.fold_identity_explicit
#print axioms P2.Props.C05.fold_identity_pow2
#print axioms P2.Props.C05.fold_layer_complete
#print axioms P2.Props.C05.split_exists
#print axioms P2.Props.C05.fold_layer_complete_any
#print axioms P2.Props.C05.quotient_eval
#print axioms P2.Props.C05.combine_divByMonic
#print axioms P2.Props.C05.combine_identity
#print axioms P2.Props.C05.combine_identity'
#print axioms P2.Props.C05.divideByLinear_eq_divByMonic
#print axioms P2.Props.C05.combine_identity_lists
#print axioms P2.Props.C05.combine_soundness
#print axioms P2.Props.C05c.verifyBatch_accept_iff
#print axioms P2.Props.C05c.bad_pow_rejected
#print axioms P2.Props.C05c.zip_replicate_map
#print axioms P2.Props.C05c.leafLens_single
#print axioms P2.Props.C05c.validateShape_single
#print axioms P2.Props.C05c.batchFold_single
#print axioms P2.Props.C05c.verifyBatchToCap_single
#print axioms P2.Props.C05c.saltSize_false
#print axioms P2.Props.C05c.splitLeaf_single
#print axioms P2.Props.C05c.initialChecks_single
#print axioms P2.Props.C05c.queryRound_single
#print axioms P2.Props.C05c.verifyBatch_single
#print axioms P2.Props.C05c.queryRound_accept
#print axioms P2.Props.C05c.stepsFrom_accept_cons
#print axioms P2.Props.C05c.splitLeaf_single_take
