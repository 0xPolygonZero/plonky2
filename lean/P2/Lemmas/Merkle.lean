/-
Lemmas about `P2.Model.Merkle`: level-wise hashing (`lv`), `fillSubtree` on the aligned chunks of a
leaf list (roots, buffer length, and the buffer layout that `merkleTreeProve` relies on, all in
terms of the levels of the whole list), folding of sibling paths, `build`, and the same tree in heap
addressing (`nodeOf`: leaf `i` is node `i + 2^H`, the root is node `1`).
-/
import P2.Model.Merkle
namespace P2.Lemmas.Merkle
open P2.Merkle

variable {L D : Type}

theorem xor_one_div (x : Nat) : (x ^^^ 1) / 2 = x / 2 := by
  rw [Nat.xor_div_two]; exact Nat.xor_zero _

theorem xor_one_mod (x : Nat) : (x ^^^ 1) % 2 = 1 - x % 2 := by
  have := @Nat.xor_mod_two_pow x 1 1
  rw [Nat.pow_one] at this
  rw [this]
  rcases Nat.mod_two_eq_zero_or_one x with h | h <;> rw [h] <;> rfl

theorem two_mul_xor_one (q : Nat) : (2 * q) ^^^ 1 = 2 * q + 1 := by
  have e := Nat.div_add_mod ((2 * q) ^^^ 1) 2
  rw [xor_one_div, xor_one_mod, Nat.mul_div_cancel_left _ (by decide : 0 < 2), Nat.mul_mod_right] at e
  exact e.symm

theorem two_mul_add_one_xor_one (q : Nat) : (2 * q + 1) ^^^ 1 = 2 * q := by
  have e := Nat.div_add_mod ((2 * q + 1) ^^^ 1) 2
  rw [xor_one_div, xor_one_mod, Nat.mul_add_mod, Nat.mul_add_div (by decide : 0 < 2)] at e
  exact e.symm

theorem even_or_odd (p : Nat) : (p = 2 * (p / 2) ∧ p % 2 = 0) ∨ (p = 2 * (p / 2) + 1 ∧ p % 2 = 1) := by
  have e := Nat.div_add_mod p 2
  rcases Nat.mod_two_eq_zero_or_one p with h | h <;> rw [h] at e
  · exact Or.inl ⟨e.symm, h⟩
  · exact Or.inr ⟨e.symm, h⟩

theorem xor_one_eq (x : Nat) : x ^^^ 1 = if x % 2 = 0 then x + 1 else x - 1 := by
  rcases even_or_odd x with ⟨e, h⟩ | ⟨e, h⟩
  · rw [if_pos h, e, two_mul_xor_one]
  · rw [if_neg (by rw [h]; decide), e, two_mul_add_one_xor_one]; rfl

theorem add_even_xor_one (q m : Nat) : (q + 2 * m) ^^^ 1 = (q ^^^ 1) + 2 * m := by
  rcases even_or_odd q with ⟨e, _⟩ | ⟨e, _⟩ <;> rw [e]
  · rw [← Nat.mul_add, two_mul_xor_one, two_mul_xor_one, Nat.mul_add, Nat.add_right_comm]
  · rw [Nat.add_right_comm, ← Nat.mul_add, two_mul_add_one_xor_one, two_mul_add_one_xor_one,
      Nat.mul_add]

theorem xor_one_lt {q m : Nat} (hq : q < 2 * m) : q ^^^ 1 < 2 * m := by
  rcases even_or_odd q with ⟨e, _⟩ | ⟨e, _⟩ <;> rw [e] at hq ⊢
  · rw [two_mul_xor_one]; omega
  · rw [two_mul_add_one_xor_one]; omega

/-- level `j` of the textbook tree over the digests `l`: `j` rounds of `levelUp` -/
def lv (h : Hasher L D) : Nat → List D → List D
  | 0, l => l
  | j + 1, l => levelUp h (lv h j l)

theorem capOf_eq_lv (h : Hasher L D) (k c : Nat) (leaves : List L) :
    capOf h k c leaves = lv h (k - c) (leaves.map h.hashLeaf) := by
  unfold capOf
  generalize k - c = n
  induction n with
  | zero => rfl
  | succ n ih => rw [List.range_succ, List.foldl_append, ih]; rfl

theorem levelUp_length (h : Hasher L D) (l : List D) : (levelUp h l).length = l.length / 2 := by
  fun_induction levelUp h l with
  | case1 a b rest ih =>
    rw [List.length_cons, ih]
    exact (Nat.add_div_right rest.length (by decide : 0 < 2)).symm
  | case2 l hne =>
    match l, hne with
    | [], _ => simp
    | [_], _ => simp
    | a :: b :: rest, hne => exact absurd rfl (hne a b rest)

theorem levelUp_append (h : Hasher L D) (a b : List D) (ha : a.length % 2 = 0) :
    levelUp h (a ++ b) = levelUp h a ++ levelUp h b := by
  fun_induction levelUp h a with
  | case1 x y rest ih =>
    rw [List.length_cons, List.length_cons, Nat.add_assoc, Nat.add_mod_right] at ha
    rw [List.cons_append, List.cons_append, levelUp, ih ha]; rfl
  | case2 l hne =>
    match l, hne with
    | [], _ => rfl
    | [_], _ => simp at ha
    | x :: y :: rest, hne => exact absurd rfl (hne x y rest)

theorem levelUp_getElem? (h : Hasher L D) (l : List D) (p : Nat) (a b : D)
    (ha : l[2 * p]? = some a) (hb : l[2 * p + 1]? = some b) :
    (levelUp h l)[p]? = some (h.two a b) := by
  fun_induction levelUp h l generalizing p with
  | case1 x y rest ih =>
    cases p with
    | zero =>
      cases ha; cases hb; rfl
    | succ p =>
      exact ih p ha hb
  | case2 l hne =>
    match l, hne with
    | [], _ => cases ha
    | [_], _ => cases hb
    | x :: y :: rest, hne => exact absurd rfl (hne x y rest)

theorem levelUp_parent (h : Hasher L D) (l : List D) (p : Nat) (c s : D)
    (hc : l[p]? = some c) (hs : l[p ^^^ 1]? = some s) :
    (levelUp h l)[p / 2]? = some (if p % 2 = 1 then h.two s c else h.two c s) := by
  rcases even_or_odd p with ⟨e, hp⟩ | ⟨e, hp⟩
  · rw [if_neg (by rw [hp]; decide)]
    rw [e, two_mul_xor_one] at hs
    rw [e] at hc
    exact levelUp_getElem? h l _ c s hc hs
  · rw [if_pos hp]
    rw [e, two_mul_add_one_xor_one] at hs
    rw [e] at hc
    exact levelUp_getElem? h l _ s c hs hc

theorem lv_succ_comm (h : Hasher L D) (j : Nat) (l : List D) :
    lv h (j + 1) l = lv h j (levelUp h l) := by
  induction j with
  | zero => rfl
  | succ j ih => rw [lv, ih]; rfl

theorem lv_length (h : Hasher L D) (j : Nat) (l : List D) : (lv h j l).length = l.length / 2 ^ j := by
  induction j with
  | zero => rw [Nat.pow_zero, Nat.div_one]; rfl
  | succ j ih => rw [lv, levelUp_length, ih, Nat.div_div_eq_div_mul, Nat.pow_succ]


/-- the buffer index read by `merkle_tree_prove` at layer `j` for position `p` of a subtree -/
def idx (p j : Nat) : Nat :=
  2 * ((p / 2 ^ (j + 1)) * 2 ^ (j + 1) + 2 ^ j - 1) + (1 - (p / 2 ^ j) % 2)

theorem idx_top {p n : Nat} (hp : p < 2 ^ (n + 1)) :
    idx p n = 2 * (2 ^ n - 1) + (1 - p / 2 ^ n % 2) := by
  unfold idx; rw [Nat.div_eq_of_lt hp, Nat.zero_mul, Nat.zero_add]

/-- below the top layer, the right half of a subtree of height `j + 1 + k + 1` repeats the layout
of the left half behind the left buffer and the two roots -/
theorem idx_shift (j k p : Nat) :
    idx (p + 2 ^ (j + 1 + k)) j = 2 * (2 ^ (j + 1 + k) - 1) + 2 + idx p j := by
  have e1 : (p + 2 ^ (j + 1 + k)) / 2 ^ (j + 1) = p / 2 ^ (j + 1) + 2 ^ k := by
    rw [Nat.pow_add, Nat.add_mul_div_left _ _ (Nat.two_pow_pos _)]
  have e2 : (p + 2 ^ (j + 1 + k)) / 2 ^ j % 2 = p / 2 ^ j % 2 := by
    rw [Nat.add_assoc j, Nat.pow_add 2 j, Nat.add_mul_div_left _ _ (Nat.two_pow_pos _), Nat.pow_add,
      Nat.pow_one, Nat.add_mul_mod_self_left]
  unfold idx
  rw [e1, e2, Nat.add_mul, ← Nat.pow_add, Nat.add_comm k]
  have hJ := Nat.two_pow_pos j
  have hS := Nat.two_pow_pos (j + 1 + k)
  generalize p / 2 ^ (j + 1) * 2 ^ (j + 1) = X, 2 ^ (j + 1 + k) = S, 1 - p / 2 ^ j % 2 = c,
    2 ^ j = J at hJ hS ⊢
  lia

theorem buf_left {lb rb : List D} {a b : D} {i : Nat} {v : D} (hi : lb[i]? = some v) :
    (lb ++ [a] ++ [b] ++ rb)[i]? = some v := by
  rw [List.append_assoc, List.append_assoc,
    List.getElem?_append_left (List.getElem?_eq_some_iff.mp hi).1]
  exact hi

theorem buf_a {lb rb : List D} {a b : D} {m : Nat} (hm : lb.length = m) :
    (lb ++ [a] ++ [b] ++ rb)[m]? = some a := by
  subst hm
  rw [List.append_assoc, List.append_assoc, List.getElem?_append_right (Nat.le_refl _), Nat.sub_self]
  rfl

theorem buf_b {lb rb : List D} {a b : D} {m : Nat} (hm : lb.length = m) :
    (lb ++ [a] ++ [b] ++ rb)[m + 1]? = some b := by
  subst hm
  rw [List.append_assoc, List.append_assoc, List.getElem?_append_right (Nat.le_add_right _ _),
    Nat.add_sub_cancel_left]
  rfl

theorem buf_right {lb rb : List D} {a b : D} {m i : Nat} (hm : lb.length = m) :
    (lb ++ [a] ++ [b] ++ rb)[m + 2 + i]? = rb[i]? := by
  subst hm
  rw [List.append_assoc, List.append_assoc, Nat.add_assoc,
    List.getElem?_append_right (Nat.le_add_right _ _), Nat.add_sub_cancel_left, Nat.add_comm]
  rfl

/-- two buffers of `2·(S − 1)` entries and two roots make a buffer of `2·(2S − 1)` entries -/
theorem two_bufs_length {S : Nat} (h : 0 < S) :
    2 * (S - 1) + 1 + 1 + 2 * (S - 1) = 2 * (2 * S - 1) := by
  obtain ⟨S, rfl⟩ := Nat.exists_eq_add_one_of_ne_zero (Nat.ne_of_gt h)
  rw [Nat.add_sub_cancel, Nat.mul_succ 2 S, Nat.add_sub_cancel (m := 1)]
  lia

theorem fillSubtree_succ (h : Hasher L D) (n s : Nat) (leaves : List L) {lb rb : List D} {a b : D}
    (hl : leaves.length = 2 * s) (e1 : fillSubtree h n (leaves.take s) = (lb, some a))
    (e2 : fillSubtree h n (leaves.drop s) = (rb, some b)) :
    fillSubtree h (n + 1) leaves = (lb ++ [a] ++ [b] ++ rb, some (h.two a b)) := by
  simp only [fillSubtree, hl, Nat.mul_div_cancel_left _ (by decide : 0 < 2), e1, e2]

/-! Chunk `t` of size `2^n` of `all` is `(all.drop (t * 2^n)).take (2^n)`; its two halves are the
chunks `2t` and `2t+1` of size `2^(n-1)`, so positions are named by the index `i` of the leaf in
`all` throughout: the chunk is `i / 2^n`, the position inside it `i % 2^n`. -/

theorem chunk_length {α : Type} (l : List α) (s t : Nat) (ht : t < l.length / s) :
    ((l.drop (t * s)).take s).length = s := by
  have := Nat.mul_le_of_le_div _ _ _ (Nat.succ_le_of_lt ht)
  rw [Nat.succ_mul] at this
  rw [List.length_take, List.length_drop]
  omega

theorem chunk_take {α : Type} (l : List α) (s t : Nat) :
    ((l.drop (t * (2 * s))).take (2 * s)).take s = (l.drop (2 * t * s)).take s := by
  rw [List.take_take, Nat.min_eq_left (Nat.le_mul_of_pos_left s (by decide)), Nat.mul_left_comm,
    Nat.mul_assoc]

theorem chunk_drop {α : Type} (l : List α) (s t : Nat) :
    ((l.drop (t * (2 * s))).take (2 * s)).drop s = (l.drop ((2 * t + 1) * s)).take s := by
  have e : t * (2 * s) + s = (2 * t + 1) * s := by
    rw [Nat.add_mul, Nat.one_mul, Nat.mul_left_comm, Nat.mul_assoc]
  rw [List.drop_take, List.drop_drop, e, Nat.two_mul, Nat.add_sub_cancel]

/-- `fill_subtree` on chunk `t`: its root is entry `t` of level `n` of the whole list, its buffer
has `2·(2^n − 1)` entries, and the entry `merkle_tree_prove` reads at layer `j` for leaf `i` is the
sibling of the `j`-th ancestor of `i` in the whole list. -/
theorem fillSubtree_chunk (h : Hasher L D) (all : List L) :
    ∀ (n t : Nat), t < all.length / 2 ^ n →
      ∃ buf r, fillSubtree h n ((all.drop (t * 2 ^ n)).take (2 ^ n)) = (buf, some r) ∧
        (lv h n (all.map h.hashLeaf))[t]? = some r ∧ buf.length = 2 * (2 ^ n - 1) ∧
        ∀ i j, i / 2 ^ n = t → j < n →
          ∃ v, buf[idx (i % 2 ^ n) j]? = some v ∧
            (lv h j (all.map h.hashLeaf))[(i / 2 ^ j) ^^^ 1]? = some v := by
  intro n
  induction n with
  | zero =>
    intro t ht
    rw [Nat.pow_zero, Nat.div_one] at ht
    refine ⟨[], h.hashLeaf all[t], ?_, ?_, rfl, fun _ _ _ hj => absurd hj (Nat.not_lt_zero _)⟩
    · rw [fillSubtree, Nat.pow_zero, Nat.mul_one, List.head?_take, if_neg (by decide),
        List.head?_drop, List.getElem?_eq_getElem ht]
      rfl
    · rw [lv, List.getElem?_map, List.getElem?_eq_getElem ht]; rfl
  | succ n ih =>
    intro t ht
    have hpow : 2 ^ (n + 1) = 2 * 2 ^ n := by rw [Nat.pow_succ, Nat.mul_comm]
    have ht2 : t < all.length / 2 ^ n / 2 := by
      rw [Nat.div_div_eq_div_mul, Nat.mul_comm, ← hpow]; exact ht
    have ht3 : 2 * t + 1 < all.length / 2 ^ n := by omega
    obtain ⟨lb, a, e1, r1, n1, lay1⟩ := ih (2 * t) (Nat.lt_of_succ_lt ht3)
    obtain ⟨rb, b, e2, r2, n2, lay2⟩ := ih (2 * t + 1) ht3
    refine ⟨lb ++ [a] ++ [b] ++ rb, h.two a b, ?_, levelUp_getElem? h _ t a b r1 r2, ?_, ?_⟩
    · rw [hpow] at ht ⊢
      exact fillSubtree_succ h n (2 ^ n) _ (chunk_length all _ t ht)
        (by rw [chunk_take]; exact e1) (by rw [chunk_drop]; exact e2)
    · rw [List.length_append, List.length_append, List.length_append, n1, n2, hpow]
      exact two_bufs_length (Nat.two_pow_pos n)
    · intro i j hi hj
      have hm : i / 2 ^ n / 2 = t := by rw [Nat.div_div_eq_div_mul, Nat.mul_comm, ← hpow]; exact hi
      have hbit : i % 2 ^ (n + 1) / 2 ^ n = i / 2 ^ n % 2 := by
        rw [Nat.pow_succ]; exact Nat.mod_mul_right_div_self i _ 2
      have hmod := Nat.mod_pow_succ (x := i) (b := 2) (k := n)
      have hjn' : j ≠ n → j < n := Nat.lt_of_le_of_ne (Nat.le_of_lt_succ hj)
      rcases even_or_odd (i / 2 ^ n) with ⟨e, hb⟩ | ⟨e, hb⟩ <;> rw [hm] at e <;> rw [hb] at hbit hmod
      · -- `i` lies in the left half
        by_cases hjn : j = n
        · subst hjn
          refine ⟨b, ?_, by rw [e, two_mul_xor_one]; exact r2⟩
          rw [idx_top (Nat.mod_lt _ (Nat.two_pow_pos _)), hbit]
          exact buf_b n1
        · obtain ⟨v, hv1, hv2⟩ := lay1 i j e (hjn' hjn)
          refine ⟨v, ?_, hv2⟩
          rw [hmod, Nat.mul_zero, Nat.add_zero]
          exact buf_left hv1
      · -- `i` lies in the right half
        by_cases hjn : j = n
        · subst hjn
          refine ⟨a, ?_, by rw [e, two_mul_add_one_xor_one]; exact r1⟩
          rw [idx_top (Nat.mod_lt _ (Nat.two_pow_pos _)), hbit]
          exact buf_a n1
        · obtain ⟨v, hv1, hv2⟩ := lay2 i j e (hjn' hjn)
          refine ⟨v, ?_, hv2⟩
          obtain ⟨k, rfl⟩ := Nat.exists_eq_add_of_le (Nat.succ_le_of_lt (hjn' hjn))
          rw [hmod, Nat.mul_one, idx_shift, buf_right n1]
          exact hv1

theorem fillSubtree_spec (h : Hasher L D) (k : Nat) (leaves : List L) (hl : leaves.length = 2 ^ k) :
    ∃ buf r, fillSubtree h k leaves = (buf, some r) ∧
      lv h k (leaves.map h.hashLeaf) = [r] ∧ buf.length = 2 * (2 ^ k - 1) := by
  obtain ⟨buf, r, e, hr, hb, _⟩ := fillSubtree_chunk h leaves k 0
    (by rw [hl, Nat.div_self (Nat.two_pow_pos k)]; decide)
  rw [Nat.zero_mul, List.drop_zero, ← hl, List.take_length] at e
  refine ⟨buf, r, e, ?_, hb⟩
  have hlen := lv_length h k (leaves.map h.hashLeaf)
  rw [List.length_map, hl, Nat.div_self (Nat.two_pow_pos k)] at hlen
  match hx : lv h k (leaves.map h.hashLeaf), hlen with
  | [x], _ => rw [hx] at hr; cases hr; rfl

theorem foldPath_snd (h : Hasher L D) :
    ∀ (π : List D) (c : D) (i : Nat), (foldPath h c i π).2 = i / 2 ^ π.length := by
  intro π
  induction π with
  | nil => intro c i; exact (Nat.div_one i).symm
  | cons s rest ih =>
    intro c i
    rw [foldPath, ih, List.length_cons, Nat.div_div_eq_div_mul, Nat.pow_succ, Nat.mul_comm]

theorem foldPath_fst_mod (h : Hasher L D) :
    ∀ (π : List D) (c : D) (i : Nat),
      (foldPath h c i π).1 = (foldPath h c (i % 2 ^ π.length) π).1 := by
  intro π
  induction π with
  | nil => intro c i; rfl
  | cons s rest ih =>
    intro c i
    rw [foldPath, foldPath, List.length_cons, Nat.pow_succ, Nat.mul_comm,
      Nat.mod_mul_right_mod, Nat.mod_mul_right_div_self, ih _ (i / 2)]

/-- folding the siblings of the ancestors of position `p` (of a list of any length) from entry `p`
gives the ancestor `π.length` levels up -/
theorem foldPath_lv (h : Hasher L D) :
    ∀ (π l : List D) (p : Nat) (c : D), l[p]? = some c →
      (∀ j, j < π.length → π[j]? = (lv h j l)[(p / 2 ^ j) ^^^ 1]?) →
      (lv h π.length l)[p / 2 ^ π.length]? = some (foldPath h c p π).1 := by
  intro π
  induction π with
  | nil => intro l p c hc _; rw [List.length_nil, Nat.pow_zero, Nat.div_one]; exact hc
  | cons s rest ih =>
    intro l p c hc hsib
    have hs : l[p ^^^ 1]? = some s := by
      have := hsib 0 (Nat.zero_lt_succ _)
      rw [Nat.pow_zero, Nat.div_one] at this
      exact this.symm
    have := ih (levelUp h l) (p / 2) _ (levelUp_parent h l p c s hc hs) (fun j hj => by
      have := hsib (j + 1) (Nat.succ_lt_succ hj)
      rw [List.getElem?_cons_succ, lv_succ_comm, Nat.pow_succ, Nat.mul_comm,
        ← Nat.div_div_eq_div_mul] at this
      exact this)
    rw [Nat.div_div_eq_div_mul, Nat.mul_comm, ← Nat.pow_succ, ← lv_succ_comm] at this
    exact this

/-- a proof consisting of the textbook siblings of leaf `i` is accepted against the textbook level
`π.length` as cap -/
theorem verifyToCap_siblings [DecidableEq D] (h : Hasher L D) (leaves : List L) (i : Nat)
    (hi : i < leaves.length) (π : List D)
    (hπ : ∀ j, j < π.length → π[j]? = (lv h j (leaves.map h.hashLeaf))[(i / 2 ^ j) ^^^ 1]?) :
    verifyToCap h leaves[i] i (lv h π.length (leaves.map h.hashLeaf)) π = .ok := by
  have hf := foldPath_lv h π (leaves.map h.hashLeaf) i (h.hashLeaf leaves[i])
    (by rw [List.getElem?_map, List.getElem?_eq_getElem hi]; rfl) hπ
  rw [← foldPath_snd h π (h.hashLeaf leaves[i]) i] at hf
  simp only [verifyToCap, hf, if_true]

theorem mapM_option_exists {α β : Type} (f : α → Option β) :
    ∀ (l : List α), (∀ a ∈ l, ∃ b, f a = some b) →
      ∃ π, l.mapM f = some π ∧ π.length = l.length ∧
        ∀ q (hq : q < l.length), π[q]? = f l[q] := by
  intro l
  induction l with
  | nil => intro _; exact ⟨[], by simp, rfl, by intro q hq; simp at hq⟩
  | cons a l ih =>
    intro hall
    obtain ⟨b, hb⟩ := hall a (by simp)
    obtain ⟨π, h1, h2, h3⟩ := ih (fun x hx => hall x (by simp [hx]))
    refine ⟨b :: π, by simp [List.mapM_cons, hb, h1], by simp [h2], ?_⟩
    intro q hq
    cases q with
    | zero => simp [hb]
    | succ q => simpa using h3 q (by simpa using hq)

theorem mapM_option_map {α β : Type} (f : α → Option β) (g : α → β) :
    ∀ (l : List α), (∀ a ∈ l, f a = some (g a)) → l.mapM f = some (l.map g) := by
  intro l
  induction l with
  | nil => intro _; simp
  | cons a l ih =>
    intro hall
    simp [List.mapM_cons, hall a (by simp), ih (fun x hx => hall x (by simp [hx]))]

/-- a list given entry by entry as `some (g i)` is `is.map g` -/
theorem eq_map_of_map_some {α β : Type} {l : List β} {is : List α} {f : α → Option β} {g : α → β}
    (h : l.map some = is.map f) (hf : ∀ i ∈ is, f i = some (g i)) : l = is.map g := by
  apply (List.map_inj_right (f := some) (fun _ _ => Option.some_inj.mp)).mp
  rw [h, List.map_map]
  exact List.map_congr_left hf

theorem flatMap_chunk {α β : Type} (f : α → List β) (T : Nat) :
    ∀ (xs : List α) (t : Nat) (ht : t < xs.length), (∀ x ∈ xs, (f x).length = T) →
      ((xs.flatMap f).drop (T * t)).take T = f xs[t] := by
  intro xs
  induction xs with
  | nil => intro t ht; simp at ht
  | cons x xs ih =>
    intro t ht hall
    have hx : (f x).length = T := hall x (by simp)
    cases t with
    | zero =>
      simp only [List.flatMap_cons, Nat.mul_zero, List.drop_zero, List.getElem_cons_zero]
      rw [List.take_append_of_le_length (by omega), List.take_of_length_le (by omega)]
    | succ t =>
      simp only [List.flatMap_cons, List.getElem_cons_succ]
      have : T * (t + 1) = (f x).length + T * t := by rw [hx, Nat.mul_succ]; omega
      rw [this, List.drop_append, List.drop_of_length_le (by omega), List.nil_append,
        Nat.add_sub_cancel_left]
      exact ih t (by simpa using ht) (fun y hy => hall y (by simp [hy]))

theorem flatMap_length_const {α β : Type} (f : α → List β) (T : Nat) :
    ∀ (xs : List α), (∀ x ∈ xs, (f x).length = T) → (xs.flatMap f).length = xs.length * T := by
  intro xs
  induction xs with
  | nil => intro _; simp
  | cons x xs ih =>
    intro hall
    simp only [List.flatMap_cons, List.length_append, List.length_cons,
      hall x (by simp), ih (fun y hy => hall y (by simp [hy]))]
    rw [Nat.succ_mul]; omega

theorem build_eq (h : Hasher L D) (k c : Nat) (leaves : List L) (hl : leaves.length = 2 ^ k)
    (hc : c ≤ k) :
    build h k c leaves =
      (((List.range (2 ^ c)).map fun t =>
          fillSubtree h (k - c) ((leaves.drop (t * 2 ^ (k - c))).take (2 ^ (k - c)))).flatMap (·.1),
       ((List.range (2 ^ c)).map fun t =>
          fillSubtree h (k - c) ((leaves.drop (t * 2 ^ (k - c))).take (2 ^ (k - c)))).map (·.2)) := by
  unfold build
  simp only [hl, Nat.pow_div hc (by decide : 0 < 2)]

theorem merkleTreeProve_eq (i k c T : Nat) (digests : List D) (hlen : digests.length = 2 ^ c * T)
    (hT : 2 * (2 ^ k - 2 ^ c) = 2 ^ c * T) :
    merkleTreeProve i (2 ^ k) k c digests =
      (List.range (k - c)).mapM fun j =>
        ((digests.drop (T * (i / 2 ^ (k - c)))).take T)[idx (i % 2 ^ (k - c)) j]? := by
  unfold merkleTreeProve
  have hdiv : 2 ^ c * T / 2 ^ c = T := by
    rw [Nat.mul_comm, Nat.mul_div_cancel _ (Nat.two_pow_pos c)]
  simp only [hT, hdiv, hlen, ne_eq, not_true_eq_false, if_false, idx]

theorem chunk_roots (h : Hasher L D) (n m : Nat) (leaves : List L) (hl : leaves.length = m * 2 ^ n) :
    (List.range m).map (fun t => (fillSubtree h n ((leaves.drop (t * 2 ^ n)).take (2 ^ n))).2) =
      (lv h n (leaves.map h.hashLeaf)).map some := by
  have hdiv : leaves.length / 2 ^ n = m := by rw [hl, Nat.mul_div_cancel _ (Nat.two_pow_pos n)]
  apply List.ext_getElem?
  intro t
  rw [List.getElem?_map, List.getElem?_map]
  by_cases ht : t < m
  · obtain ⟨buf, r, e, hr, _⟩ := fillSubtree_chunk h leaves n t (hdiv ▸ ht)
    rw [List.getElem?_range ht, hr, Option.map_some, e]; rfl
  · rw [List.getElem?_eq_none (by rw [List.length_range]; omega),
      List.getElem?_eq_none (by rw [lv_length, List.length_map, hdiv]; omega)]
    rfl

theorem chunk_buf_length (h : Hasher L D) (n m : Nat) (leaves : List L)
    (hl : leaves.length = m * 2 ^ n) :
    ∀ x ∈ (List.range m).map fun t => fillSubtree h n ((leaves.drop (t * 2 ^ n)).take (2 ^ n)),
      x.1.length = 2 * (2 ^ n - 1) := by
  intro x hx
  obtain ⟨t, ht, rfl⟩ := List.mem_map.mp hx
  obtain ⟨buf, r, e, _, hb, _⟩ := fillSubtree_chunk h leaves n t
    (by rw [hl, Nat.mul_div_cancel _ (Nat.two_pow_pos n)]; exact List.mem_range.mp ht)
  exact (congrArg (·.1.length) e).trans hb

theorem build_fst_length (h : Hasher L D) (k c : Nat) (leaves : List L) (hl : leaves.length = 2 ^ k)
    (hc : c ≤ k) : (build h k c leaves).1.length = 2 * (2 ^ k - 2 ^ c) := by
  have hpow : 2 ^ k = 2 ^ c * 2 ^ (k - c) := by rw [← Nat.pow_add, Nat.add_sub_cancel' hc]
  rw [build_eq h k c leaves hl hc,
    flatMap_length_const _ _ _ (chunk_buf_length h (k - c) (2 ^ c) leaves (hl.trans hpow)),
    List.length_map, List.length_range, Nat.mul_left_comm, Nat.mul_sub, Nat.mul_one, ← hpow]

/-- `merkle_tree_prove` on the tree of `MerkleTree::new` stays inside the digest buffer and returns
the textbook siblings of the ancestors of leaf `i` below the cap -/
theorem merkleTreeProve_build (h : Hasher L D) (k c : Nat) (leaves : List L)
    (hl : leaves.length = 2 ^ k) (hc : c ≤ k) (i : Nat) (hi : i < 2 ^ k) :
    ∃ π, merkleTreeProve i (2 ^ k) k c (build h k c leaves).1 = some π ∧ π.length = k - c ∧
      ∀ j, j < k - c → π[j]? = (lv h j (leaves.map h.hashLeaf))[(i / 2 ^ j) ^^^ 1]? := by
  have hpow : 2 ^ k = 2 ^ c * 2 ^ (k - c) := by rw [← Nat.pow_add, Nat.add_sub_cancel' hc]
  have hlen := build_fst_length h k c leaves hl hc
  have hT : 2 * (2 ^ k - 2 ^ c) = 2 ^ c * (2 * (2 ^ (k - c) - 1)) := by
    rw [Nat.mul_left_comm (2 ^ c), Nat.mul_sub (2 ^ c), Nat.mul_one, ← hpow]
  have hall := chunk_buf_length h (k - c) (2 ^ c) leaves (hl.trans hpow)
  have ht : i / 2 ^ (k - c) < 2 ^ c := by
    rw [Nat.div_lt_iff_lt_mul (Nat.two_pow_pos _), ← hpow]; exact hi
  obtain ⟨buf, r, e, _, _, lay⟩ := fillSubtree_chunk h leaves (k - c) (i / 2 ^ (k - c))
    (by rw [hl, hpow, Nat.mul_div_cancel _ (Nat.two_pow_pos _)]; exact ht)
  obtain ⟨π, h1, h2, h3⟩ := mapM_option_exists (fun j => buf[idx (i % 2 ^ (k - c)) j]?)
    (List.range (k - c)) (fun j hj => (lay i j rfl (List.mem_range.mp hj)).imp fun _ hv => hv.1)
  rw [List.length_range] at h2
  refine ⟨π, ?_, h2, fun j hj => ?_⟩
  · rw [merkleTreeProve_eq i k c _ _ (hlen.trans hT) hT]
    rw [build_eq h k c leaves hl hc] at hlen ⊢
    rw [flatMap_chunk (fun x : List D × Option D => x.1) _ _ _ (by simpa using ht) hall,
      List.getElem_map, List.getElem_range, e]
    exact h1
  · obtain ⟨v, hv1, hv2⟩ := lay i j rfl hj
    rw [h3 j (by rw [List.length_range]; exact hj), List.getElem_range, hv1, hv2]

/-- the cap of `MerkleTree::new` is level `k − capHeight` of the leaf hashes -/
theorem build_snd (h : Hasher L D) (k c : Nat) (leaves : List L) (hl : leaves.length = 2 ^ k)
    (hc : c ≤ k) : (build h k c leaves).2 = (lv h (k - c) (leaves.map h.hashLeaf)).map some := by
  rw [build_eq h k c leaves hl hc, List.map_map]
  exact chunk_roots h (k - c) (2 ^ c) leaves (by rw [hl, ← Nat.pow_add, Nat.add_sub_cancel' hc])

theorem prove_spec [DecidableEq D] (h : Hasher L D) (k c : Nat) (leaves : List L)
    (hl : leaves.length = 2 ^ k) (hc : c ≤ k) (i : Nat) (hi : i < 2 ^ k)
    (cap : List D) (hcap : (build h k c leaves).2 = cap.map some) :
    ∃ π, merkleTreeProve i (2 ^ k) k c (build h k c leaves).1 = some π ∧
      π.length = k - c ∧
      (∀ j, j < k - c → π[j]? = (lv h j (leaves.map h.hashLeaf))[(i / 2 ^ j) ^^^ 1]?) ∧
      verifyToCap h (leaves[i]'(by omega)) i cap π = .ok := by
  obtain ⟨π, h1, h2, h3⟩ := merkleTreeProve_build h k c leaves hl hc i hi
  refine ⟨π, h1, h2, h3, ?_⟩
  rw [build_snd h k c leaves hl hc] at hcap
  rw [← (List.map_inj_right (fun _ _ => Option.some_inj.mp)).mp hcap, ← h2]
  exact verifyToCap_siblings h leaves i (hl ▸ hi) π (h2 ▸ h3)

/-- true digest of heap node `x` of the tree over `leaves` (`2^H` of them) -/
def nodeOf [Inhabited D] (h : Hasher L D) (H : Nat) (leaves : List L) (x : Nat) : D :=
  ((lv h (H - Nat.log2 x) (leaves.map h.hashLeaf))[x - 2 ^ Nat.log2 x]?).getD default

/-- heap node `2^a + q` is entry `q` of the level `j` below which `a` levels remain -/
theorem nodeOf_layer [Inhabited D] (h : Hasher L D) (a j : Nat) (leaves : List L)
    (hl : leaves.length = 2 ^ (a + j)) (q : Nat) (hq : q < 2 ^ a) :
    (lv h j (leaves.map h.hashLeaf))[q]? = some (nodeOf h (a + j) leaves (2 ^ a + q)) := by
  have hlog : Nat.log2 (2 ^ a + q) = a :=
    (Nat.log2_eq_iff (Nat.ne_of_gt (Nat.lt_of_lt_of_le (Nat.two_pow_pos a) (Nat.le_add_right _ _)))).mpr
      ⟨Nat.le_add_right _ _, by rw [Nat.pow_succ, Nat.mul_two]; exact Nat.add_lt_add_left hq _⟩
  have hlt : q < (lv h j (leaves.map h.hashLeaf)).length := by
    rw [lv_length, List.length_map, hl, Nat.pow_add, Nat.mul_div_cancel _ (Nat.two_pow_pos j)]
    exact hq
  rw [nodeOf, hlog, Nat.add_sub_cancel_left, Nat.add_sub_cancel_left, List.getElem?_eq_getElem hlt]
  rfl

theorem nodeOf_leaf [Inhabited D] (h : Hasher L D) (H : Nat) (leaves : List L)
    (hl : leaves.length = 2 ^ H) (i : Nat) (hi : i < 2 ^ H) :
    nodeOf h H leaves (i + 2 ^ H) = h.hashLeaf (leaves[i]'(by omega)) := by
  have := nodeOf_layer h H 0 leaves hl i hi
  rw [lv, List.getElem?_map, List.getElem?_eq_getElem (by omega), Nat.add_comm (2 ^ H)] at this
  exact (Option.some.inj this).symm

theorem nodeOf_two [Inhabited D] (h : Hasher L D) (H : Nat) (leaves : List L)
    (hl : leaves.length = 2 ^ H) (x : Nat) (hx1 : 1 ≤ x) (hx2 : x < 2 ^ H) :
    nodeOf h H leaves x = h.two (nodeOf h H leaves (2 * x)) (nodeOf h H leaves (2 * x + 1)) := by
  have hx : x ≠ 0 := by omega
  obtain ⟨h1, h2⟩ := (Nat.log2_eq_iff hx).mp rfl
  have ha : Nat.log2 x < H := (Nat.log2_lt hx).mpr hx2
  generalize Nat.log2 x = a at h1 h2 ha
  obtain ⟨q, rfl⟩ : ∃ q, x = 2 ^ a + q := ⟨x - 2 ^ a, by omega⟩
  obtain ⟨j, rfl⟩ : ∃ j, H = a + (j + 1) := ⟨H - (a + 1), by omega⟩
  have hq : q < 2 ^ a := by rw [Nat.pow_succ] at h2; omega
  have hl' : leaves.length = 2 ^ (a + 1 + j) :=
    hl.trans (congrArg (2 ^ ·) (Nat.add_right_comm a j 1))
  have e0 := nodeOf_layer h a (j + 1) leaves hl q hq
  have e1 := nodeOf_layer h (a + 1) j leaves hl' (2 * q) (by rw [Nat.pow_succ]; omega)
  have e2 := nodeOf_layer h (a + 1) j leaves hl' (2 * q + 1) (by rw [Nat.pow_succ]; omega)
  rw [lv, levelUp_getElem? h _ q _ _ e1 e2, Nat.add_right_comm a 1 j] at e0
  rw [Nat.mul_add, Nat.add_assoc, Nat.mul_comm 2 (2 ^ a), ← Nat.pow_succ]
  exact (Option.some.inj e0).symm

/-- heap address of the sibling of the `j`-th ancestor of leaf `i`, split into layer base and
position -/
theorem sib_heap (a j i : Nat) (hi : i < 2 ^ (a + 1 + j)) :
    ((i + 2 ^ (a + 1 + j)) / 2 ^ j) ^^^ 1 = 2 ^ (a + 1) + ((i / 2 ^ j) ^^^ 1) ∧
      (i / 2 ^ j) ^^^ 1 < 2 ^ (a + 1) := by
  have hq : i / 2 ^ j < 2 * 2 ^ a := by
    rw [Nat.div_lt_iff_lt_mul (Nat.two_pow_pos j), Nat.mul_comm 2, ← Nat.pow_succ, ← Nat.pow_add]
    exact hi
  rw [Nat.pow_add 2 (a + 1) j, Nat.mul_comm, Nat.add_mul_div_left _ _ (Nat.two_pow_pos j),
    Nat.pow_succ, Nat.mul_comm (2 ^ a), add_even_xor_one, Nat.add_comm]
  exact ⟨rfl, xor_one_lt hq⟩

end P2.Lemmas.Merkle
