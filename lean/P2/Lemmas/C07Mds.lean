/-
C07 helpers: the Poseidon MDS gate (`PoseidonMdsGate`) as a gate with algebra-valued outputs
(`AlgOutGate`), and what `PoseidonMdsGenerator` leaves on the row over Goldilocks.
-/
import P2.Lemmas.C07On
import P2.Lemmas.C07Simple
namespace P2.Lemmas.C07
open P2 P2.Gates
section
variable {K : Type} [Field K] [DecidableEq K] [Inhabited K]

/-- output `i` of the MDS layer on the row's inputs: what `PoseidonMdsGenerator` writes to wires
`2(12+i), 2(12+i)+1` -/
def mdsOut (v : EvalVars K) (i : Nat) : Alg K :=
  @mdsRowShfAlg K (FOps.ofField K) _ i
    ((Array.range spongeWidth).map fun i => ((v.wires[2 * i]!, v.wires[2 * i + 1]!) : Alg K))

theorem poseidonMds_algOut :
    AlgOutGate (K := K) .poseidonMds 12 (fun i => 2 * (12 + i)) mdsOut where
  eval _ := rfl
  inj i k r s hr hs e :=
    let ⟨e1, e2⟩ := block_unique hr hs e
    ⟨Nat.add_left_cancel e1, e2⟩
  congr v v' i _ hw := by
    -- the MDS outputs only depend on the input wires `< 24`
    unfold mdsOut
    refine congrArg (@mdsRowShfAlg K (FOps.ofField K) _ i)
      (Lemmas.C15.map_range_congr _ _ _ fun j hj => ?_)
    have hj' : j < 12 := hj
    rw [hw (2 * j) fun k r _ => by omega, hw (2 * j + 1) fun k r _ => by omega]

end

section OverGL
attribute [local instance] glField

theorem mdsRowShfAlg_GL (r : Nat) (a : Array (Alg P2.GL)) :
    @mdsRowShfAlg P2.GL instFOpsGL _ r a = @mdsRowShfAlg P2.GL (FOps.ofField P2.GL) _ r a :=
  congrArg (fun F => @mdsRowShfAlg P2.GL F _ r a) fops_GL_eq_ofField

theorem poseidonMds_generate_eq (consts wires : Array P2.GL) :
    GateKind.poseidonMds.generate consts wires =
      (List.range 12).foldl (fun ws i => setAlg ws (2 * (12 + i))
        (mdsRowShfAlg i ((Array.range spongeWidth).map fun i => getAlg
          (wires ++ Array.replicate (GateKind.poseidonMds.numWires - wires.size) (0 : P2.GL))
          (2 * i))))
        (wires ++ Array.replicate (GateKind.poseidonMds.numWires - wires.size) (0 : P2.GL)) := rfl

/-- what `PoseidonMdsGenerator` does to any row `ws` of full width (it computes every output from
`ws` itself, not from the row written so far) keeps the size and satisfies the gate -/
theorem poseidonMds_fold_spec (consts ws pih : Array P2.GL) (h : 48 ≤ ws.size) :
    ((List.range 12).foldl (fun a i => setAlg a (2 * (12 + i))
      (mdsRowShfAlg i ((Array.range spongeWidth).map fun i => getAlg ws (2 * i)))) ws).size = ws.size ∧
    Sat .poseidonMds ⟨consts, (List.range 12).foldl (fun a i => setAlg a (2 * (12 + i))
      (mdsRowShfAlg i ((Array.range spongeWidth).map fun i => getAlg ws (2 * i)))) ws, pih⟩ := by
  obtain ⟨h1, h2, h3⟩ := foldl_setAlg_spec 12 (fun i => 2 * (12 + i))
    (fun _ i => mdsRowShfAlg i ((Array.range spongeWidth).map fun i => getAlg ws (2 * i))) ws
    (fun i k r s _ _ hr hs e => ((poseidonMds_algOut (K := P2.GL)).inj i k r s hr hs e).1)
    (fun i hi => by omega) (fun _ _ _ _ _ => rfl)
  generalize (List.range 12).foldl (fun a i => setAlg a (2 * (12 + i))
    (mdsRowShfAlg i ((Array.range spongeWidth).map fun i => getAlg ws (2 * i)))) ws = r at h1 h2 h3 ⊢
  refine ⟨h1, poseidonMds_algOut.sat_of_alg _ fun i hi => ?_⟩
  have hv : mdsOut ⟨consts, r, pih⟩ i = mdsOut ⟨consts, ws, pih⟩ i :=
    poseidonMds_algOut.congr ⟨consts, ws, pih⟩ ⟨consts, r, pih⟩ i rfl fun j hj =>
      h3 j fun k _ => ⟨hj k 0 Nat.two_pos, hj k 1 Nat.one_lt_two⟩
  exact ((h2 i hi).trans (mdsRowShfAlg_GL _ _)).trans hv.symm

theorem poseidonMds_generate_spec (consts wires pih : Array P2.GL) :
    (∀ i, i < 12 → 2 * (12 + i) + 1 < (GateKind.poseidonMds.generate consts wires).size) ∧
    Sat .poseidonMds (genRow .poseidonMds consts wires pih) := by
  unfold genRow
  rw [poseidonMds_generate_eq]
  have hpad := size_pad_ge wires 48
  obtain ⟨h1, h2⟩ := poseidonMds_fold_spec consts _ pih hpad
  exact ⟨fun i hi => Nat.lt_of_lt_of_le (by omega) (hpad.trans_eq h1.symm), h2⟩

theorem poseidonMds_mem_generatedWires (k : Nat) (hk : k ∈ GateKind.poseidonMds.generatedWires) :
    ∃ i r, i < 12 ∧ r < 2 ∧ k = 2 * (12 + i) + r := by
  obtain ⟨j, hj, rfl⟩ := List.mem_map.1 hk
  have hj' : j < 24 := List.mem_range.1 hj
  exact ⟨j / 2, j % 2, Nat.div_lt_of_lt_mul hj', Nat.mod_lt _ (by decide),
    by rw [Nat.mul_add, Nat.add_assoc, Nat.div_add_mod]; rfl⟩

end OverGL
end P2.Lemmas.C07
