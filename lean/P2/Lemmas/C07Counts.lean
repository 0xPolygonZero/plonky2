/-
C07, counts: over an ARBITRARY operations record `[FOps K]` and for every row, the model's
evaluator `GateKind.evalUnfiltered` returns exactly `GateKind.numConstraints` constraints — one lemma
per gate kind (`arithmetic`, `constant` and `baseSum` are in `P2/Props/C07.lean`, the statement for all
kinds is `Props.C07.count_all` in `P2/Props/C07b.lean`).  No field structure is needed: only list/array
sizes are tracked, never values.
-/
import P2.Lemmas.C07
import P2.Props.C07  -- the count lemmas for `arithmetic`, `constant`, `baseSum`, which this file continues
set_option linter.unusedSectionVars false
set_option linter.unusedSimpArgs false
set_option linter.unusedVariables false
namespace P2.Lemmas.C07
open P2 P2.Gates

section Generic
variable {α σ : Type}

theorem foldl_measure_const (f : σ → α → σ) (m : σ → Nat) (c : Nat)
    (h : ∀ s a, m (f s a) = m s + c) (l : List α) (s : σ) :
    m (l.foldl f s) = m s + c * l.length := by
  induction l generalizing s with
  | nil => simp
  | cons a l ih => rw [List.foldl_cons, ih, h, List.length_cons]; ring

theorem foldl_measure_sum (f : σ → α → σ) (m : σ → Nat) (c : α → Nat)
    (h : ∀ s a, m (f s a) = m s + c a) (l : List α) (s : σ) :
    m (l.foldl f s) = m s + (l.map c).sum := by
  induction l generalizing s with
  | nil => simp
  | cons a l ih => rw [List.foldl_cons, ih, h, List.map_cons, List.sum_cons]; omega

theorem size_foldl_push {β : Type} (g : Array β → α → β) (l : List α) (cs : Array β) :
    (l.foldl (fun cs a => cs.push (g cs a)) cs).size = cs.size + l.length := by
  have := foldl_measure_const (fun (cs : Array β) a => cs.push (g cs a)) Array.size 1
    (by intro s a; simp) l cs
  simpa using this

end Generic

section Counts
variable {K : Type} [FOps K] [Inhabited K]

theorem length_comps (x : Alg K) : x.comps.length = 2 := rfl

theorem count_arithmeticExt (n : Nat) (v : EvalVars K) :
    ((GateKind.arithmeticExt n).evalUnfiltered v).length =
      (GateKind.arithmeticExt n).numConstraints := by
  simp only [GateKind.evalUnfiltered, evalArithmeticExt, GateKind.numConstraints]
  rw [length_flatMap_const _ 2 (fun _ => rfl), List.length_range, Nat.mul_comm]

theorem count_mulExt (n : Nat) (v : EvalVars K) :
    ((GateKind.mulExt n).evalUnfiltered v).length = (GateKind.mulExt n).numConstraints := by
  simp only [GateKind.evalUnfiltered, evalMulExt, GateKind.numConstraints]
  rw [length_flatMap_const _ 2 (fun _ => rfl), List.length_range, Nat.mul_comm]

theorem count_exponentiation (n : Nat) (v : EvalVars K) :
    ((GateKind.exponentiation n).evalUnfiltered v).length =
      (GateKind.exponentiation n).numConstraints := by
  simp only [GateKind.evalUnfiltered, evalExponentiation, GateKind.numConstraints, List.length_append,
    List.length_map, List.length_range, List.length_cons, List.length_nil]

theorem spongeWidth_eq : spongeWidth = 12 := rfl
theorem halfNFullRounds_eq : halfNFullRounds = 4 := rfl
theorem nPartialRounds_eq : nPartialRounds = 22 := rfl
theorem nFullRoundsTotal_eq : nFullRoundsTotal = 8 := rfl

theorem count_poseidonMds (v : EvalVars K) :
    (GateKind.poseidonMds.evalUnfiltered v).length = GateKind.poseidonMds.numConstraints := by
  simp only [GateKind.evalUnfiltered, evalPoseidonMds, GateKind.numConstraints]
  rw [length_flatMap_const _ 2 (fun _ => rfl), List.length_range, Nat.mul_comm]

theorem count_publicInput (v : EvalVars K) :
    (GateKind.publicInput.evalUnfiltered v).length = GateKind.publicInput.numConstraints := by
  simp only [GateKind.evalUnfiltered, evalPublicInput, GateKind.numConstraints, List.length_map,
    List.length_range]

theorem count_randomAccess (bits copies extra : Nat) (v : EvalVars K) :
    ((GateKind.randomAccess bits copies extra).evalUnfiltered v).length =
      (GateKind.randomAccess bits copies extra).numConstraints := by
  simp only [GateKind.evalUnfiltered, evalRandomAccess, GateKind.numConstraints]
  rw [List.length_append, length_flatMap_const _ (bits + 2) (by intro a; simp)]
  simp [Nat.mul_comm]

theorem count_reducing (n : Nat) (v : EvalVars K) :
    ((GateKind.reducing n).evalUnfiltered v).length = (GateKind.reducing n).numConstraints := by
  simp only [GateKind.evalUnfiltered, evalReducing, GateKind.numConstraints]
  rw [foldl_measure_const _ (fun st : Alg K × List K => st.2.length) 2 (fun _ _ => List.length_append),
    List.length_range]
  exact Nat.zero_add _

theorem count_reducingExt (n : Nat) (v : EvalVars K) :
    ((GateKind.reducingExt n).evalUnfiltered v).length =
      (GateKind.reducingExt n).numConstraints := by
  simp only [GateKind.evalUnfiltered, evalReducingExt, GateKind.numConstraints]
  rw [foldl_measure_const _ (fun st : Alg K × List K => st.2.length) 2 (fun _ _ => List.length_append),
    List.length_range]
  exact Nat.zero_add _

theorem count_cosetInterpolation (bits d : Nat) (ws : List Nat) (v : EvalVars K) :
    ((GateKind.cosetInterpolation bits d ws).evalUnfiltered v).length =
      (GateKind.cosetInterpolation bits d ws).numConstraints := by
  simp only [GateKind.evalUnfiltered, evalCosetInterpolation, GateKind.numConstraints]
  rw [List.length_append, foldl_measure_const _ (fun st : List K × (Alg K × Alg K) => st.1.length) 4
    (fun s a => by rw [List.length_append, List.length_append]; rfl), List.length_range, length_comps,
    length_comps]
  omega

theorem size_posCheckSboxIn (state cs : Array K) (wire : Nat → K) :
    (posCheckSboxIn state cs wire).2.size = cs.size + spongeWidth := by
  simp only [posCheckSboxIn]
  rw [size_foldl_push, List.length_range]

theorem count_poseidon (v : EvalVars K) :
    (GateKind.poseidon.evalUnfiltered v).length = GateKind.poseidon.numConstraints := by
  simp only [GateKind.evalUnfiltered, evalPoseidon, GateKind.numConstraints]
  -- the size of the constraint array, from the last loop of `evalPoseidon` back to the first: the
  -- output loop (one each), the second full rounds (`?h2`: 12 each), the last partial round (one),
  -- the other partial rounds (`?hp`: one each), the first full rounds (`?h1`: 12 each but round 0),
  -- the four delta constraints; what is left is the swap constraint and a sum of numerals
  rw [Array.length_toList, size_foldl_push,
    foldl_measure_const _ (fun st : Array K × Array K => st.2.size) spongeWidth ?h2,
    Array.size_push,
    foldl_measure_const _ (fun st : Array K × Array K => st.2.size) 1 ?hp,
    foldl_measure_sum _ (fun st : Array K × Array K => st.2.size)
      (fun r => if r ≠ 0 then spongeWidth else 0) ?h1,
    size_foldl_push]
  · simp only [List.length_range, spongeWidth_eq, halfNFullRounds_eq, nPartialRounds_eq,
      nFullRoundsTotal_eq]
    rfl
  case h2 =>
    intro s r
    dsimp only
    rw [size_posCheckSboxIn]
  case hp =>
    intro s r
    dsimp only
    rw [Array.size_push]
  case h1 =>
    intro s r
    dsimp only
    by_cases hr : r = 0
    · simp only [hr, ne_eq, not_true_eq_false, if_false, Nat.add_zero]
    · simp only [ne_eq, hr, not_false_eq_true, if_true]
      rw [size_posCheckSboxIn]

/-- `12·7 + 22 + 12 + 1 + 4` -/
theorem poseidon_numConstraints : GateKind.poseidon.numConstraints = 123 := rfl

end Counts

example (v : EvalVars P2.GL) : (GateKind.poseidon.evalUnfiltered v).length = 123 :=
  count_poseidon v

end P2.Lemmas.C07
