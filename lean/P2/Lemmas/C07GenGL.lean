/-
C07 helpers: the model's witness generators (`GateKind.generate`, over `GL`) for the arithmetic,
arithmetic-extension and multiplication-extension gates: what they leave on the row (a row that
satisfies the gate), and C07 on the generated row of any gate with algebra-valued outputs.
-/
import P2.Lemmas.C07On
import P2.Lemmas.C07Simple
namespace P2.Lemmas.C07
open P2 P2.Gates

section OverGL
attribute [local instance] glField

/-- `ArithmeticBaseGenerator`: the size is kept, output column `4i+3` holds the value computed from
the finished row, every other column is the zero-padded input's -/
theorem arithmetic_generate_spec (n : Nat) (consts wires : Array P2.GL) :
    ((GateKind.arithmetic n).generate consts wires).size =
      (wires ++ Array.replicate ((GateKind.arithmetic n).numWires - wires.size) (0 : P2.GL)).size ∧
    (∀ i, i < n → ((GateKind.arithmetic n).generate consts wires)[4 * i + 3]! =
      ((GateKind.arithmetic n).generate consts wires)[4 * i]! *
        ((GateKind.arithmetic n).generate consts wires)[4 * i + 1]! * consts[0]! +
      ((GateKind.arithmetic n).generate consts wires)[4 * i + 2]! * consts[1]!) ∧
    (∀ j, (∀ k, k < n → j ≠ 4 * k + 3) → ((GateKind.arithmetic n).generate consts wires)[j]! =
      (wires ++ Array.replicate ((GateKind.arithmetic n).numWires - wires.size) (0 : P2.GL))[j]!) :=
  let ⟨h1, h2, h3⟩ := foldl_set!_spec n (fun i => 4 * i + 3)
    (fun ws i => ws[4 * i]! * ws[4 * i + 1]! * consts[0]! + ws[4 * i + 2]! * consts[1]!)
    (wires ++ Array.replicate ((GateKind.arithmetic n).numWires - wires.size) (0 : P2.GL))
    (fun i j _ _ h => (block_unique (by decide) (by decide) h).1)
    (fun ws ws' i _ h => by
      have hne : ∀ a, a < 3 → ∀ k, i ≤ k → k < n → 4 * i + a ≠ 4 * k + 3 := fun a ha k _ _ =>
        block_ne i k (Nat.lt_succ_of_lt ha) (by decide) (Nat.ne_of_lt ha)
      rw [h (4 * i) (hne 0 (by decide)), h (4 * i + 1) (hne 1 (by decide)),
        h (4 * i + 2) (hne 2 (by decide))])
  ⟨h1, fun i hi => h2 i hi (Nat.lt_of_lt_of_le (block_lt (by decide) hi)
    (Nat.mul_comm n 4 ▸ size_pad_ge wires _)), h3⟩

theorem arithmetic_generate_inputs (n : Nat) (consts wires : Array P2.GL) (j : Nat)
    (hj : ∀ k, k < n → j ≠ 4 * k + 3) :
    ((GateKind.arithmetic n).generate consts wires)[j]! =
      (wires ++ Array.replicate ((GateKind.arithmetic n).numWires - wires.size) (0 : P2.GL))[j]! :=
  (arithmetic_generate_spec n consts wires).2.2 j hj

/-- a generator that writes, output by output, the value `G` of the row it sees into the output
columns: the finished row still holds the output columns and satisfies the gate -/
theorem AlgOutGate.generate_spec {g : GateKind} {n : Nat} {out : Nat → Nat}
    {G : EvalVars P2.GL → Nat → P2.GL × P2.GL} (h : AlgOutGate g n out G)
    (consts pih ws0 r : Array P2.GL) (hsz : ∀ i, i < n → out i + 1 < ws0.size)
    (hr : r = (List.range n).foldl (fun ws i => setAlg ws (out i) (G ⟨consts, ws, pih⟩ i)) ws0) :
    (∀ i, i < n → out i + 1 < r.size) ∧ Sat g ⟨consts, r, pih⟩ := by
  obtain ⟨h1, h2, -⟩ := foldl_setAlg_spec n out (fun ws i => G ⟨consts, ws, pih⟩ i) ws0
    (fun i k r s _ _ hr hs e => (h.inj i k r s hr hs e).1) hsz
    (fun ws ws' i _ hw => h.congr ⟨consts, ws', pih⟩ ⟨consts, ws, pih⟩ i rfl fun j hj =>
      hw j fun k _ _ => ⟨hj k 0 Nat.two_pos, hj k 1 Nat.one_lt_two⟩)
  rw [← hr] at h1 h2
  exact ⟨fun i hi => (hsz i hi).trans_eq h1.symm, h.sat_of_alg _ h2⟩

/-- C07 on the generated row of a gate with algebra-valued outputs, from the two facts
`generate_spec` gives and the list of generator-written columns -/
theorem AlgOutGate.c07On {g : GateKind} {n : Nat} {out : Nat → Nat}
    {G : EvalVars P2.GL → Nat → P2.GL × P2.GL} (h : AlgOutGate g n out G)
    (consts wires pih : Array P2.GL)
    (hgen : (∀ i, i < n → out i + 1 < (g.generate consts wires).size) ∧
      Sat g (genRow g consts wires pih))
    (hgw : ∀ k ∈ g.generatedWires, ∃ i r, i < n ∧ r < 2 ∧ k = out i + r) :
    C07On g consts wires pih :=
  C07On.intro _ _ _ _ (by rw [evalGL]; exact hgen.2) fun k hk => by
    obtain ⟨i, r, hi, hr, rfl⟩ := hgw k hk
    exact ⟨Nat.lt_of_le_of_lt (Nat.add_le_add_left (Nat.le_of_lt_succ hr) _) (hgen.1 i hi),
      2 * i + r, fun v' hd h0 => h.pinned _ v' i r hi hr hd h0⟩

/-- the generator-written columns of a gate with algebra-valued outputs at offset `o` of blocks of
`s` columns -/
theorem mem_flatMap_pair {n s o k : Nat}
    (hk : k ∈ (List.range n).flatMap fun i => [s * i + o, s * i + (o + 1)]) :
    ∃ i r, i < n ∧ r < 2 ∧ k = s * i + o + r := by
  obtain ⟨i, hi, hk⟩ := List.mem_flatMap.1 hk
  rcases List.mem_pair.1 hk with rfl | rfl
  · exact ⟨i, 0, List.mem_range.1 hi, Nat.two_pos, rfl⟩
  · exact ⟨i, 1, List.mem_range.1 hi, Nat.one_lt_two, rfl⟩

theorem arithmeticExt_generate_spec (n : Nat) (consts wires pih : Array P2.GL) :
    (∀ i, i < n → 8 * i + 6 + 1 < ((GateKind.arithmeticExt n).generate consts wires).size) ∧
    Sat (.arithmeticExt n) (genRow (.arithmeticExt n) consts wires pih) :=
  (arithmeticExt_algOut n).generate_spec consts pih
    (wires ++ Array.replicate ((GateKind.arithmeticExt n).numWires - wires.size) (0 : P2.GL))
    ((GateKind.arithmeticExt n).generate consts wires)
    (fun i hi => Nat.lt_of_lt_of_le (block_lt (s := 8) (b := 6 + 1) (by decide) hi)
      (((Nat.mul_comm 8 n).trans (Nat.mul_assoc n 4 2).symm).le.trans (size_pad_ge wires _))) rfl

theorem mulExt_generate_spec (n : Nat) (consts wires pih : Array P2.GL) :
    (∀ i, i < n → 6 * i + 4 + 1 < ((GateKind.mulExt n).generate consts wires).size) ∧
    Sat (.mulExt n) (genRow (.mulExt n) consts wires pih) :=
  (mulExt_algOut n).generate_spec consts pih
    (wires ++ Array.replicate ((GateKind.mulExt n).numWires - wires.size) (0 : P2.GL))
    ((GateKind.mulExt n).generate consts wires)
    (fun i hi => Nat.lt_of_lt_of_le (block_lt (s := 6) (b := 4 + 1) (by decide) hi)
      (((Nat.mul_comm 6 n).trans (Nat.mul_assoc n 3 2).symm).le.trans (size_pad_ge wires _))) rfl

end OverGL
end P2.Lemmas.C07
