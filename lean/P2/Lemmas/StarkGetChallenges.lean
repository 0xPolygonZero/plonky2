/-
Helper lemmas for C09d, when `get_challenges` (single table) returns: lengths of what `get_dummy_polys`
draws, `compute_eval_vanishing_poly` on the dummy openings, and the α′, ζ′ of the constraint-binding
step. Core Lean only.
-/
import P2.Lemmas.StarkNoPanic2
namespace P2.Lemmas.StarkGetChallenges
open P2 P2.Air P2.Stark P2.Lemmas.Stark P2.Lemmas.StarkNoPanic P2.Lemmas.StarkNoPanic2
open P2.Lemmas.StarkTranscript

theorem getExts_length (s : ChSt) (n : Nat) : (getExts s n).2.length = n :=
  (foldl_length_succ (σ := ChSt × List GL2) (·.2.length) _ (fun _ _ => List.length_append) _ _).trans
    ((Nat.zero_add _).trans List.length_range)

theorem powers_fold_length (pd : Nat) (l : List Nat) (pre : List GL2) (z : GL2) :
    (l.foldl (fun (acc : List GL2 × GL2) _ => (acc.1 ++ [acc.2], FOps.pow acc.2 pd)) (pre, z)).1.length
      = pre.length + l.length :=
  foldl_length_succ (σ := List GL2 × GL2) (·.1.length) _ (fun _ _ => List.length_append) _ _

/-- `get_dummy_polys` draws `⌈total / k⌉` extension challenges and takes `min (k + 1) total` powers of
each: at least the `total` values it slices -/
theorem dummy_count (total k : Nat) (hk : 1 ≤ k) :
    total ≤ ((total + k - 1) / k) * min (k + 1) total := by
  have hq : total ≤ k * ((total + k - 1) / k) := by
    have := Nat.lt_mul_div_succ (total + k - 1) (show 0 < k from hk)
    rw [Nat.mul_succ] at this
    omega
  generalize (total + k - 1) / k = q at hq ⊢
  rcases Nat.le_total total (k + 1) with h | h
  · rw [Nat.min_eq_right h]
    rcases Nat.eq_zero_or_pos q with rfl | hq1
    · exact Nat.le_trans hq (Nat.le_of_eq (Nat.zero_mul _).symm)
    · exact Nat.le_mul_of_pos_left _ hq1
  · rw [Nat.min_eq_left h, Nat.mul_comm]
    exact Nat.le_trans hq (Nat.mul_le_mul_right q (Nat.le_succ k))

theorem computeEvalVanishingPoly_ok (a : Air) (dl dn : List GL2) (da dan : Option (List GL2))
    (lc : Option (List GL)) (ctlVars : Option (List CtlVars)) (pis alphas : List GL) (zeta : GL2) (db nlc : Nat)
    (hcons : ∃ s, consumerAt alphas db zeta = .ok s)
    (hl : dl.length = a.cols) (hn : dn.length = a.cols) (hp : pis.length = a.pis) (hlo : LookupsOK a)
    (hlk : ∀ chs, lc = some chs → sumNh a.degree a.lookups * chs.length ≤ nlc ∧
      ∃ x y, da = some x ∧ dan = some y ∧ nlc ≤ x.length ∧ nlc ≤ y.length)
    (hctl : ∀ cv, ctlVars = some cv → ∀ v ∈ cv, CtlVarsOK a.degree v) :
    ∃ ce, computeEvalVanishingPoly a dl dn da dan lc ctlVars pis alphas zeta db nlc = .ok ce := by
  obtain ⟨s, hs⟩ := hcons
  unfold computeEvalVanishingPoly
  have hf : frameCheck a dl dn pis = .ok () := by unfold frameCheck; rw [if_pos ⟨hl, hn, hp⟩]
  simp only [hs, hf, bind, Except.bind, pure, Except.pure]
  cases lc with
  | none =>
    obtain ⟨van, e, _⟩ := Props.C09d.evalVanishingPoly_some alphas.length a dl dn pis none ctlVars s
      (consumerAt_inv alphas db zeta s hs) (fun _ _ _ h => by cases h) hctl
    rw [e]; exact ⟨van, rfl⟩
  | some chs =>
    obtain ⟨hle, x, y, rfl, rfl, hx, hy⟩ := hlk chs rfl
    simp only [orPanic]
    rw [if_neg (by omega)]
    obtain ⟨van, e, _⟩ := Props.C09d.evalVanishingPoly_some alphas.length a dl dn pis
      (some (x.take nlc, y.take nlc, chs)) ctlVars s
      (consumerAt_inv alphas db zeta s hs)
      (fun la na chs' h => by
        cases h
        refine ⟨hlo, ?_, ?_⟩
        · rw [List.length_take]; omega
        · rw [List.length_take]; omega) hctl
    rw [e]; exact ⟨van, rfl⟩

/-- challenger state of the single-table `get_challenges` right after the α′ are drawn, and the α′ -/
def alphaPrimeDraw (c : Config) (pp : ProofWithPis) : ChSt × List GL :=
  let s0 := obs (Challenger.init perm) pp.publicInputs
  let d := lookupDraw (stage1 s0 c pp.proof false) pp.proof c.numChallenges none
  getN (obsOpt d.1 pp.proof.auxCap) c.numChallenges

/-- the α′ of the constraint-binding step -/
def alphasPrime (c : Config) (pp : ProofWithPis) : List GL := (alphaPrimeDraw c pp).2

/-- the ζ′ of the constraint-binding step (drawn after the dummy ζs) -/
def zetaPrime (a : Air) (c : Config) (pp : ProofWithPis) : GL2 :=
  (getExt (getDummyPolys (alphaPrimeDraw c pp).1 a.cols
    ((pp.proof.openings.auxPolys.map (·.length)).getD 0) (max 2 (a.degree + 1))).1).2

/-- `get_challenges` returns only if the consumer could be set up at ζ′ with the α′ (the converse of
`C09d.getChallenges_returns` in its hypothesis `hcons`) -/
theorem getChallenges_ok_consumerPrime (a : Air) (c : Config) (pp : ProofWithPis) (pad : Option PadParams)
    (ch : Stark.Challenges) (h : getChallenges a c pp pad = .ok ch) :
    ∃ db s, recoverDegreeBits pp.proof c = .ok db ∧
      consumerAt (alphasPrime c pp) db (zetaPrime a c pp) = .ok s := by
  obtain ⟨db, _, _, _, _, ce, hdb, _, _, _, _, hce, _⟩ := (getChallengesFrom_ok_iff _ a c pp pad none none false ch).1 h
  unfold computeEvalVanishingPoly at hce
  obtain ⟨s, hs, _⟩ := (bind_ok_iff _ _ _).1 hce
  exact ⟨db, s, hdb, hs⟩

end P2.Lemmas.StarkGetChallenges
