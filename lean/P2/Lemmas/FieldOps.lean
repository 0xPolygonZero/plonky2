/-
The operations record of a Mathlib field (`FOps.ofField`), through which every field-generic statement
about the model is phrased, and the Goldilocks field `GL = Fin GLP` as a Mathlib field: its executable
operations record `instFOpsGL` is `FOps.ofField GL` (`GL.pow` is `^`, `GL.inv` is `⁻¹`).
-/
import Mathlib.Algebra.Field.Basic
import Mathlib.Algebra.Field.ZMod
import P2.Lemmas.GL1

namespace P2

/-- the operations record of a Mathlib field -/
@[reducible] def FOps.ofField (K : Type) [Field K] [DecidableEq K] : FOps K where
  zero := 0
  one := 1
  ofNat := Nat.cast
  inv := fun x => x⁻¹

end P2

namespace P2.Lemmas.C07
open P2

instance glPrime : Fact (Nat.Prime GLP) := ⟨P2.L0.P_prime_lit⟩

/-- `GL = Fin GLP` is definitionally `ZMod GLP` -/
@[reducible] def glField : Field P2.GL := ZMod.instField GLP

section
attribute [local instance] glField

/-- the executable operations on `GL` are the field operations of `ZMod GLP` (all but `inv`, which
no gate evaluator uses, definitionally) -/
theorem fops_GL_eq : instFOpsGL = { FOps.ofField P2.GL with inv := GL.inv } := rfl

theorem ofNat_GL (n : Nat) : (GL.ofNat n : P2.GL) = (n : P2.GL) := rfl

/-- the model's `GL.pow` loop from state `(acc, base, ex)` over at least `log₂ ex + 1` rounds -/
theorem gl_pow_loop (l : List Nat) (acc base : P2.GL) (ex : Nat) (h : ex < 2 ^ l.length) :
    (forIn (m := Id) l (acc, base, ex) (fun _ s =>
      if s.2.2 % 2 = 1 then ForInStep.yield (s.1 * s.2.1, s.2.1 * s.2.1, s.2.2 / 2)
      else ForInStep.yield (s.1, s.2.1 * s.2.1, s.2.2 / 2))).1 = acc * base ^ ex := by
  induction l generalizing acc base ex with
  | nil =>
    obtain rfl : ex = 0 := Nat.lt_one_iff.1 h
    exact (mul_one acc).symm
  | cons x l ih =>
    have hl : ex / 2 < 2 ^ l.length :=
      Nat.div_lt_of_lt_mul (by rwa [List.length_cons, Nat.pow_succ, Nat.mul_comm] at h)
    have he : base ^ ex = (base * base) ^ (ex / 2) * base ^ (ex % 2) := by
      rw [← pow_two, ← pow_mul, ← pow_add, Nat.div_add_mod]
    rw [List.forIn_cons, he]
    by_cases h1 : ex % 2 = 1
    · rw [if_pos h1]
      refine (ih _ _ _ hl).trans ?_
      rw [h1, pow_one, mul_assoc, mul_comm base]
    · rw [if_neg h1]
      refine (ih _ _ _ hl).trans ?_
      rw [Nat.mod_two_ne_one.1 h1, pow_zero, mul_one]

/-- the model's `GL.pow` (a `for` loop over `log2 e + 1` bits) is the power of `ZMod GLP` -/
theorem gl_pow_eq (b : P2.GL) (e : Nat) : GL.pow b e = b ^ e := by
  unfold GL.pow
  simp only [Id.run, bind, pure, Std.Legacy.Range.forIn_eq_forIn_range']
  have := gl_pow_loop (List.range' 0 (e.log2 + 1) 1) 1 b e (by
    rw [List.length_range']; exact Nat.lt_log2_self)
  have hs : [:e.log2 + 1].size = e.log2 + 1 := by simp [Std.Legacy.Range.size]
  rw [one_mul] at this
  rw [hs]
  exact this

/-- the model's `GL.inv` (Fermat) is the inverse of `ZMod GLP` (`0 ↦ 0`) -/
theorem gl_inv_eq (x : P2.GL) : GL.inv x = x⁻¹ := by
  unfold GL.inv
  rw [gl_pow_eq]
  by_cases h : x = 0
  · subst h
    rw [inv_zero, zero_pow (by norm_num)]
  · have h1 : x ^ (GLP - 1) = 1 := ZMod.pow_card_sub_one_eq_one (p := GLP) h
    apply eq_inv_of_mul_eq_one_left
    rw [← pow_succ]
    exact h1

theorem fops_GL_eq_ofField : instFOpsGL = FOps.ofField P2.GL := by
  rw [fops_GL_eq]
  have : GL.inv = fun x : P2.GL => x⁻¹ := funext gl_inv_eq
  rw [this]
  rfl

end

end P2.Lemmas.C07
