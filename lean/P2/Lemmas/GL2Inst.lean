/-
Helpers for `P2.Props.GL2Inst`: the FRI theorems of C05b instantiated at the model's own `GL2`,
proved under the local instances `glField`, `gl2Field` and stated with the model's functions only
(`GL2.add`, `GL2.mul`, …, `FOps.reduceWithPowers`, `Poly.eval`, `Poly.lagrangeEval`,
`Fri.computeEvaluation`, …), and the model's `FOps.sum` / `FOps.prod` as `Finset` sums / products.
-/
import P2.Lemmas.GL2Field
import P2.Props.C05b

namespace P2.Lemmas.GL2Inst
open P2 P2.Lemmas.C07 P2.Lemmas.GL2Field P2.Lemmas.Alg2 Polynomial

attribute [local instance] glField gl2Field

/-! ## FRI: fold identity -/

theorem getD_range_map {α : Type} (n : ℕ) (f : ℕ → α) (d0 : α) (i : ℕ) (hi : i < n) :
    ((List.range n).map f).getD i d0 = f i :=
  (getD_map_range n f i d0).trans (if_pos hi)

theorem m_polyEval_eq (c : List GL2) (x : GL2) : Poly.eval c x = FOps.reduceWithPowers c x := rfl

theorem m_polyEval (c : List GL2) (x : GL2) : Poly.eval c x = (ofList c).eval x := by
  have := ofList_eval c x
  rw [← fops_GL2_eq] at this
  exact this.symm

theorem m_reduce_map {α : Type} [Inhabited α] (r : ℕ) (Ps : List α) (hlen : Ps.length = r)
    (f : α → GL2) (w : GL2) :
    FOps.reduceWithPowers (Ps.map f) w = ∑ i : Fin r, w ^ (i : ℕ) * f (Ps.getD i default) := by
  subst hlen
  rw [fops_reduceWithPowers_range, List.length_map, ← Fin.sum_univ_eq_sum_range
    (fun i => (Ps.map f).getD i 0 * w ^ i)]
  apply Finset.sum_congr rfl
  intro i _
  rw [mul_comm]
  congr 1
  simp [List.getD_eq_getElem?_getD]

/-- the coefficient lists `Ps` as a family of polynomials -/
noncomputable def polys (r : ℕ) (Ps : List (List GL2)) : Fin r → GL2[X] :=
  fun i => ofList (Ps.getD i [])

theorem m_splitEval (r : ℕ) (Ps : List (List GL2)) (hlen : Ps.length = r) (w : GL2) :
    FOps.reduceWithPowers (Ps.map fun c => Poly.eval c (FOps.pow w r)) w
      = (splitPoly (polys r Ps)).eval w := by
  rw [m_reduce_map r Ps hlen, splitPoly_eval]
  apply Finset.sum_congr rfl
  intro i _
  rw [m_polyEval, fops_pow]
  rfl

theorem m_foldEval (r : ℕ) (Ps : List (List GL2)) (hlen : Ps.length = r) (y β : GL2) :
    FOps.reduceWithPowers (Ps.map fun c => Poly.eval c y) β
      = (foldPoly (polys r Ps) β).eval y := by
  rw [m_reduce_map r Ps hlen, foldPoly_eval]
  apply Finset.sum_congr rfl
  intro i _
  rw [m_polyEval]
  rfl

theorem ofBase_coset (s g : P2.GL) (j : ℕ) :
    GL2.ofBase (s * GL.pow g j) = GL2.ofBase s * GL2.ofBase g ^ j := by
  rw [← ofBase_GLpow]
  exact map_mul ofBaseHom s (GL.pow g j)

/-- C05b `fold_layer_complete` at `K := GL2`, `g := primitive_root_of_unity(a)` embedded, the
polynomials given by coefficient lists and evaluated by the model's `Poly.eval` -/
theorem m_fold_layer_complete (a : ℕ) (ha : a ≤ 32) (s : P2.GL) (hs : s ≠ 0)
    (Ps : List (List GL2)) (hlen : Ps.length = 2 ^ a) (β : GL2) (ev : List GL2)
    (hev : ∀ j, j < 2 ^ a → ev.getD j GL2.zero =
      FOps.reduceWithPowers (Ps.map fun c => Poly.eval c
        (FOps.pow (GL2.ofBase (s * GL.pow (GL.primitiveRoot a) j)) (2 ^ a)))
        (GL2.ofBase (s * GL.pow (GL.primitiveRoot a) j))) :
    Poly.lagrangeEval ((List.range (2 ^ a)).map fun i =>
        (GL2.ofBase (s * GL.pow (GL.primitiveRoot a) i), ev.getD i GL2.zero)) β
      = FOps.reduceWithPowers (Ps.map fun c => Poly.eval c (GL2.ofBase (GL.pow s (2 ^ a)))) β := by
  have hg := ofBase_primitiveRoot_primitive a ha
  have hs' : GL2.ofBase s ≠ 0 := (map_ne_zero ofBaseHom).2 hs
  have h := Props.C05.fold_layer_complete a (GL2.ofBase (GL.primitiveRoot a)) (GL2.ofBase s) hg hs'
    (polys (2 ^ a) Ps) β ev (by
      intro j hj
      rw [← ofBase_coset, ← m_splitEval (2 ^ a) Ps hlen]
      exact hev j hj)
  rw [← fops_GL2_eq] at h
  rw [m_foldEval (2 ^ a) Ps hlen, ofBase_GLpow, ← h]
  congr 1
  apply List.map_congr_left
  intro i _
  rw [ofBase_coset]
  rfl

/-- the value of the split polynomial at a coset point is the folded polynomial at `s^r` when `β`
is that coset point -/
theorem m_split_at_node (a : ℕ) (ha : a ≤ 32) (s : P2.GL) (Ps : List (List GL2)) (j : ℕ) :
    (splitPoly (polys (2 ^ a) Ps)).eval (GL2.ofBase s * GL2.ofBase (GL.primitiveRoot a) ^ j)
      = (foldPoly (polys (2 ^ a) Ps)
          (GL2.ofBase s * GL2.ofBase (GL.primitiveRoot a) ^ j)).eval (GL2.ofBase s ^ 2 ^ a) := by
  have hg := ofBase_primitiveRoot_primitive a ha
  rw [splitPoly_eval_coset _ hg.pow_eq_one, cosetPoly_eval, foldPoly_eval]

theorem m_cosetStart_pow (a : ℕ) (ha : a ≤ 32) (x : P2.GL) (m : ℕ) :
    GL2.ofBase (x * GL.pow (GL.primitiveRoot a) m) ^ 2 ^ a = GL2.ofBase (GL.pow x (2 ^ a)) := by
  have hg := ofBase_primitiveRoot_primitive a ha
  rw [ofBase_coset, coset_pow hg.pow_eq_one, ofBase_GLpow]

/-- the fold identity for the model's `Fri.computeEvaluation`, including its "β is one of the
points" shortcut -/
theorem m_computeEvaluation_fold (ab : ℕ) (hab : ab ≤ 32) (x : P2.GL) (hx : x ≠ 0) (k : ℕ)
    (Ps : List (List GL2)) (hlen : Ps.length = 2 ^ ab) (β : GL2) (evals : List GL2)
    (hev : ∀ j, j < 2 ^ ab → evals.getD (BitRev.bitrev ab j) GL2.zero =
      FOps.reduceWithPowers (Ps.map fun c => Poly.eval c
        (FOps.pow (GL2.ofBase (x * GL.pow (GL.primitiveRoot ab) (2 ^ ab - BitRev.bitrev ab k)
          * GL.pow (GL.primitiveRoot ab) j)) (2 ^ ab)))
        (GL2.ofBase (x * GL.pow (GL.primitiveRoot ab) (2 ^ ab - BitRev.bitrev ab k)
          * GL.pow (GL.primitiveRoot ab) j))) :
    Fri.computeEvaluation x k ab evals β
      = FOps.reduceWithPowers
          (Ps.map fun c => Poly.eval c (GL2.ofBase (GL.pow x (2 ^ ab)))) β := by
  have hgb : (GL.primitiveRoot ab : P2.GL) ≠ 0 := primitiveRoot_ne_zero ab hab
  set s : P2.GL := x * GL.pow (GL.primitiveRoot ab) (2 ^ ab - BitRev.bitrev ab k) with hs
  have hs0 : s ≠ 0 := by
    rw [hs, gl_pow_eq]
    exact mul_ne_zero hx (pow_ne_zero _ hgb)
  set ev : List GL2 := (List.range (2 ^ ab)).map fun i =>
    evals.getD (BitRev.bitrev ab i) GL2.zero
  have hev' : ∀ j, j < 2 ^ ab → ev.getD j GL2.zero =
      FOps.reduceWithPowers (Ps.map fun c => Poly.eval c
        (FOps.pow (GL2.ofBase (s * GL.pow (GL.primitiveRoot ab) j)) (2 ^ ab)))
        (GL2.ofBase (s * GL.pow (GL.primitiveRoot ab) j)) := fun j hj =>
    (getD_range_map (2 ^ ab) _ GL2.zero j hj).trans (hev j hj)
  have hmain := m_fold_layer_complete ab hab s hs0 Ps hlen β ev hev'
  have hspow : GL2.ofBase (GL.pow s (2 ^ ab)) = GL2.ofBase (GL.pow x (2 ^ ab)) := by
    rw [ofBase_GLpow, hs, m_cosetStart_pow ab hab]
  rw [hspow] at hmain
  show (match ((List.range (2 ^ ab)).map fun i =>
          ((GL2.ofBase (s * GL.pow (GL.primitiveRoot ab) i), ev.getD i FOps.zero) : GL2 × GL2)).find?
          (fun pt => pt.1 == β) with
        | some pt => pt.2
        | none => Poly.lagrangeEval ((List.range (2 ^ ab)).map fun i =>
          ((GL2.ofBase (s * GL.pow (GL.primitiveRoot ab) i), ev.getD i FOps.zero) : GL2 × GL2)) β) = _
  split
  · next pt hfind =>
    have h1 := List.find?_some hfind
    have h2 := List.mem_of_find?_eq_some hfind
    rw [beq_eq, decide_eq_true_eq] at h1
    obtain ⟨j, hj, rfl⟩ := List.mem_map.1 h2
    rw [List.mem_range] at hj
    simp only at h1 ⊢
    rw [m_foldEval (2 ^ ab) Ps hlen, ← hspow, ofBase_GLpow, ← h1, ofBase_coset s _ j,
      ← m_split_at_node ab hab s Ps j, ← ofBase_coset s _ j, ← m_splitEval (2 ^ ab) Ps hlen]
    exact hev' j hj
  · exact hmain

/-! ## FRI: the fold in coefficient form -/

/-- the strided parts of a coefficient list: `P_i = Σ_{m<d} c[i + r·m]·Y^m`, `i < r` -/
def strided (r d : ℕ) (c : List GL2) : List (List GL2) :=
  (List.range r).map fun i => (List.range d).map fun m => c.getD (i + r * m) GL2.zero

theorem strided_length (r d : ℕ) (c : List GL2) : (strided r d c).length = r := by
  rw [strided, List.length_map, List.length_range]

theorem ofList_range_map (d : ℕ) (f : ℕ → GL2) :
    ofList ((List.range d).map f) = ∑ k : Fin d, C (f k) * X ^ (k : ℕ) := by
  ext m
  rw [ofList_coeff, finsetSum_coeff]
  refine Eq.trans ?_ (Fin.sum_univ_eq_sum_range (fun k => (C (f k) * X ^ k).coeff m) d).symm
  simp only [coeff_C_mul_X_pow]
  rw [Finset.sum_ite_eq]
  split
  · next h => exact getD_range_map d f 0 m (Finset.mem_range.1 h)
  · next h =>
    exact List.getD_eq_default _ _ (by
      rw [List.length_map, List.length_range]
      exact Nat.le_of_not_lt fun h' => h (Finset.mem_range.2 h'))

theorem splitPoly_strided (r d : ℕ) (c : List GL2) (hd : 0 < d) (hr : 0 < r)
    (hc : c.length ≤ d * r) : splitPoly (polys r (strided r d c)) = ofList c := by
  have hlt : (ofList c).natDegree < d * r := by
    by_cases h0 : ofList c = 0
    · rw [h0, natDegree_zero]; exact Nat.mul_pos hd hr
    · rw [natDegree_lt_iff_degree_lt h0]
      exact lt_of_lt_of_le (ofList_degree_lt c) (by exact_mod_cast hc)
  have hpolys : polys r (strided r d c)
      = fun i : Fin r => ∑ k : Fin d, C ((ofList c).coeff ((i : ℕ) + r * k)) * X ^ (k : ℕ) := by
    funext i
    unfold polys strided
    rw [getD_range_map r _ [] i i.2, ofList_range_map]
    apply Finset.sum_congr rfl
    intro k _
    rw [ofList_coeff]
    rfl
  rw [hpolys]
  exact splitPoly_of_coeff (ofList c) d r hlt

/-- `Σ_i w^i · P_i(w^r) = P(w)` for the strided parts, on the model's functions -/
theorem m_strided_split (r d : ℕ) (c : List GL2) (hd : 0 < d) (hr : 0 < r)
    (hc : c.length ≤ d * r) (w : GL2) :
    FOps.reduceWithPowers ((strided r d c).map fun p => Poly.eval p (FOps.pow w r)) w
      = Poly.eval c w := by
  rw [m_splitEval r _ (strided_length r d c), splitPoly_strided r d c hd hr hc, m_polyEval]

theorem m_reduce_range_map (n : ℕ) (f : ℕ → GL2) (w : GL2) :
    FOps.reduceWithPowers ((List.range n).map f) w = ∑ i ∈ Finset.range n, f i * w ^ i := by
  rw [fops_reduceWithPowers_range, List.length_map, List.length_range]
  exact Finset.sum_congr rfl fun i hi => by rw [getD_range_map n f 0 i (Finset.mem_range.1 hi)]

/-- the prover's fold in coefficient form: coefficient `m` of `Σ_i β^i P_i` is
`reduce_with_powers` of the `m`-th chunk of `r` coefficients at `β`; both sides are the double sum
`Σ_i Σ_m c[i + r·m]·β^i·y^m` -/
theorem m_strided_fold (r d : ℕ) (c : List GL2) (y β : GL2) :
    FOps.reduceWithPowers ((strided r d c).map fun p => Poly.eval p y) β
      = Poly.eval ((List.range d).map fun m =>
          FOps.reduceWithPowers ((List.range r).map fun i => c.getD (i + r * m) GL2.zero) β) y := by
  simp only [strided, List.map_map, Function.comp_def, m_polyEval_eq, m_reduce_range_map,
    Finset.sum_mul]
  rw [Finset.sum_comm]
  exact Finset.sum_congr rfl fun m _ => Finset.sum_congr rfl fun i _ => mul_right_comm _ _ _

/-! ## FRI: combining openings -/

theorem m_combine_identity_lists (cs : List (List GL2)) (α z x : GL2) (hx : x ≠ z) :
    GL2.mul (GL2.sub (Fri.reduceExt (cs.map fun c => Poly.eval c x) α)
        (Fri.reduceExt (cs.map fun c => Poly.eval c z) α)) (GL2.inv (GL2.sub x z))
      = Fri.reduceExt (cs.map fun c => Poly.eval (Poly.divideByLinear c z) x) α := by
  have h := Props.C05.combine_identity_lists cs α z x hx
  rw [← fops_GL2_eq] at h
  exact h

/-- C05b `combine_soundness` at `K := GL2`, the polynomials given by coefficient lists; divisibility
of the batched numerator by `X − z` is expressed by its value at `z` -/
theorem m_combine_soundness (cs : List (List GL2)) (vs : List GL2) (hlen : vs.length = cs.length)
    (z : GL2) (hbad : ∃ k, k < cs.length ∧ vs.getD k GL2.zero ≠ Poly.eval (cs.getD k []) z)
    (A : Finset GL2)
    (hA : ∀ α ∈ A, Fri.reduceExt (cs.map fun c => Poly.eval c z) α = Fri.reduceExt vs α) :
    A.card ≤ cs.length - 1 := by
  apply Props.C05.combine_soundness cs.length (fun k => ofList (cs.getD k []))
    (fun k => vs.getD k 0) z
  · obtain ⟨k, hk, hne⟩ := hbad
    exact ⟨k, hk, by rw [← m_polyEval]; exact hne⟩
  · intro α hα
    have h : FOps.reduceWithPowers (cs.map fun c => Poly.eval c z) α = FOps.reduceWithPowers vs α :=
      hA α hα
    rw [m_reduce_map cs.length cs rfl, fops_reduceWithPowers_range vs α, hlen,
      Fin.sum_univ_eq_sum_range (fun i => α ^ i * Poly.eval (cs.getD i default) z)] at h
    rw [dvd_iff_isRoot, IsRoot.def, eval_finsetSum]
    simp only [eval_mul, eval_C, eval_sub, ← m_polyEval, mul_sub, Finset.sum_sub_distrib]
    exact sub_eq_zero.2 (h.trans (Finset.sum_congr rfl fun _ _ => mul_comm _ _))

/-- … in the quotient form: if for every `α ∈ A` some coefficient list `q` is a quotient of the
batched numerator by `X − z` (as functions), the same bound holds -/
theorem m_combine_soundness_quotient (cs : List (List GL2)) (vs : List GL2)
    (hlen : vs.length = cs.length) (z : GL2)
    (hbad : ∃ k, k < cs.length ∧ vs.getD k GL2.zero ≠ Poly.eval (cs.getD k []) z)
    (A : Finset GL2)
    (hA : ∀ α ∈ A, ∃ q : List GL2, ∀ x : GL2,
      GL2.sub (Fri.reduceExt (cs.map fun c => Poly.eval c x) α) (Fri.reduceExt vs α)
        = GL2.mul (Poly.eval q x) (GL2.sub x z)) :
    A.card ≤ cs.length - 1 := by
  apply m_combine_soundness cs vs hlen z hbad A
  intro α hα
  obtain ⟨q, hq⟩ := hA α hα
  have h := hq z
  rw [sub_def, sub_def, mul_def, sub_self, mul_zero, sub_eq_zero] at h
  exact h

/-! ## sums and products of the model (`FOps.sum`, `FOps.prod` are left folds) -/

theorem m_fops_sum (xs : List GL2) : FOps.sum xs = xs.sum := (List.sum_eq_foldl (xs := xs)).symm
theorem m_fops_prod (xs : List GL2) : FOps.prod xs = xs.prod := (List.prod_eq_foldl (xs := xs)).symm

theorem m_sum_range (n : ℕ) (d : ℕ → GL2) :
    FOps.sum ((List.range n).map d) = ∑ r ∈ Finset.range n, d r := by
  rw [m_fops_sum]
  induction n with
  | zero => rfl
  | succ n ih => rw [Finset.sum_range_succ, ← ih, List.range_succ, List.map_append, List.sum_append]; simp

theorem m_prod_range (n : ℕ) (d : ℕ → GL2) :
    FOps.prod ((List.range n).map d) = ∏ r ∈ Finset.range n, d r := by
  rw [m_fops_prod]
  induction n with
  | zero => rfl
  | succ n ih => rw [Finset.prod_range_succ, ← ih, List.range_succ, List.map_append, List.prod_append]; simp

end P2.Lemmas.GL2Inst
