/-
Number-theoretic helpers: primality of `P` (Lucas), Fermat, and the exponentiation chains.
-/
import Mathlib.NumberTheory.LucasPrimality
import Mathlib.FieldTheory.Finite.Basic
import Mathlib.Tactic.Ring
import Mathlib.Tactic.NormNum.Prime
import P2.Lemmas.GL0
import P2.Props.C14Gen

namespace P2.L0
open Lit
open P2.Props.C14Gen (powModAux)

/-- `a ^ e % m` for `e < 2^64` by the square-and-multiply loop of `P2.Props.C14Gen` -/
def powMod (a e m : Nat) : Nat := powModAux 64 a e m 1 % m

theorem pow_eq_sq_pow_half (a e : ℕ) : a ^ e = (a * a) ^ (e / 2) * a ^ (e % 2) := by
  rw [← pow_two, ← pow_mul, ← pow_add, Nat.div_add_mod]

theorem powModAux_spec (m : ℕ) :
    ∀ (fuel a e acc : ℕ), e < 2 ^ fuel → powModAux fuel a e m acc ≡ acc * a ^ e [MOD m]
  | 0, a, e, acc, h => by
    rw [Nat.lt_one_iff.1 h, powModAux, pow_zero, mul_one]
  | fuel + 1, a, e, acc, h => by
    rw [powModAux]
    by_cases h0 : e = 0
    · rw [if_pos h0, h0, pow_zero, mul_one]
    · rw [if_neg h0, pow_eq_sq_pow_half a e]
      refine (powModAux_spec m fuel _ _ _ (by rw [pow_succ] at h; omega)).trans ?_
      rcases Nat.mod_two_eq_zero_or_one e with h1 | h1
      · rw [h1, if_neg (by decide), pow_zero, mul_one]
        exact (Nat.ModEq.refl _).mul ((Nat.mod_modEq _ _).pow _)
      · rw [h1, if_pos rfl, pow_one, mul_comm ((a * a) ^ (e / 2)) a, ← mul_assoc]
        exact (Nat.mod_modEq _ _).mul ((Nat.mod_modEq _ _).pow _)

theorem powMod_eq (a e m : ℕ) (he : e < 2 ^ 64) : a ^ e % m = powMod a e m := by
  have h := powModAux_spec m 64 a e 1 he
  rw [one_mul] at h
  exact h.symm

theorem seven_pow_eq_one_iff (e v : ℕ) (he : e < 2 ^ 64) (h : powMod 7 e Pl = v) :
    ((7 : ZMod Pl) ^ e = 1) ↔ v = 1 % Pl := by
  have h1 : ((7 : ZMod Pl) ^ e = 1) ↔ (((7 ^ e : ℕ) : ZMod Pl) = ((1 : ℕ) : ZMod Pl)) := by
    push_cast
    exact Iff.rfl
  rw [h1, ZMod.natCast_eq_natCast_iff', powMod_eq _ _ _ he, h]

theorem prime_dvd_P_sub_one {q : ℕ} (hq : q.Prime)
    (h : q ∣ 2 ^ 32 * 3 * 5 * 17 * 257 * 65537) :
    q = 2 ∨ q = 3 ∨ q = 5 ∨ q = 17 ∨ q = 257 ∨ q = 65537 := by
  have e : ∀ {r : ℕ}, r.Prime → q ∣ r → q = r := fun hr => (Nat.prime_dvd_prime_iff_eq hq hr).1
  simp only [hq.dvd_mul] at h
  rcases h with ((((h | h) | h) | h) | h) | h
  · exact .inl (e (by norm_num) (hq.dvd_of_dvd_pow h))
  · exact .inr (.inl (e (by norm_num) h))
  · exact .inr (.inr (.inl (e (by norm_num) h)))
  · exact .inr (.inr (.inr (.inl (e (by norm_num) h))))
  · exact .inr (.inr (.inr (.inr (.inl (e (by norm_num) h)))))
  · exact .inr (.inr (.inr (.inr (.inr (e (by norm_num) h)))))

theorem P_prime_lit : Nat.Prime Pl := by
  refine lucas_primality Pl (7 : ZMod Pl) ?_ fun q hq hdvd => ?_
  · exact (seven_pow_eq_one_iff (Pl - 1) 1 (by norm_num) (by decide +kernel)).2 (by norm_num)
  · rw [show (Pl - 1 : ℕ) = 2 ^ 32 * 3 * 5 * 17 * 257 * 65537 by norm_num] at hdvd
    -- `7 ^ ((P - 1) / q)` for each prime factor `q`, evaluated by the kernel
    rcases prime_dvd_P_sub_one hq hdvd with rfl | rfl | rfl | rfl | rfl | rfl
    · exact fun hc => absurd ((seven_pow_eq_one_iff ((Pl - 1) / 2) 18446744069414584320 (by norm_num)
        (by decide +kernel)).1 hc) (by norm_num)
    · exact fun hc => absurd ((seven_pow_eq_one_iff ((Pl - 1) / 3) 18446744065119617025 (by norm_num)
        (by decide +kernel)).1 hc) (by norm_num)
    · exact fun hc => absurd ((seven_pow_eq_one_iff ((Pl - 1) / 5) 1373043270956696022 (by norm_num)
        (by decide +kernel)).1 hc) (by norm_num)
    · exact fun hc => absurd ((seven_pow_eq_one_iff ((Pl - 1) / 17) 16301593560560007290 (by norm_num)
        (by decide +kernel)).1 hc) (by norm_num)
    · exact fun hc => absurd ((seven_pow_eq_one_iff ((Pl - 1) / 257) 995085315851368103 (by norm_num)
        (by decide +kernel)).1 hc) (by norm_num)
    · exact fun hc => absurd ((seven_pow_eq_one_iff ((Pl - 1) / 65537) 8478886009461009681 (by norm_num)
        (by decide +kernel)).1 hc) (by norm_num)

theorem fermat_lit (a : ℕ) (ha : a % Pl ≠ 0) : a ^ (Pl - 1) % Pl = 1 := by
  have : Fact (Nat.Prime Pl) := ⟨P_prime_lit⟩
  have h0 : (a : ZMod Pl) ≠ 0 := by
    rw [Ne, ZMod.natCast_eq_zero_iff]
    exact fun h => ha (Nat.mod_eq_zero_of_dvd h)
  have h1 := ZMod.pow_card_sub_one_eq_one h0
  have h2 : ((a ^ (Pl - 1) : ℕ) : ZMod Pl) = ((1 : ℕ) : ZMod Pl) := by
    push_cast
    exact h1
  rw [ZMod.natCast_eq_natCast_iff'] at h2
  rw [h2]

theorem expPow2_good : ∀ (k a x : ℕ), a < Wl → a % Pl = x % Pl → Good (expPow2 a k) (x ^ 2 ^ k)
  | 0, a, x, ha, hx => by
    rw [expPow2]
    exact good_mk ha (by rw [pow_zero, pow_one]; exact hx)
  | k + 1, a, x, ha, hx => by
    rw [expPow2]
    refine (glSquare_good' ha hx).bind fun v hv hm => ?_
    refine (expPow2_good k v (x * x) hv hm).congr ?_
    congr 1
    ring

theorem expU64Loop_good : ∀ (k power cur prod : ℕ) (t : Bool) (x y : ℕ),
    cur < Wl → prod < Wl → cur % Pl = x % Pl → prod % Pl = y % Pl → power < 2 ^ k →
    (expU64Loop k power cur prod t).trap = t ∧ (expU64Loop k power cur prod t).val < Wl ∧
      (expU64Loop k power cur prod t).val % Pl = (y * x ^ power) % Pl
  | 0, power, cur, prod, t, x, y, _, hp, _, hy, hpow => by
    rw [Nat.lt_one_iff.1 hpow, expU64Loop, pow_zero, mul_one]
    exact ⟨rfl, hp, hy⟩
  | k + 1, power, cur, prod, t, x, y, hc, hp, hx, hy, hpow => by
    rw [expU64Loop, pow_eq_sq_pow_half x power]
    have he : power / 2 < 2 ^ k := by rw [pow_succ] at hpow; omega
    obtain ⟨c1, c2, c3⟩ := glSquare_good' hc hx
    rcases Nat.mod_two_eq_zero_or_one power with h1 | h1
    · rw [h1, if_neg (by decide), c1, Bool.or_false, Bool.or_false, pow_zero, mul_one]
      exact expU64Loop_good k (power / 2) _ _ t (x * x) y c2 hp c3 hy he
    · obtain ⟨p1, p2, p3⟩ := glMul_good' hp hc hy hx
      rw [h1, if_pos rfl, c1, p1, Bool.or_false, Bool.or_false, pow_one,
        mul_comm ((x * x) ^ (power / 2)) x, ← mul_assoc]
      exact expU64Loop_good k (power / 2) _ _ t (x * x) (y * x) c2 p2 c3 p3 he

theorem lt_two_pow_bitsU64 (e : ℕ) : e < 2 ^ bitsU64 e := by
  unfold bitsU64
  by_cases h : e = 0
  · subst h; simp
  · rw [if_neg h]
    exact Nat.lt_log2_self

theorem expU64_good (a e : ℕ) (ha : a < Wl) : Good (expU64 a e) (a ^ e) := by
  obtain ⟨r1, r2, r3⟩ := expU64Loop_good (bitsU64 e) e a 1 false a 1 ha (by norm_num) rfl rfl
    (lt_two_pow_bitsU64 e)
  exact ⟨r1, r2, by rw [one_mul] at r3; exact r3⟩

def PowOf (a v e : ℕ) : Prop := v < Wl ∧ v % Pl = a ^ e % Pl

theorem Good.bindPow {r : Res} {f : Nat → Res} {a e y : ℕ} (hr : Good r (a ^ e))
    (hf : ∀ v, PowOf a v e → Good (f v) y) : Good (r.bind f) y :=
  hr.bind fun v h1 h2 => hf v ⟨h1, h2⟩

theorem glSquare_pow {a v e : ℕ} (h : PowOf a v e) : Good (glSquare v) (a ^ (2 * e)) :=
  (glSquare_good' h.1 h.2).congr (by congr 1; ring)

theorem glMul_pow {a v w e f : ℕ} (h : PowOf a v e) (h' : PowOf a w f) :
    Good (glMul v w) (a ^ (e + f)) :=
  (glMul_good' h.1 h'.1 h.2 h'.2).congr (by congr 1; ring)

theorem expAcc_pow {a v w e f : ℕ} (n : ℕ) (h : PowOf a v e) (h' : PowOf a w f) :
    Good (expAcc n v w) (a ^ (e * 2 ^ n + f)) := by
  unfold expAcc
  refine (expPow2_good n v (a ^ e) h.1 h.2).bind fun s hs hm => ?_
  exact (glMul_good' hs h'.1 hm h'.2).congr (by congr 1; ring)

theorem tryInverse_chain_good (a : ℕ) (ha : a < Wl) :
    ∃ r, (toCanonical a ≠ 0 → tryInverse a = some r) ∧ Good r (a ^ (Pl - 2)) := by
  have h0 : PowOf a a 1 := ⟨ha, by rw [pow_one]⟩
  have key : ∃ E : ℕ, Good
      ((glSquare a).bind fun sq => (glMul sq a).bind fun t2 =>
        (glSquare t2).bind fun sq2 => (glMul sq2 a).bind fun t3 =>
        (expAcc 3 t3 t3).bind fun t6 =>
        (expAcc 6 t6 t6).bind fun t12 =>
        (expAcc 12 t12 t12).bind fun t24 =>
        (expAcc 6 t24 t6).bind fun t30 =>
        (glSquare t30).bind fun sq30 => (glMul sq30 a).bind fun t31 =>
        (expAcc 32 t31 t31).bind fun t63 =>
        (glSquare t63).bind fun sq63 => glMul sq63 a) (a ^ E) ∧ E = Pl - 2 := by
    -- the exponent is left open: every step of the chain fixes its part of it by unification,
    -- and `norm_num` checks the total afterwards
    refine ⟨?E, ?_, ?_⟩
    case refine_1 =>
      refine (glSquare_pow h0).bindPow fun sq hsq => ?_
      refine (glMul_pow hsq h0).bindPow fun t2 ht2 => ?_
      refine (glSquare_pow ht2).bindPow fun sq2 hsq2 => ?_
      refine (glMul_pow hsq2 h0).bindPow fun t3 ht3 => ?_
      refine (expAcc_pow 3 ht3 ht3).bindPow fun t6 ht6 => ?_
      refine (expAcc_pow 6 ht6 ht6).bindPow fun t12 ht12 => ?_
      refine (expAcc_pow 12 ht12 ht12).bindPow fun t24 ht24 => ?_
      refine (expAcc_pow 6 ht24 ht6).bindPow fun t30 ht30 => ?_
      refine (glSquare_pow ht30).bindPow fun sq30 hsq30 => ?_
      refine (glMul_pow hsq30 h0).bindPow fun t31 ht31 => ?_
      refine (expAcc_pow 32 ht31 ht31).bindPow fun t63 ht63 => ?_
      refine (glSquare_pow ht63).bindPow fun sq63 hsq63 => ?_
      exact glMul_pow hsq63 h0
    · norm_num
  obtain ⟨E, hg, hE⟩ := key
  subst hE
  refine ⟨_, fun hne => ?_, hg⟩
  rw [tryInverse, if_neg hne]

theorem tryInverse_good (a : ℕ) (ha : a < Wl) :
    (a % Pl = 0 → tryInverse a = none) ∧
    (a % Pl ≠ 0 → ∃ r, tryInverse a = some r ∧ r.trap = false ∧ r.val < Wl ∧
      (r.val * a) % Pl = 1) := by
  constructor
  · intro h
    rw [tryInverse, toCanonical_eq a ha, if_pos h]
  · intro h
    obtain ⟨r, hr, g1, g2, g3⟩ := tryInverse_chain_good a ha
    refine ⟨r, hr (by rw [toCanonical_eq a ha]; exact h), g1, g2, ?_⟩
    have e : (Pl - 2 + 1 : ℕ) = Pl - 1 := by norm_num
    rw [Nat.mul_mod, g3, ← Nat.mul_mod, ← pow_succ, e]
    exact fermat_lit a h

end P2.L0
