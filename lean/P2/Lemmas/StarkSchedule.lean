/-
For C09c: the Fiat–Shamir transcript of `Stark.getChallenges` as a history of
challenger operations (`Challenger.Op`), so that the C04 theorems (causality, state dependence)
apply to it. Imports `P2.Lemmas.C04` (which depends on Mathlib): write `P2.GL`.
-/
import P2.Lemmas.C04
import P2.Lemmas.StarkTranscript
namespace P2.Lemmas.StarkSchedule
open P2 P2.Stark P2.Challenger P2.Lemmas.C04 P2.Lemmas.C13 P2.Lemmas.StarkTranscript

theorem runFrom_nil (s : St) : runFrom Stark.perm s [] = (s, []) := rfl

theorem runFrom_get (s : St) (n : Nat) : runFrom Stark.perm s [.get n] = Stark.getN s n := by
  simp [runFrom, stepN, Stark.getN]

theorem runFrom_cons_obs (s : St) (xs : List P2.GL) (ops : List Op) :
    runFrom Stark.perm s (.obs xs :: ops) = runFrom Stark.perm (obs s xs) ops := rfl

theorem runFrom_cons_get (s : St) (n : Nat) (ops : List Op) :
    runFrom Stark.perm s (.get n :: ops) =
      ((runFrom Stark.perm (Stark.getN s n).1 ops).1,
       (Stark.getN s n).2 ++ (runFrom Stark.perm (Stark.getN s n).1 ops).2) := by
  rw [← runFrom_get]
  exact runFrom_append Stark.perm s [.get n] ops

theorem runFrom_append_state (s : St) (a b : List Op) :
    (runFrom Stark.perm s (a ++ b)).1 = (runFrom Stark.perm (runFrom Stark.perm s a).1 b).1 := by
  rw [runFrom_append]

theorem getExts_fold (l : List Nat) (s : St) (pre : List GL2) :
    (l.foldl (fun (acc : ChSt × List GL2) _ => let (s, x) := getExt acc.1; (s, acc.2 ++ [x])) (s, pre)).1
      = (runFrom Stark.perm s (List.replicate l.length (.get 2))).1 := by
  induction l generalizing s pre with
  | nil => rfl
  | cons x t ih =>
    rw [List.foldl_cons, List.length_cons, List.replicate_succ, runFrom_cons_get, ih]
    rfl

theorem getExts_state (s : St) (k : Nat) :
    (getExts s k).1 = (runFrom Stark.perm s (List.replicate k (.get 2))).1 := by
  rw [getExts, getExts_fold, List.length_range]

/-- number of extension challenges `get_dummy_polys` draws -/
def dummyZetaCount (a : Air.Air) (p : Stark.Proof) : Nat :=
  let numAux := (p.openings.auxPolys.map (·.length)).getD 0
  let numExtPowers := max 1 (50 / log2Ceil (max 2 (a.degree + 1)) - 1)
  (a.cols * 2 + numAux * 2 + numExtPowers - 1) / numExtPowers

theorem getDummyPolys_state (s : St) (a : Air.Air) (p : Stark.Proof) :
    (getDummyPolys s a.cols ((p.openings.auxPolys.map (·.length)).getD 0) (max 2 (a.degree + 1))).1
      = (runFrom Stark.perm s (List.replicate (dummyZetaCount a p) (.get 2))).1 := by
  rw [← getExts_state, getDummyPolys]
  dsimp only
  rw [apply_ite Prod.fst]
  exact ite_self _

/-- operations of `get_challenges` up to and including ζ′ (`k` dummy ζs) -/
def headOps (c : Config) (p : Stark.Proof) (shared : Option (List (P2.GL × P2.GL))) (ign : Bool) (k : Nat) :
    List Op :=
  [Op.obs c.observed] ++ (if ign then [] else [Op.obs (flattenCap p.traceCap)]) ++
  (match shared with
   | some _ => []
   | none => match p.auxCap with
     | none => []
     | some _ => [Op.get (2 * c.numChallenges)]) ++
  (match p.auxCap with
   | some cap => [Op.obs (flattenCap cap)]
   | none => []) ++
  [Op.get c.numChallenges] ++ List.replicate k (Op.get 2) ++ [Op.get 2]

/-- a cap is observed iff the proof has it -/
def capOps : Option (List Merkle.Digest) → List Op
  | some cap => [Op.obs (flattenCap cap)]
  | none => []

/-- the lookup challenges are drawn iff none are handed in and the proof has an auxiliary cap -/
def lookupOps (p : Stark.Proof) (n : Nat) : Option (List (P2.GL × P2.GL)) → List Op
  | some _ => []
  | none => match p.auxCap with
    | none => []
    | some _ => [Op.get (2 * n)]

/-- `headOps` in named pieces (its own `match`es are anonymous, so no lemma can mention them) -/
theorem headOps_eq (c : Config) (p : Stark.Proof) (shared : Option (List (P2.GL × P2.GL))) (ign : Bool)
    (k : Nat) :
    headOps c p shared ign k =
      [Op.obs c.observed] ++ (if ign then [] else [Op.obs (flattenCap p.traceCap)]) ++
      lookupOps p c.numChallenges shared ++ capOps p.auxCap ++
      [Op.get c.numChallenges] ++ List.replicate k (Op.get 2) ++ [Op.get 2] := by
  unfold headOps lookupOps
  cases shared <;> cases p.auxCap <;> rfl

/-- operations from the dummy constraint evaluations to the openings -/
def tailOps (c : Config) (p : Stark.Proof) (ce : List GL2) : List Op :=
  [Op.obs (flattenExt ce), Op.get c.numChallenges] ++ capOps p.quotientCap ++
  [Op.get 2, Op.obs (p.openings.toFriOpenings.flatMap flattenExt)]

theorem stage1_eq (s : St) (c : Config) (p : Stark.Proof) (ign : Bool) :
    stage1 s c p ign = (runFrom Stark.perm (runFrom Stark.perm s [Op.obs c.observed]).1
      (if ign then [] else [Op.obs (flattenCap p.traceCap)])).1 := by
  cases ign <;> simp only [stage1, runFrom_cons_obs, runFrom_nil, Bool.false_eq_true, if_false, if_true]

theorem lookupDraw_state (s : St) (p : Stark.Proof) (n : Nat) (shared : Option (List (P2.GL × P2.GL))) :
    (lookupDraw s p n shared).1 = (runFrom Stark.perm s (lookupOps p n shared)).1 := by
  unfold lookupDraw lookupOps
  cases shared with
  | some sh => rfl
  | none =>
    cases p.auxCap with
    | none => rfl
    | some cap => exact congrArg Prod.fst (runFrom_get s (2 * n)).symm

theorem obsOpt_eq (s : St) (cap : Option (List Merkle.Digest)) :
    obsOpt s cap = (runFrom Stark.perm s (capOps cap)).1 := by
  cases cap <;> rfl

theorem midState_eq (s : St) (a : Air.Air) (c : Config) (p : Stark.Proof)
    (shared : Option (List (P2.GL × P2.GL))) (ign : Bool) :
    midState s a c p shared ign = (runFrom Stark.perm s (headOps c p shared ign (dummyZetaCount a p))).1 := by
  -- the seven pieces of `headOps_eq` are the stages of `midState`: split the run at the six `++`;
  -- from the last piece back, the single `get`s are `getExt` and `getN` (`runFrom_get`), the replicated
  -- `get 2` is `getDummyPolys`, then come `obsOpt`, `lookupDraw` and (the first two pieces) `stage1`
  rw [headOps_eq, runFrom_append_state, runFrom_append_state, runFrom_append_state, runFrom_append_state,
    runFrom_append_state, runFrom_append_state, runFrom_get, runFrom_get,
    ← getDummyPolys_state, ← obsOpt_eq, ← lookupDraw_state, ← stage1_eq]
  rfl

theorem tailFrom_eq (s : St) (ce : List GL2) (ls : Option (List (P2.GL × P2.GL))) (c : Config)
    (p : Stark.Proof) (db : Nat) (pad : Option PadParams) :
    tailFrom s ce ls c p db pad =
      ⟨ls, ((runFrom Stark.perm s (tailOps c p ce)).2).take c.numChallenges,
        mkExt (((runFrom Stark.perm s (tailOps c p ce)).2).drop c.numChallenges),
        friChallenges (runFrom Stark.perm s (tailOps c p ce)).1 p.openingProof db c.fri pad⟩ := by
  have hl := StarkTranscript.getN_length (obs s (flattenExt ce)) c.numChallenges
  unfold tailFrom tailOps
  cases hq : p.quotientCap <;>
    simp only [obsOpt, capOps, getExt, List.cons_append, List.nil_append, List.append_nil, runFrom_cons_obs,
      runFrom_cons_get, runFrom_nil, List.take_left' hl, List.drop_left' hl]

/-- everything a schedule absorbs, in order (`P2.Props.C04.observed`) -/
abbrev observed := P2.Props.C04.observed

theorem observed_replicate_get (k n : Nat) : observed (List.replicate k (Op.get n)) = [] := by
  induction k with
  | zero => rfl
  | succ k ih => exact ih

theorem observed_capOps (cap : Option (List Merkle.Digest)) :
    observed (capOps cap) = flattenCap (cap.getD []) := by
  cases cap with
  | none => rfl
  | some cap => exact List.append_nil _

theorem observed_lookupOps (p : Stark.Proof) (n : Nat) (shared : Option (List (P2.GL × P2.GL))) :
    observed (lookupOps p n shared) = [] := by
  unfold lookupOps
  cases shared <;> cases p.auxCap <;> rfl

theorem headOps_observed (c : Config) (p : Stark.Proof) (shared : Option (List (P2.GL × P2.GL))) (ign : Bool)
    (k : Nat) :
    observed (headOps c p shared ign k) =
      c.observed ++ (if ign then [] else flattenCap p.traceCap) ++ flattenCap (p.auxCap.getD []) := by
  rw [headOps_eq]
  simp only [observed, P2.Props.C04.observed_append, observed_replicate_get, observed_capOps,
    observed_lookupOps, List.append_nil]
  cases ign <;> simp [P2.Props.C04.observed]

theorem drawn_append (a b : List Op) : drawn (a ++ b) = drawn a + drawn b := by
  induction a with
  | nil => simp [drawn]
  | cons op t ih => cases op <;> simp [drawn, ih, Nat.add_assoc]

/-- the operations of `Challenger::fri_challenges`: FRI α; per commit-phase cap: the cap, then its β;
the final polynomial; the PoW witness; the PoW response; the query indices -/
def friOps (fp : Fri.Proof) (numQueries : Nat) : List Op :=
  [Op.get 2] ++ (fp.commitCaps.flatMap fun cap => [Op.obs (flattenCap cap), Op.get 2]) ++
  [Op.obs (flattenExt fp.finalPoly), Op.obs [fp.powWitness], Op.get 1, Op.get numQueries]

/-- it is the PLONK-side `friSchedule` (so `fri_schedule_observes`, `fri_observed_inj` apply) -/
theorem friOps_eq (fp : Fri.Proof) (nq : Nat) : friOps fp nq = Plonk.friSchedule fp nq := rfl

/-- read the FRI challenges off the outputs of `friOps` -/
def friOfOuts (outs : List P2.GL) (nCaps ldeSize : Nat) : Fri.Challenges :=
  ⟨mkExt outs, (List.range nCaps).map (fun i => mkExt (outs.drop (2 + 2 * i))),
    (outs.drop (2 + 2 * nCaps)).getD 0 0, (outs.drop (2 + 2 * nCaps + 1)).map fun x => x.val % ldeSize⟩

/-- `mkExt` reads two elements -/
theorem mkExt_drop_append (R rest : List P2.GL) (k : Nat) (h : k + 2 ≤ R.length) :
    mkExt ((R ++ rest).drop k) = mkExt (R.drop k) := by
  unfold mkExt
  simp only [List.getD_eq_getElem?_getD, List.getElem?_drop]
  rw [List.getElem?_append_left (Nat.lt_of_lt_of_le (Nat.add_lt_add_left (by decide : 0 < 2) k) h),
    List.getElem?_append_left (Nat.lt_of_lt_of_le (Nat.add_lt_add_left (by decide : 1 < 2) k) h)]

theorem mkExt_append (xs ys : List P2.GL) (h : xs.length = 2) : mkExt (xs ++ ys) = mkExt xs :=
  mkExt_drop_append xs ys 0 (Nat.le_of_eq (Nat.zero_add 2 ▸ h.symm))

theorem drop_append_two (xs ys : List P2.GL) (h : xs.length = 2) (k : Nat) :
    (xs ++ ys).drop (2 + k) = ys.drop k := by
  rw [← h, List.drop_length_add_append]

theorem capsFold_eq (caps : List (List Merkle.Digest)) (s : St) (pre : List GL2) :
    caps.foldl (fun (acc : ChSt × List GL2) cap =>
      let (s, b) := getExt (obs acc.1 (flattenCap cap)); (s, acc.2 ++ [b])) (s, pre) =
    ((runFrom Stark.perm s (caps.flatMap fun cap => [Op.obs (flattenCap cap), Op.get 2])).1,
      pre ++ (List.range caps.length).map fun i =>
        mkExt ((runFrom Stark.perm s (caps.flatMap fun cap => [Op.obs (flattenCap cap), Op.get 2])).2.drop (2 * i))) := by
  induction caps generalizing s pre with
  | nil => simp [runFrom_nil]
  | cons cap t ih =>
    have hl := StarkTranscript.getN_length (obs s (flattenCap cap)) 2
    simp only [List.foldl_cons, List.flatMap_cons, List.cons_append, List.nil_append, runFrom_cons_obs,
      runFrom_cons_get, List.length_cons, List.range_succ_eq_map, List.map_cons, List.map_map]
    rw [ih]
    simp only [getExt, List.append_assoc, List.cons_append, List.nil_append, Nat.mul_zero, List.drop_zero,
      mkExt_append _ _ hl]
    congr 3

theorem drawn_capsOps (caps : List (List Merkle.Digest)) :
    drawn (caps.flatMap fun cap => [Op.obs (flattenCap cap), Op.get 2]) = 2 * caps.length := by
  induction caps with
  | nil => rfl
  | cons cap t ih => rw [List.length_cons, Nat.mul_succ, ← ih, Nat.add_comm]; rfl

theorem friOfOuts_append (X R P Q : List P2.GL) (n lde : Nat) (hX : X.length = 2) (hR : R.length = 2 * n)
    (hP : P.length = 1) :
    friOfOuts (X ++ (R ++ (P ++ Q))) n lde =
      ⟨mkExt X, (List.range n).map (fun i => mkExt (R.drop (2 * i))), P.getD 0 0,
        Q.map fun x => x.val % lde⟩ := by
  obtain ⟨p, rfl⟩ := List.length_eq_one_iff.mp hP
  have hd : ∀ k, (X ++ (R ++ ([p] ++ Q))).drop (2 + (2 * n + k)) = ([p] ++ Q).drop k := by
    intro k
    rw [drop_append_two _ _ hX, ← hR, List.drop_length_add_append]
  have hb : ∀ i ∈ List.range n,
      mkExt ((X ++ (R ++ ([p] ++ Q))).drop (2 + 2 * i)) = mkExt (R.drop (2 * i)) := by
    intro i hi
    rw [drop_append_two _ _ hX, mkExt_drop_append]
    rw [hR]
    exact Nat.mul_le_mul_left 2 (Nat.succ_le_of_lt (List.mem_range.mp hi))
  unfold friOfOuts
  rw [mkExt_append _ _ hX, Nat.add_assoc, hd 1, ← Nat.add_zero (2 * n), hd 0, List.map_congr_left hb]
  rfl

/-- **`fri_challenges` as a history**: every FRI challenge is read off the outputs of `friOps` run
from the challenger state reached after the openings -/
theorem friChallenges_eq (s : St) (fp : Fri.Proof) (db : Nat) (cfg : Fri.FriConfig) :
    friChallenges s fp db cfg none =
      friOfOuts (runFrom Stark.perm s (friOps fp cfg.numQueryRounds)).2 fp.commitCaps.length
        (2 ^ ((db + cfg.rateBits) % 64)) := by
  have h2 := StarkTranscript.getN_length s 2
  have hR := runFrom_length Stark.perm (Stark.getN s 2).1
    (fp.commitCaps.flatMap fun cap => [Op.obs (flattenCap cap), Op.get 2])
  rw [drawn_capsOps] at hR
  unfold friChallenges friOps
  simp only [capsFold_eq]
  simp only [getExt, List.nil_append, List.cons_append, runFrom_cons_get]
  rw [runFrom_append]
  simp only [runFrom_cons_obs, runFrom_cons_get, runFrom_nil, List.append_nil]
  rw [friOfOuts_append _ _ _ _ _ _ h2 hR (StarkTranscript.getN_length _ 1)]

end P2.Lemmas.StarkSchedule
