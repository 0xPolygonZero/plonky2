/-
The algebra behind the STARK vanishing-polynomial check (for C09b, C02c, GL2Field).
The `ConstraintConsumer` is Horner in α, over an arbitrary `FOps` carrier and over a Mathlib field
through `FOps.ofField K`; the field-generic twin `evalL0LLastK` of `eval_l_0_and_l_last`; two facts
about roots of unity; `GL2.scalarMul` as a product.
-/
import P2.Lemmas.PlonkAlg
import P2.Model.Air
import P2.Model.Stark
namespace P2.Lemmas.StarkAlg
open P2 P2.Air P2.PlonkAlg P2.Lemmas.PlonkAlg

section generic
variable {K : Type} [FOps K]

theorem constraint_alphas (s : Consumer K) (c : K) : (s.constraint c).alphas = s.alphas := rfl
theorem constraint_zLast (s : Consumer K) (c : K) : (s.constraint c).zLast = s.zLast := rfl
theorem constraint_l0 (s : Consumer K) (c : K) :
    (s.constraint c).lagrangeFirst = s.lagrangeFirst := rfl
theorem constraint_lLast (s : Consumer K) (c : K) :
    (s.constraint c).lagrangeLast = s.lagrangeLast := rfl

theorem foldl_constraint_alphas (cs : List K) (s : Consumer K) :
    (cs.foldl Consumer.constraint s).alphas = s.alphas := by
  induction cs generalizing s with
  | nil => rfl
  | cons c cs ih => rw [List.foldl_cons, ih, constraint_alphas]

theorem foldl_constraint_accs (cs : List K) (s : Consumer K) (g : K → K)
    (hs : s.accs = s.alphas.map g) :
    (cs.foldl Consumer.constraint s).accs
      = s.alphas.map fun α => cs.foldl (fun acc c => acc * α + c) (g α) := by
  induction cs generalizing s g with
  | nil => simpa using hs
  | cons c cs ih =>
    rw [List.foldl_cons, ih (s.constraint c) (fun α => g α * α + c)]
    · rfl
    · show (s.alphas.zip s.accs).map (fun (p : K × K) => p.2 * p.1 + c) = _
      rw [hs, ← List.map_prod_left_eq_zip, List.map_map]
      rfl

theorem consumer_foldl_accs (alphas : List K) (z l0 ll : K) (cs : List K) :
    (cs.foldl Consumer.constraint (Consumer.new alphas z l0 ll)).accs
      = alphas.map fun α => cs.foldl (fun acc c => acc * α + c) FOps.zero :=
  foldl_constraint_accs cs (Consumer.new alphas z l0 ll) (fun _ => FOps.zero) rfl

theorem horner_eq_reduce_generic (cs : List K) (α : K) :
    cs.foldl (fun acc c => acc * α + c) FOps.zero = FOps.reduceWithPowers cs.reverse α := by
  unfold FOps.reduceWithPowers
  rw [List.foldr_reverse]

/-- what `Consumer.emit` hands to `constraint`: the value times the weight of its kind -/
def weigh (z l0 ll : K) (k : Kind) (c : K) : K :=
  match k with
  | .first => c * l0
  | .last => c * ll
  | .transition => c * z
  | .all => c

theorem emit_eq (s : Consumer K) (k : Kind) (c : K) :
    s.emit k c = s.constraint (weigh s.zLast s.lagrangeFirst s.lagrangeLast k c) := by
  cases k <;> rfl

theorem foldl_emit (kcs : List (Kind × K)) (s : Consumer K) :
    kcs.foldl (fun s p => s.emit p.1 p.2) s
      = (kcs.map fun p => weigh s.zLast s.lagrangeFirst s.lagrangeLast p.1 p.2).foldl
          Consumer.constraint s := by
  induction kcs generalizing s with
  | nil => rfl
  | cons p kcs ih =>
    rw [List.foldl_cons, ih, emit_eq]
    rfl

theorem evalConstraints_eq (a : Air) (lv nv pis : Array K) (s : Consumer K) :
    a.evalConstraints lv nv pis s
      = (a.constraints.map fun p =>
          weigh s.zLast s.lagrangeFirst s.lagrangeLast p.1 (p.2.eval lv nv pis)).foldl
          Consumer.constraint s := by
  unfold Air.evalConstraints
  have := foldl_emit (a.constraints.map fun p => (p.1, p.2.eval lv nv pis)) s
  rw [List.foldl_map, List.map_map] at this
  exact this

/-- field-generic twin of `P2.Stark.evalL0LLast` (which is specialised to `GL2`):
`(L_0(x), L_last(x), z_last(x))` for the subgroup of order `N` generated by `g`, `n` = `N` in `K` -/
def evalL0LLastK (n : K) (g : K) (N : Nat) (x : K) : K × K × K :=
  let zx := FOps.pow x N - FOps.one
  (zx * FOps.inv (n * (x - FOps.one)), zx * FOps.inv (n * (g * x - FOps.one)), x - FOps.inv g)

end generic

section field
variable {K : Type} [Field K] [DecidableEq K]

theorem consumer_accs_field (alphas : List K) (z l0 ll : K) (cs : List K) :
    (cs.foldl (@Consumer.constraint K (FOps.ofField K))
        (@Consumer.new K (FOps.ofField K) alphas z l0 ll)).accs
      = alphas.map fun α => cs.foldl (fun acc c => acc * α + c) (0 : K) :=
  @consumer_foldl_accs K (FOps.ofField K) alphas z l0 ll cs

omit [DecidableEq K] in
theorem inv_eq_pow_pred (N : Nat) (hN : 0 < N) (ω : K) (hω : ω ^ N = 1) : ω⁻¹ = ω ^ (N - 1) := by
  apply inv_eq_of_mul_eq_one_right
  rw [← pow_succ', Nat.sub_add_cancel hN, hω]

omit [DecidableEq K] in
theorem pow_eq_inv_iff (N : Nat) (ω : K) (hω : IsPrimitiveRoot ω N) (hN : 0 < N) (k : Nat) :
    ω ^ k = ω⁻¹ ↔ (k + 1) % N = 0 := by
  have h0 : ω ≠ 0 := hω.ne_zero (by omega)
  rw [← Nat.dvd_iff_mod_eq_zero, ← hω.pow_eq_one_iff_dvd, pow_succ]
  constructor
  · intro h
    rw [h, inv_mul_cancel₀ h0]
  · exact eq_inv_of_mul_eq_one_left

end field

theorem scalarMul_eq (x : GL2) (g : P2.GL) : GL2.scalarMul x g = (GL2.ofBase g : GL2) * x := by
  show (⟨_, _⟩ : GL2) = ⟨_, _⟩
  congr 1
  · show x.a * g = g * x.a + GL2.W * (0 * x.b)
    rw [Fin.zero_mul, Fin.mul_zero, Fin.add_zero, Fin.mul_comm]
  · show x.b * g = g * x.b + 0 * x.a
    rw [Fin.zero_mul, Fin.add_zero, Fin.mul_comm]

end P2.Lemmas.StarkAlg
