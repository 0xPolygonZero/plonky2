/-
Row-level model of plonky2's lookup running-sum ("SLDC") columns for ONE table, over an arbitrary
field `K`: the constraint system in rational form, the accumulator that satisfies its transitions for
any terms, the cleared-denominator form the verifier evaluates, and the two totals as logUp sums over
the combinations occurring on the rows. The statements about it are in `P2.Props.C08c`.

Source: `check_lookup_constraints` (plonk/vanishing_poly.rs), `selectors_lookup`
(gates/selectors.rs), `compute_lookup_polys` (plonk/prover.rs).

Rows are stored upside down. For one table the rows are, by increasing index,
  `lastLu … lastLut − 1`   LookupGate rows        (selector `TransLdc`),
  `lastLut … firstLut`     LookupTableGate rows   (selector `TransSre`),
  `firstLut + 1`           a Noop row             (selector `InitSre`),
and `LastLdc` is `1` on `lastLu`. The running sum flows from HIGH row index to LOW: on a row `r`
the polynomial `k` continues `prev r k`, which is polynomial `k − 1` of the same row for `k > 0`
and the LAST polynomial (`s − 1`) of the NEXT row `r + 1` for `k = 0`.
-/
import Mathlib.Algebra.BigOperators.Intervals
import Mathlib.Order.Interval.Finset.Nat
import Mathlib.Algebra.Field.Basic
import Mathlib.Algebra.BigOperators.Ring.Finset
import Mathlib.Algebra.Module.BigOperators
import Mathlib.Tactic.Ring

namespace P2.Lemmas.LookupTrace
open Finset

/-- rows of one table (`LookupWire { last_lu_gate, last_lut_gate, first_lut_gate }`) and the number
`s = num_sldc_polys ≥ 1` of SLDC polynomials -/
structure Layout where
  lastLu : ℕ
  lastLut : ℕ
  firstLut : ℕ
  s : ℕ
  hLu : lastLu ≤ lastLut
  hLut : lastLut ≤ firstLut
  hs : 1 ≤ s

namespace Layout
variable (L : Layout)

/-- `TransSre`: `for row in last_lut_row..first_lut_row + 1` -/
def transSre (r : ℕ) : Prop := L.lastLut ≤ r ∧ r ≤ L.firstLut
/-- `TransLdc`: `for row in last_lu_row..last_lut_row` -/
def transLdc (r : ℕ) : Prop := L.lastLu ≤ r ∧ r < L.lastLut
/-- `InitSre`: `values[first_lut_row + 1] = 1` -/
def initSre (r : ℕ) : Prop := r = L.firstLut + 1
/-- `LastLdc`: `values[last_lu_row] = 1` -/
def lastLdc (r : ℕ) : Prop := r = L.lastLu

instance : DecidablePred L.transSre := fun _ => inferInstanceAs (Decidable (_ ∧ _))
instance : DecidablePred L.transLdc := fun _ => inferInstanceAs (Decidable (_ ∧ _))
instance : DecidablePred L.initSre := fun _ => inferInstanceAs (Decidable (_ = _))
instance : DecidablePred L.lastLdc := fun _ => inferInstanceAs (Decidable (_ = _))

/-- the LookupTableGate rows -/
def lutRows : Finset ℕ := Ico L.lastLut (L.firstLut + 1)
/-- the LookupGate rows -/
def luRows : Finset ℕ := Ico L.lastLu L.lastLut

theorem mem_lutRows {r : ℕ} : r ∈ L.lutRows ↔ L.transSre r := by
  simp [lutRows, transSre]

theorem mem_luRows {r : ℕ} : r ∈ L.luRows ↔ L.transLdc r := by
  simp [luRows, transLdc]

theorem not_sre_of_ldc {r : ℕ} (h : L.transLdc r) : ¬ L.transSre r :=
  fun hs => Nat.lt_irrefl _ (h.2.trans_le hs.1)

end Layout

variable {K : Type} [Field K]

/-- `prev`: the previous poly of the current row, or the last poly of the next row -/
def prev (L : Layout) (z : ℕ → ℕ → K) (r : ℕ) : ℕ → K
  | 0 => z (r + 1) (L.s - 1)
  | k + 1 => z r k

/-- the row-level constraint system on the SLDC values `z row poly`, with abstract per-row
per-poly terms, and the initial constraint pinning poly `pinIndex` of the `InitSre` row
(`pinIndex = 0`: the code before the repair; `pinIndex = s − 1`: the repaired code) -/
structure Constraints (L : Layout) (sumTerm ldcTerm : ℕ → ℕ → K) (z : ℕ → ℕ → K)
    (pinIndex : ℕ) : Prop where
  /-- Sum transition: `z_k − prev = Σ mult/(α − looked)` -/
  sre : ∀ r, L.transSre r → ∀ k, k < L.s → z r k - prev L z r k = sumTerm r k
  /-- LDC transition: `z_k = prev − Σ 1/(α − looking)` -/
  ldc : ∀ r, L.transLdc r → ∀ k, k < L.s → z r k - prev L z r k = - ldcTerm r k
  /-- initial Sum constraint -/
  init : ∀ r, L.initSre r → z r pinIndex = 0
  /-- last LDC constraint -/
  last : ∀ r, L.lastLdc r → z r (L.s - 1) = 0

/-- total of the Sum terms over all LUT rows and all polys -/
def sumTotal (L : Layout) (sumTerm : ℕ → ℕ → K) : K :=
  ∑ r ∈ L.lutRows, ∑ k ∈ range L.s, sumTerm r k

/-- total of the LDC terms over all LU rows and all polys -/
def ldcTotal (L : Layout) (ldcTerm : ℕ → ℕ → K) : K :=
  ∑ r ∈ L.luRows, ∑ k ∈ range L.s, ldcTerm r k

theorem row_telescope (L : Layout) (z : ℕ → ℕ → K) (r : ℕ) (t : ℕ → K)
    (h : ∀ k, k < L.s → z r k - prev L z r k = t k) :
    z r (L.s - 1) = z (r + 1) (L.s - 1) + ∑ k ∈ range L.s, t k := by
  -- `prev L z r (k + 1)` is `z r k`, so the hypothesis is a telescoping sum of `prev L z r`
  have e : ∑ k ∈ range L.s, t k = prev L z r L.s - prev L z r 0 :=
    (sum_congr rfl fun k hk => (h k (mem_range.1 hk)).symm).trans (sum_range_sub (prev L z r) L.s)
  rw [e]
  exact (congrArg (prev L z r) (Nat.sub_add_cancel L.hs)).trans (add_sub_cancel _ _).symm

theorem rows_telescope (y R : ℕ → K) (a b : ℕ) (hab : a ≤ b)
    (h : ∀ r, a ≤ r → r < b → y r = y (r + 1) + R r) :
    y a = y b + ∑ r ∈ Ico a b, R r := by
  induction b, hab using Nat.le_induction with
  | base => simp
  | succ b hab ih =>
    rw [sum_Ico_succ_top hab, ih (fun r h1 h2 => h r h1 (Nat.lt_succ_of_lt h2)),
      h b hab (Nat.lt_succ_self b)]
    ring

/-- the signed term of row `r`, poly `k` -/
def term (L : Layout) (sumTerm ldcTerm : ℕ → ℕ → K) (r k : ℕ) : K :=
  if L.transSre r then sumTerm r k else if L.transLdc r then - ldcTerm r k else 0

/-- all signed terms of a row -/
def rowTerm (L : Layout) (sumTerm ldcTerm : ℕ → ℕ → K) (r : ℕ) : K :=
  ∑ k ∈ range L.s, term L sumTerm ldcTerm r k

/-- the accumulator that ENDS at zero: at `(r, k)` it is minus everything still to be added
(the rows `lastLu … r − 1` and the polys `k + 1 … s − 1` of row `r`). This is the honest
accumulator shifted by minus its final value, as the hook `SLDC_COMPENSATE` does. -/
def zEnd (L : Layout) (sumTerm ldcTerm : ℕ → ℕ → K) (r k : ℕ) : K :=
  ∑ j ∈ range (k + 1), term L sumTerm ldcTerm r j
    - ∑ r' ∈ Ico L.lastLu (r + 1), rowTerm L sumTerm ldcTerm r'

theorem term_of_sre {L : Layout} (sumTerm ldcTerm : ℕ → ℕ → K) {r : ℕ} (h : L.transSre r) (k : ℕ) :
    term L sumTerm ldcTerm r k = sumTerm r k := if_pos h

theorem term_of_ldc {L : Layout} (sumTerm ldcTerm : ℕ → ℕ → K) {r : ℕ} (h : L.transLdc r) (k : ℕ) :
    term L sumTerm ldcTerm r k = - ldcTerm r k := by
  rw [term, if_neg (L.not_sre_of_ldc h), if_pos h]

theorem zEnd_step (L : Layout) (sumTerm ldcTerm : ℕ → ℕ → K) (r k : ℕ) (hr : L.lastLu ≤ r)
    (hk : k < L.s) :
    zEnd L sumTerm ldcTerm r k - prev L (zEnd L sumTerm ldcTerm) r k
      = term L sumTerm ldcTerm r k := by
  cases k with
  | zero =>
    simp only [prev, zEnd, Nat.sub_add_cancel L.hs, zero_add, sum_range_one]
    rw [sum_Ico_succ_top (Nat.le_succ_of_le hr), rowTerm]
    ring
  | succ k =>
    simp only [prev, zEnd]
    rw [sum_range_succ _ (k + 1)]
    ring

theorem zEnd_last (L : Layout) (sumTerm ldcTerm : ℕ → ℕ → K) :
    zEnd L sumTerm ldcTerm L.lastLu (L.s - 1) = 0 := by
  rw [zEnd, Nat.sub_add_cancel L.hs, Nat.Ico_succ_singleton, sum_singleton]
  exact sub_self _

theorem sum_rowTerm (L : Layout) (sumTerm ldcTerm : ℕ → ℕ → K) :
    ∑ r ∈ Ico L.lastLu (L.firstLut + 1), rowTerm L sumTerm ldcTerm r
      = sumTotal L sumTerm - ldcTotal L ldcTerm := by
  rw [← sum_Ico_consecutive _ L.hLu (Nat.le_succ_of_le L.hLut), sub_eq_neg_add, ldcTotal,
    ← sum_neg_distrib]
  refine congrArg₂ (· + ·) (sum_congr rfl fun r hr => ?_)
    (sum_congr rfl fun r hr => sum_congr rfl fun k _ => term_of_sre _ _ (L.mem_lutRows.1 hr) k)
  rw [← sum_neg_distrib]
  exact sum_congr rfl fun k _ => term_of_ldc _ _ (L.mem_luRows.1 hr) k

theorem zEnd_init (L : Layout) (sumTerm ldcTerm : ℕ → ℕ → K) :
    zEnd L sumTerm ldcTerm (L.firstLut + 1) (L.s - 1)
      = - (sumTotal L sumTerm - ldcTotal L ldcTerm) := by
  rw [zEnd, Nat.sub_add_cancel L.hs,
    sum_Ico_succ_top (Nat.le_succ_of_le (L.hLu.trans L.hLut)), sum_rowTerm, rowTerm]
  ring

/-- `zEnd` satisfies both transition constraints and the last-LDC constraint, for ANY terms -/
theorem zEnd_transitions (L : Layout) (sumTerm ldcTerm : ℕ → ℕ → K) :
    (∀ r, L.transSre r → ∀ k, k < L.s →
      zEnd L sumTerm ldcTerm r k - prev L (zEnd L sumTerm ldcTerm) r k = sumTerm r k) ∧
    (∀ r, L.transLdc r → ∀ k, k < L.s →
      zEnd L sumTerm ldcTerm r k - prev L (zEnd L sumTerm ldcTerm) r k = - ldcTerm r k) :=
  ⟨fun r hr k hk => (zEnd_step L sumTerm ldcTerm r k (L.hLu.trans hr.1) hk).trans
      (term_of_sre _ _ hr k),
    fun r hr k hk => (zEnd_step L sumTerm ldcTerm r k hr.1 hk).trans (term_of_ldc _ _ hr k)⟩

/-- the compensating assignment for the ORIGINAL pin: `zEnd`, except that poly `0` of the
`InitSre` row — a value no transition constraint reads when `s ≥ 2` — is `0` -/
def zBad (L : Layout) (sumTerm ldcTerm : ℕ → ℕ → K) (r k : ℕ) : K :=
  if r = L.firstLut + 1 ∧ k = 0 then 0 else zEnd L sumTerm ldcTerm r k

theorem zBad_eq (L : Layout) (sumTerm ldcTerm : ℕ → ℕ → K) (r k : ℕ) (h : r ≤ L.firstLut) :
    zBad L sumTerm ldcTerm r k = zEnd L sumTerm ldcTerm r k := by
  unfold zBad
  rw [if_neg fun e => Nat.not_succ_le_self _ (e.1 ▸ h)]

theorem zBad_prev (L : Layout) (hs : 2 ≤ L.s) (sumTerm ldcTerm : ℕ → ℕ → K) (r k : ℕ)
    (h : r ≤ L.firstLut) :
    prev L (zBad L sumTerm ldcTerm) r k = prev L (zEnd L sumTerm ldcTerm) r k := by
  cases k with
  | zero =>
    simp only [prev, zBad]
    rw [if_neg (by omega)]
  | succ k => simp only [prev, zBad_eq L sumTerm ldcTerm r k h]

/-- slot range of SLDC poly `k`: `poly * degree .. min((poly + 1) * degree, num_slots)` -/
def chunk (d n k : ℕ) : Finset ℕ := Ico (k * d) (min ((k + 1) * d) n)

theorem sum_chunks {M : Type} [AddCommMonoid M] (d n s : ℕ) (f : ℕ → M) :
    ∑ k ∈ range s, ∑ i ∈ chunk d n k, f i = ∑ i ∈ range (min (s * d) n), f i := by
  induction s with
  | zero => rw [sum_range_zero, Nat.zero_mul, Nat.zero_min, range_zero, sum_empty]
  | succ s ih =>
    have hd : s * d ≤ (s + 1) * d := Nat.mul_le_mul_right d (Nat.le_succ s)
    -- the chunk starts at `min (s * d) n`, or is empty
    have e : chunk d n s = Ico (min (s * d) n) (min ((s + 1) * d) n) := by
      rcases le_total (s * d) n with h | h
      · rw [chunk, min_eq_left h]
      · rw [chunk, min_eq_right h, min_eq_right (h.trans hd), Ico_self,
          Ico_eq_empty (not_lt.2 h)]
    rw [sum_range_succ, ih, e, range_eq_Ico, range_eq_Ico]
    exact sum_Ico_consecutive _ (Nat.zero_le _) (min_le_min_right n hd)

/-- when the chunks cover (`n ≤ s·d`, true for `lut_degree = ⌈n/s⌉` and for
`s = ⌈num_lu_slots / lu_degree⌉`) they partition all `n` slots -/
theorem sum_chunks_cover {M : Type} [AddCommMonoid M] (d n s : ℕ) (h : n ≤ s * d) (f : ℕ → M) :
    ∑ k ∈ range s, ∑ i ∈ chunk d n k, f i = ∑ i ∈ range n, f i := by
  rw [sum_chunks, Nat.min_eq_right h]

/-- `lut_degree = ceil_div(num_lut_slots, num_sldc_polys)` covers -/
theorem lutDegree_covers (n s : ℕ) (hs : 1 ≤ s) : n ≤ s * ((n + s - 1) / s) := by
  have h := Nat.div_add_mod (n + s - 1) s
  have h2 := Nat.mod_lt (n + s - 1) (by omega : s > 0)
  omega

/-- the wire data of one table, per row and slot: `looked = inp + A·out` and the multiplicity wire
on LUT rows, `looking = inp + A·out` on LU rows; slots per row and slots per SLDC poly -/
structure Slots (K : Type) where
  nLut : ℕ
  nLu : ℕ
  lutDeg : ℕ
  luDeg : ℕ
  looked : ℕ → ℕ → K
  mult : ℕ → ℕ → K
  looking : ℕ → ℕ → K

/-- `Σ_{slots of poly k} mult/(α − looked)` -/
def Slots.sumTerm (D : Slots K) (α : K) (r k : ℕ) : K :=
  ∑ i ∈ chunk D.lutDeg D.nLut k, D.mult r i / (α - D.looked r i)

/-- `Σ_{slots of poly k} 1/(α − looking)` -/
def Slots.ldcTerm (D : Slots K) (α : K) (r k : ℕ) : K :=
  ∑ i ∈ chunk D.luDeg D.nLu k, 1 / (α - D.looking r i)

/-- `lut_prod` -/
def Slots.lutProd (D : Slots K) (α : K) (r k : ℕ) : K :=
  ∏ i ∈ chunk D.lutDeg D.nLut k, (α - D.looked r i)
/-- `lu_prod` -/
def Slots.luProd (D : Slots K) (α : K) (r k : ℕ) : K :=
  ∏ i ∈ chunk D.luDeg D.nLu k, (α - D.looking r i)
/-- `lut_sum_prods_with_mul` -/
def Slots.lutSumProdsMul (D : Slots K) (α : K) (r k : ℕ) : K :=
  ∑ i ∈ chunk D.lutDeg D.nLut k,
    D.mult r i * ∏ j ∈ (chunk D.lutDeg D.nLut k).erase i, (α - D.looked r j)
/-- `lu_sum_prods` -/
def Slots.luSumProds (D : Slots K) (α : K) (r k : ℕ) : K :=
  ∑ i ∈ chunk D.luDeg D.nLu k,
    1 * ∏ j ∈ (chunk D.luDeg D.nLu k).erase i, (α - D.looking r j)

/-- value of a selector polynomial on a row -/
def ind (p : Prop) [Decidable p] : K := if p then 1 else 0

theorem ind_mul_eq_zero (p : Prop) [Decidable p] (x : K) : ind p * x = 0 ↔ (p → x = 0) := by
  unfold ind
  by_cases h : p <;> simp [h]

/-- **what the verifier's terms say on the rows**: every term of `check_lookup_constraints` that
involves the SLDC polynomials, with the selector VALUES of `selectors_lookup`, vanishes on every
row. (`pinIndex` as in `Constraints`.) -/
structure VerifierRows (L : Layout) (D : Slots K) (α : K) (z : ℕ → ℕ → K) (pinIndex : ℕ) :
    Prop where
  /-- `sel[TransSre] * (lut_prod * (z[poly] − prev) − lut_sum_prods_with_mul)` -/
  sre : ∀ r k, k < L.s →
    ind (L.transSre r) * (D.lutProd α r k * (z r k - prev L z r k) - D.lutSumProdsMul α r k) = 0
  /-- `sel[TransLdc] * (lu_prod * (z[poly] − prev) + lu_sum_prods)` -/
  ldc : ∀ r k, k < L.s →
    ind (L.transLdc r) * (D.luProd α r k * (z r k - prev L z r k) + D.luSumProds α r k) = 0
  /-- `sel[InitSre] * z[pinIndex]` -/
  init : ∀ r, ind (L.initSre r) * z r pinIndex = 0
  /-- `sel[LastLdc] * z[s − 1]` -/
  last : ∀ r, ind (L.lastLdc r) * z r (L.s - 1) = 0

/-- the challenge avoids every combination that occurs on the table's rows -/
def Slots.Avoids (D : Slots K) (L : Layout) (α : K) : Prop :=
  (∀ r ∈ L.lutRows, ∀ i < D.nLut, α - D.looked r i ≠ 0) ∧
  (∀ r ∈ L.luRows, ∀ i < D.nLu, α - D.looking r i ≠ 0)

theorem mem_chunk_lt {d n k i : ℕ} (h : i ∈ chunk d n k) : i < n :=
  (mem_Ico.1 h).2.trans_le (min_le_right _ _)

section combos
variable [DecidableEq K]

/-- all (row, slot) pairs of the LookupTableGate rows -/
def lutIdx (L : Layout) (D : Slots K) : Finset (ℕ × ℕ) := L.lutRows ×ˢ range D.nLut
/-- all (row, slot) pairs of the LookupGate rows -/
def luIdx (L : Layout) (D : Slots K) : Finset (ℕ × ℕ) := L.luRows ×ˢ range D.nLu

/-- every combination occurring on the table's rows -/
def combos (L : Layout) (D : Slots K) : Finset K :=
  (lutIdx L D).image (fun x => D.looked x.1 x.2) ∪ (luIdx L D).image (fun x => D.looking x.1 x.2)

/-- declared multiplicity of the value `a`: the multiplicity wires of all LUT slots holding `a` -/
def lookedWeight (L : Layout) (D : Slots K) (a : K) : K :=
  ∑ x ∈ (lutIdx L D).filter (fun x => D.looked x.1 x.2 = a), D.mult x.1 x.2

/-- number of LU slots looking up the value `a` -/
def lookingCount (L : Layout) (D : Slots K) (a : K) : ℕ :=
  ((luIdx L D).filter (fun x => D.looking x.1 x.2 = a)).card

omit [Field K] [DecidableEq K] in
theorem mem_lutIdx (L : Layout) (D : Slots K) {x : ℕ × ℕ} :
    x ∈ lutIdx L D ↔ x.1 ∈ L.lutRows ∧ x.2 < D.nLut := by
  simp [lutIdx]

omit [Field K] [DecidableEq K] in
theorem mem_luIdx (L : Layout) (D : Slots K) {x : ℕ × ℕ} :
    x ∈ luIdx L D ↔ x.1 ∈ L.luRows ∧ x.2 < D.nLu := by
  simp [luIdx]

omit [Field K] in
theorem looked_mem_combos (L : Layout) (D : Slots K) {r i : ℕ} (hr : r ∈ L.lutRows)
    (hi : i < D.nLut) : D.looked r i ∈ combos L D :=
  mem_union_left _ (mem_image.2 ⟨(r, i), mem_product.2 ⟨hr, mem_range.2 hi⟩, rfl⟩)

omit [Field K] in
theorem looking_mem_combos (L : Layout) (D : Slots K) {r i : ℕ} (hr : r ∈ L.luRows)
    (hi : i < D.nLu) : D.looking r i ∈ combos L D :=
  mem_union_right _ (mem_image.2 ⟨(r, i), mem_product.2 ⟨hr, mem_range.2 hi⟩, rfl⟩)

theorem avoids_of_not_mem (L : Layout) (D : Slots K) (α : K) (h : α ∉ combos L D) :
    D.Avoids L α :=
  ⟨fun r hr i hi e => h (by rw [sub_eq_zero.1 e]; exact looked_mem_combos L D hr hi),
   fun r hr i hi e => h (by rw [sub_eq_zero.1 e]; exact looking_mem_combos L D hr hi)⟩

/-- the terms of all polys of all rows `R`, regrouped by the value of the combination
(`n ≤ s·d`: the chunks cover the slots) -/
theorem sum_rows_chunks (R : Finset ℕ) (d n s : ℕ) (hcov : n ≤ s * d) (v m : ℕ → ℕ → K)
    (S : Finset K) (hS : ∀ r ∈ R, ∀ i < n, v r i ∈ S) (α : K) :
    ∑ r ∈ R, ∑ k ∈ range s, ∑ i ∈ chunk d n k, m r i / (α - v r i)
      = ∑ a ∈ S, (∑ x ∈ (R ×ˢ range n).filter (fun x => v x.1 x.2 = a), m x.1 x.2) / (α - a) := by
  rw [sum_congr rfl fun r _ => sum_chunks_cover d n s hcov _, ← sum_product',
    ← sum_fiberwise_of_maps_to fun x hx =>
      hS _ (mem_product.1 hx).1 _ (mem_range.1 (mem_product.1 hx).2)]
  refine sum_congr rfl fun a _ => ?_
  rw [div_eq_mul_inv, sum_mul]
  exact sum_congr rfl fun x hx => by rw [(mem_filter.1 hx).2, div_eq_mul_inv]

/-- the Sum total is the table side of the logUp identity -/
theorem sumTotal_eq (L : Layout) (D : Slots K) (hcov : D.nLut ≤ L.s * D.lutDeg) (α : K) :
    sumTotal L (D.sumTerm α) = ∑ a ∈ combos L D, lookedWeight L D a / (α - a) :=
  sum_rows_chunks L.lutRows _ _ _ hcov D.looked D.mult _
    (fun _ hr _ hi => looked_mem_combos L D hr hi) α

/-- the LDC total is the lookup side of the logUp identity -/
theorem ldcTotal_eq (L : Layout) (D : Slots K) (hcov : D.nLu ≤ L.s * D.luDeg) (α : K) :
    ldcTotal L (D.ldcTerm α) = ∑ a ∈ combos L D, (lookingCount L D a : K) / (α - a) :=
  (sum_rows_chunks L.luRows _ _ _ hcov D.looking (fun _ _ => 1) _
    (fun _ hr _ hi => looking_mem_combos L D hr hi) α).trans
    (sum_congr rfl fun _ _ => congrArg (· / _) (cast_card _).symm)

omit [Field K] in
theorem lookingCount_eq_zero (L : Layout) (D : Slots K) {a : K} (h : a ∉ combos L D) :
    lookingCount L D a = 0 := by
  rw [lookingCount, card_eq_zero, filter_eq_empty_iff]
  intro x hx e
  exact h (e ▸ looking_mem_combos L D ((mem_luIdx L D).1 hx).1 ((mem_luIdx L D).1 hx).2)

theorem lookedWeight_eq_zero (L : Layout) (D : Slots K) {a : K} (h : a ∉ combos L D) :
    lookedWeight L D a = 0 := by
  rw [lookedWeight, filter_eq_empty_iff.2, sum_empty]
  intro x hx e
  exact h (e ▸ looked_mem_combos L D ((mem_lutIdx L D).1 hx).1 ((mem_lutIdx L D).1 hx).2)

end combos

end P2.Lemmas.LookupTrace
