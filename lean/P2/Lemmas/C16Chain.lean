/-
C16: the verifier's reduction chain of one query as a predicate
(`ConsistentFrom`: at every layer the evaluation at the query's position in the coset equals the
value folded from the previous layer), its derivation from acceptance, and the alignment of
`get_inferred_elements` (producer of the omitted evaluations) with the first loop of
`CompressedFriProof::decompress` (consumer), for index lists with repeated indices and shared
cosets.
-/
import P2.Lemmas.C16Maps
import P2.Lemmas.Vanishing
import P2.Props.C05
namespace P2.Lemmas.C16
open P2 P2.Fri P2.Merkle P2.Compress P2.Decompress

/-- the chain of `fri_verifier_query_round` from layer `i` on, as a predicate on the proof's own
data: `old` is the value folded so far, `xIndex`/`x` the current leaf index and subgroup point -/
def ConsistentFrom (betas : List GL2) (q : QueryRound) : List Nat → Nat → Nat → GL → GL2 → Prop
  | [], _, _, _, _ => True
  | ab :: rest, i, xIndex, x, old =>
    ∃ st beta, q.steps[i]? = some st ∧ betas[i]? = some beta ∧
      st.evals[xIndex % 2 ^ ab]? = some old ∧
      ConsistentFrom betas q rest (i + 1) (xIndex / 2 ^ ab) (GL.pow x (2 ^ ab))
        (computeEvaluation x (xIndex % 2 ^ ab) ab st.evals beta)

/-- **the consistency fact** for the query `q` at leaf `xIndex`: the combination of the initial
openings is defined and every omitted evaluation equals the inferred one -/
def Consistent (inst : Instance) (ch : Challenges) (reduced : List GL2) (p : FriParams)
    (xIndex : Nat) (q : QueryRound) : Prop :=
  ∃ old0, combineInitial inst q.initial ch.alpha (subgroupX p xIndex) reduced p = some old0 ∧
    ConsistentFrom ch.betas q p.arityBits 0 xIndex (subgroupX p xIndex) old0

theorem consistentFrom_of_stepsFrom (proof : Proof) (ch : Challenges) (q : QueryRound) :
    ∀ (abs : List Nat) (i xIndex : Nat) (x : GL) (old lastEval : GL2) (xf : GL),
      stepsFrom proof ch q abs i xIndex x old = (.accept, lastEval, xf) →
      ConsistentFrom ch.betas q abs i xIndex x old := by
  intro abs
  induction abs with
  | nil => intros; trivial
  | cons ab rest ih =>
    intro i xIndex x old lastEval xf h
    obtain ⟨st, e, beta, cap, hs, he, hcons, hb, _, _, hrest⟩ :=
      P2.Props.C05.stepsFrom_accept_cons proof ch q ab rest i xIndex x old lastEval xf h
    have : e = old := (P2.Lemmas.Vanishing.GL2.beq_iff e old).1 hcons
    subst this
    exact ⟨st, beta, hs, hb, he, ih _ _ _ _ _ _ hrest⟩

theorem insertAt_removeAt {α} (xs : List α) (w : Nat) (v : α) (h : xs[w]? = some v) :
    insertAt (removeAt xs w) w v = some xs := by
  obtain ⟨hw, hv⟩ := List.getElem?_eq_some_iff.1 h
  have hl : (xs.take w).length = w := List.length_take_of_le (Nat.le_of_lt hw)
  rw [insertAt, removeAt, if_pos (by rw [List.length_append, hl]; exact Nat.le_add_right _ _),
    List.take_left' hl, List.drop_left' hl, ← hv, List.getElem_cons_drop, List.take_append_drop]

theorem getD_set_ne {α : Type} (l : List α) (i k : Nat) (v d : α) (h : i ≠ k) :
    (l.set i v).getD k d = l.getD k d := by
  rw [List.getD_eq_getElem?_getD, List.getElem?_set_ne h, ← List.getD_eq_getElem?_getD]

theorem getD_set_self {α : Type} (l : List α) (i : Nat) (v d : α) (h : i < l.length) :
    (l.set i v).getD i d = v := by
  rw [List.getD_eq_getElem?_getD, List.getElem?_set_self h]; rfl

/-! ### producer/consumer alignment for one query

`E i c` are the true evaluations of coset `c` at layer `i` (what every query round touching that
coset carries), `W i c` the position within the coset that the stored entry of the compressed proof
omits (the position of the FIRST query touching the coset), `M i c` its stored Merkle path. -/

/-- the compressed step maps agree with `E`, `W`, `M` -/
def StepsSpec (steps : List (List (Nat × QueryStep))) (E : Nat → Nat → List GL2) (W : Nat → Nat → Nat)
    (M : Nat → Nat → List Digest) (i c : Nat) : Prop :=
  ∃ m, steps[i]? = some m ∧ lookupKey m c = some ⟨removeAt (E i c) (W i c), M i c⟩

/-- state invariant shared by the two loops: `seen_indices_by_depth` lists the keys of
`evals_by_depth`, the cached vectors are the true ones -/
structure StateInv (E : Nat → Nat → List GL2) (seen : List (List Nat))
    (byDepth : List (List (Nat × List GL2))) : Prop where
  keys : seen = byDepth.map keys
  vals : ∀ i c ev, lookupKey (byDepth.getD i []) c = some ev → ev = E i c

theorem getD_map_keys (byDepth : List (List (Nat × List GL2))) (i : Nat) :
    (byDepth.map keys).getD i [] = keys (byDepth.getD i []) := by
  simp only [List.getD_eq_getElem?_getD, List.getElem?_map]
  cases byDepth[i]? <;> simp [keys]

theorem contains_keys_iff (m : List (Nat × List GL2)) (c : Nat) :
    (keys m).contains c = true ↔ lookupKey m c ≠ none := by
  rw [Ne, lookupKey_eq_none_iff]; simp

theorem StateInv.set {E : Nat → Nat → List GL2} {seen : List (List Nat)}
    {byDepth : List (List (Nat × List GL2))} (h : StateInv E seen byDepth) (i c : Nat) :
    StateInv E (seen.set i (c :: seen.getD i [])) (byDepth.set i ((c, E i c) :: byDepth.getD i [])) := by
  constructor
  · rw [h.keys, getD_map_keys, List.map_set]
    rfl
  · intro i' c' ev hl
    by_cases hi : i' = i
    · subst hi
      by_cases hlt : i' < byDepth.length
      · rw [getD_set_self _ _ _ _ hlt, lookupKey_cons] at hl
        split at hl
        · rename_i e
          simp only at e
          subst e
          exact (Option.some.inj hl).symm
        · exact h.vals _ _ _ hl
      · rw [List.set_eq_of_length_le (by omega)] at hl
        exact h.vals _ _ _ hl
    · rw [getD_set_ne _ _ _ _ _ (fun e => hi e.symm)] at hl
      exact h.vals _ _ _ hl

/-- what the first loop of `decompress` must return for the layers `i…` of a query at `xIndex` -/
def expectedFrom (E : Nat → Nat → List GL2) (M : Nat → Nat → List Digest) :
    List Nat → Nat → Nat → List (Nat × List GL2 × List Digest)
  | [], _, _ => []
  | ab :: rest, i, xIndex =>
    (xIndex / 2 ^ ab, E i (xIndex / 2 ^ ab), M i (xIndex / 2 ^ ab)) :: expectedFrom E M rest (i + 1) (xIndex / 2 ^ ab)

/-- everything the alignment needs to know about the layers `i…` of one query round `q` at leaf
`xIndex`, relative to the state `seen` in which the query is started:
* the verifier's chain is consistent (`st.evals[w] = old`, next value folded by `compute_evaluation`);
* `E i c` is this query's evaluation vector (queries sharing a coset carry the same vector);
* the compressed step map has an entry for the coset, with stored path `M i c`;
* if the coset has not been seen, the stored vector omits THIS query's position (first wins);
* if the coset has been seen, so has its parent coset at the next layer. -/
def LayersOK (steps : List (List (Nat × QueryStep))) (betas : List GL2)
    (E : Nat → Nat → List GL2) (M : Nat → Nat → List Digest) (q : QueryRound)
    (seen : List (List Nat)) : List Nat → Nat → Nat → GL → GL2 → Prop
  | [], _, _, _, _ => True
  | ab :: rest, i, xIndex, x, old =>
    ∃ st beta m sev, q.steps[i]? = some st ∧ betas[i]? = some beta ∧
      st.evals[xIndex % 2 ^ ab]? = some old ∧ st.evals.length = 2 ^ ab ∧ E i (xIndex / 2 ^ ab) = st.evals ∧
      steps[i]? = some m ∧ lookupKey m (xIndex / 2 ^ ab) = some ⟨sev, M i (xIndex / 2 ^ ab)⟩ ∧
      (xIndex / 2 ^ ab ∉ seen.getD i [] → sev = removeAt st.evals (xIndex % 2 ^ ab)) ∧
      (xIndex / 2 ^ ab ∈ seen.getD i [] →
        match rest with
        | [] => True
        | ab' :: _ => xIndex / 2 ^ ab / 2 ^ ab' ∈ seen.getD (i + 1) []) ∧
      LayersOK steps betas E M q seen rest (i + 1) (xIndex / 2 ^ ab) (GL.pow x (2 ^ ab))
        (computeEvaluation x (xIndex % 2 ^ ab) ab st.evals beta)

theorem LayersOK.consistent {steps : List (List (Nat × QueryStep))} {betas : List GL2}
    {E : Nat → Nat → List GL2} {M : Nat → Nat → List Digest} {q : QueryRound} {seen : List (List Nat)} :
    ∀ {abs : List Nat} {i xIndex : Nat} {x : GL} {old : GL2},
      LayersOK steps betas E M q seen abs i xIndex x old → ConsistentFrom betas q abs i xIndex x old := by
  intro abs
  induction abs with
  | nil => intros; trivial
  | cons ab rest ih =>
    intro i xIndex x old h
    obtain ⟨st, beta, m, sev, h1, h2, h3, _, _, _, _, _, _, h10⟩ := h
    exact ⟨st, beta, h1, h2, h3, ih h10⟩

/-- consumer on a coset that has been seen: nothing is consumed, the state is unchanged, and the
cached (true) vectors are returned for this and all later layers -/
theorem rebuild_seen (steps : List (List (Nat × QueryStep))) (betas : List GL2)
    (E : Nat → Nat → List GL2) (M : Nat → Nat → List Digest) (q : QueryRound) (seen : List (List Nat)) :
    ∀ (abs : List Nat) (i xIndex : Nat) (x : GL) (old : GL2) (seenCur : List (List Nat))
      (byDepth : List (List (Nat × List GL2))) (inferred : List GL2),
      LayersOK steps betas E M q seen abs i xIndex x old →
      StateInv E seenCur byDepth →
      (∀ k, i ≤ k → seenCur.getD k [] = seen.getD k []) →
      (match abs with
        | [] => True
        | ab :: _ => xIndex / 2 ^ ab ∈ seen.getD i []) →
      rebuildLayers steps abs i xIndex byDepth inferred
        = some (expectedFrom E M abs i xIndex, byDepth, inferred) := by
  intro abs
  induction abs with
  | nil => intros; rfl
  | cons ab rest ih =>
    intro i xIndex x old seenCur byDepth inferred hok hinv hagree hseen
    obtain ⟨st, beta, m, sev, _, _, _, _, hE, hm, hl, _, hdeep, hrest⟩ := hok
    simp only at hseen
    have hmem : xIndex / 2 ^ ab ∈ keys (byDepth.getD i []) := by
      rw [← getD_map_keys, ← hinv.keys, hagree i (Nat.le_refl _)]; exact hseen
    obtain ⟨ev, hev⟩ := mem_keys_lookup hmem
    have hevE := hinv.vals _ _ _ hev
    have ihr := ih (i + 1) (xIndex / 2 ^ ab) _ _ seenCur byDepth inferred hrest hinv
      (fun k hk => hagree k (by omega)) (by
        have := hdeep hseen
        cases rest with
        | nil => trivial
        | cons ab' rest' => exact this)
    simp only [rebuildLayers, hm, hl, hev, ihr, Option.bind_eq_bind, Option.bind_some,
      expectedFrom, hevE, Option.pure_def]

/-- **Alignment for one query** (layers `i…`): the producer `inferLayers` (`get_inferred_elements`)
appends a list `vals` of inferred elements (one per coset not seen before); the consumer
`rebuildLayers` (`decompress`), started on `vals ++ more`, consumes exactly `vals`, returns for every
layer the coset index, the TRUE evaluation vector and the stored path; the final states are related
again. -/
theorem align_layers (steps : List (List (Nat × QueryStep))) (betas : List GL2)
    (E : Nat → Nat → List GL2) (M : Nat → Nat → List Digest) (q : QueryRound) (seen : List (List Nat)) :
    ∀ (abs : List Nat) (i xIndex : Nat) (x : GL) (old : GL2) (seenCur : List (List Nat))
      (byDepth : List (List (Nat × List GL2))) (out : List GL2),
      LayersOK steps betas E M q seen abs i xIndex x old →
      StateInv E seenCur byDepth →
      (∀ k, i ≤ k → seenCur.getD k [] = seen.getD k []) →
      ∃ vals seen' byDepth',
        inferLayers steps betas abs i xIndex x old seenCur out = some (seen', out ++ vals) ∧
        (∀ more, rebuildLayers steps abs i xIndex byDepth (vals ++ more)
          = some (expectedFrom E M abs i xIndex, byDepth', more)) ∧
        StateInv E seen' byDepth' := by
  intro abs
  induction abs with
  | nil =>
    intro i xIndex x old seenCur byDepth out _ hinv _
    exact ⟨[], seenCur, byDepth, by simp [inferLayers], fun more => rfl, hinv⟩
  | cons ab rest ih =>
    intro i xIndex x old seenCur byDepth out hok hinv hagree
    have hok' := hok
    obtain ⟨st, beta, m, sev, hq, hb, hw, hlen, hE, hm, hl, hfirst, hdeep, hrest⟩ := hok
    by_cases hseen : xIndex / 2 ^ ab ∈ seen.getD i []
    · -- coset seen before: the producer stops, the consumer reads the caches
      refine ⟨[], seenCur, byDepth, ?_, ?_, hinv⟩
      · have : (seenCur.getD i []).contains (xIndex / 2 ^ ab) = true := by
          rw [hagree i (Nat.le_refl _)]; simpa using hseen
        simp only [inferLayers]
        rw [if_pos this, List.append_nil]
      · intro more
        exact rebuild_seen steps betas E M q seen (ab :: rest) i xIndex x old seenCur byDepth more
          hok' hinv hagree hseen
    · -- first query on this coset
      have hsev := hfirst hseen
      subst hsev
      have hins := insertAt_removeAt st.evals (xIndex % 2 ^ ab) old hw
      have hnc : (seenCur.getD i []).contains (xIndex / 2 ^ ab) = false := by
        rw [hagree i (Nat.le_refl _)]; simpa using hseen
      have hnk : lookupKey (byDepth.getD i []) (xIndex / 2 ^ ab) = none := by
        rw [lookupKey_eq_none_iff, ← getD_map_keys, ← hinv.keys, hagree i (Nat.le_refl _)]
        exact hseen
      have hinv' := hinv.set i (xIndex / 2 ^ ab)
      rw [hE] at hinv'
      obtain ⟨vals, seen', byDepth', e1, e2, e3⟩ := ih (i + 1) (xIndex / 2 ^ ab) (GL.pow x (2 ^ ab))
        (computeEvaluation x (xIndex % 2 ^ ab) ab st.evals beta) _ _ (out ++ [old]) hrest hinv'
        (fun k hk => (getD_set_ne _ _ _ _ _ (by omega)).trans (hagree k (by omega)))
      refine ⟨old :: vals, seen', byDepth', ?_, ?_, e3⟩
      · simp only [inferLayers, hnc, Bool.false_eq_true, if_false, hm, hl, hins, hlen, hb,
          Option.bind_eq_bind, Option.bind_some, ne_eq, not_true_eq_false, e1]
        simp
      · intro more
        simp only [rebuildLayers, hm, hl, hnk, List.cons_append, hins, Option.bind_eq_bind,
          Option.bind_some, e2 more, expectedFrom, hE, Option.pure_def]

end P2.Lemmas.C16
