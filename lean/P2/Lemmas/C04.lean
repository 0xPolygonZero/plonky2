/-
C04 helper lemmas: causality of `Challenger.run` (prefix property), the overwrite-mode absorption
`setFrom` pointwise, state dependence (sponge-style "differs unless capacity collision") under an
injective permutation, the squeeze as a function of the post-state, injectivity of the flattenings the
transcripts are made of, the invariant `Inv` along a history, block boundaries.
-/
import P2.Props.C13
import P2.Props.C04
namespace P2.Lemmas.C04
open P2 P2.Sponge P2.Challenger P2.Lemmas.C13

/-- state and outputs after running `ops` from state `s` -/
def runFrom (p : Perm) (s : St) (ops : List Op) : St × List P2.GL := ops.foldl (stepN p) (s, [])

/-- state and outputs after a history (the fold performed by `run`) -/
def runState (p : Perm) (ops : List Op) : St × List P2.GL := runFrom p (init p) ops

theorem run_eq_runState (p : Perm) (ops : List Op) : run p ops = (runState p ops).2 := rfl

theorem stepN_prefix (p : Perm) (s : St) (pre : List P2.GL) (op : Op) :
    stepN p (s, pre) op = ((stepN p (s, []) op).1, pre ++ (stepN p (s, []) op).2) := by
  cases op with
  | obs xs => simp [stepN]
  | get n => simp [stepN]

theorem runFrom_append (p : Perm) (s : St) (a b : List Op) :
    runFrom p s (a ++ b) =
      ((runFrom p (runFrom p s a).1 b).1, (runFrom p s a).2 ++ (runFrom p (runFrom p s a).1 b).2) := by
  unfold runFrom
  rw [List.foldl_append]
  exact foldl_prefix _ (stepN_prefix p) b _ _

theorem foldl_set_getElem? (xs : List P2.GL) (s : Array P2.GL) (start k j : Nat) :
    ((xs.zipIdx k).foldl (fun st (x, i) => st.set! (start + i) x) s)[j]? =
      if start + k ≤ j ∧ j < start + k + xs.length ∧ j < s.size then xs[j - (start + k)]? else s[j]? := by
  induction xs generalizing s k with
  | nil => exact (if_neg fun h => Nat.lt_irrefl _ (Nat.lt_of_le_of_lt h.1 h.2.1)).symm
  | cons x t ih =>
    rw [List.zipIdx_cons, List.foldl_cons, ih]
    simp only [Array.set!_eq_setIfInBounds, Array.size_setIfInBounds, Array.getElem?_setIfInBounds,
      List.length_cons]
    by_cases h1 : start + k = j
    · subst h1
      rw [if_neg (by omega), if_pos rfl]
      by_cases h2 : start + k < s.size
      · rw [if_pos h2, if_pos ⟨Nat.le_refl _, by omega, h2⟩, Nat.sub_self, List.getElem?_cons_zero]
      · rw [if_neg h2, if_neg (fun h => h2 h.2.2), Array.getElem?_eq_none (Nat.le_of_not_lt h2)]
    · rw [if_neg h1]
      by_cases h3 : start + (k + 1) ≤ j ∧ j < start + (k + 1) + t.length ∧ j < s.size
      · rw [if_pos h3, if_pos (by omega), show j - (start + k) = j - (start + (k + 1)) + 1 by omega,
          List.getElem?_cons_succ]
      · rw [if_neg h3, if_neg (by omega)]
theorem setFrom_getElem? (s : Array P2.GL) (xs : List P2.GL) (start j : Nat) :
    (setFrom s xs start)[j]? =
      if start ≤ j ∧ j < start + xs.length ∧ j < s.size then xs[j - start]? else s[j]? := by
  rw [setFrom, foldl_set_getElem? xs s start 0 j, Nat.add_zero]

theorem setFrom0_getElem? (s : Array P2.GL) (xs : List P2.GL) (j : Nat) (h : xs.length ≤ s.size) :
    (setFrom s xs 0)[j]? = if j < xs.length then xs[j]? else s[j]? := by
  rw [setFrom_getElem?, Nat.zero_add, Nat.sub_zero]
  by_cases hj : j < xs.length
  · rw [if_pos hj, if_pos ⟨Nat.zero_le _, hj, Nat.lt_of_lt_of_le hj h⟩]
  · rw [if_neg hj, if_neg fun h' => hj h'.2.1]

/-- two overwrites of equally many leading cells coincide only if the written blocks coincide and the
untouched cells coincide -/
theorem setFrom0_inj (s s' : Array P2.GL) (xs ys : List P2.GL) (hl : xs.length = ys.length)
    (h1 : xs.length ≤ s.size) (h2 : s.size = s'.size)
    (h : setFrom s xs 0 = setFrom s' ys 0) :
    xs = ys ∧ ∀ i, xs.length ≤ i → s[i]! = s'[i]! := by
  have key : ∀ j, (if j < xs.length then xs[j]? else s[j]?) = (if j < xs.length then ys[j]? else s'[j]?) := by
    intro j
    rw [← setFrom0_getElem? s xs j h1, h, setFrom0_getElem? s' ys j (by omega), hl]
  constructor
  · apply List.ext_getElem?
    intro j
    by_cases hj : j < xs.length
    · have := key j
      rwa [if_pos hj, if_pos hj] at this
    · rw [List.getElem?_eq_none (Nat.le_of_not_lt hj), List.getElem?_eq_none (hl ▸ Nat.le_of_not_lt hj)]
  · intro i hi
    have := key i
    rw [if_neg (Nat.not_lt.mpr hi), if_neg (Nat.not_lt.mpr hi)] at this
    rw [getElem!_def, getElem!_def, this]

theorem duplexing_sponge (p : Perm) (s : St) :
    (duplexing p s).sponge = p.permute (setFrom s.sponge s.input 0) := rfl

theorem duplexing_eq (p : Perm) (s : St) :
    duplexing p s = ⟨(duplexing p s).sponge, [], (duplexing p s).sponge.toList.take p.rate⟩ := rfl

/-- the sponge state from which the next challenges are squeezed -/
def fin (p : Perm) (s : St) : Array P2.GL :=
  if s.input = [] then s.sponge else p.permute (setFrom s.sponge s.input 0)

/-- what every challenger state reached from `init` satisfies: the sponge has the permutation's width
and the buffer of absorbed, not yet permuted elements is shorter than the rate (`observe` permutes as soon
as it is full) -/
structure Inv (p : Perm) (s : St) : Prop where
  size : s.sponge.size = p.width
  len : s.input.length < p.rate

theorem observe_full {p : Perm} {s : St} {x : P2.GL} (h : (s.input ++ [x]).length = p.rate) :
    observe p s x = duplexing p ⟨s.sponge, s.input ++ [x], []⟩ := if_pos h

theorem observe_notfull {p : Perm} {s : St} {x : P2.GL} (h : (s.input ++ [x]).length ≠ p.rate) :
    observe p s x = ⟨s.sponge, s.input ++ [x], []⟩ := if_neg h

theorem observe_inv {p : Perm} (hp : PermOk p) (s : St) (x : P2.GL) (h : Inv p s) : Inv p (observe p s x) := by
  by_cases hl : (s.input ++ [x]).length = p.rate
  · rw [observe_full hl]
    exact ⟨hp.size _ (by rw [setFrom_size]; exact h.size), hp.rate_pos⟩
  · rw [observe_notfull hl]
    exact ⟨h.size, Nat.lt_of_le_of_ne (by rw [List.length_append]; exact h.len) hl⟩

theorem observeMany_inv {p : Perm} (hp : PermOk p) (xs : List P2.GL) (s : St) (h : Inv p s) :
    Inv p (observeMany p s xs) := by
  induction xs generalizing s with
  | nil => exact h
  | cons x t ih => exact ih _ (observe_inv hp s x h)

theorem observe_input_length (p : Perm) (s : St) (x : P2.GL) :
    (observe p s x).input.length = if s.input.length + 1 = p.rate then 0 else s.input.length + 1 := by
  have e : (s.input ++ [x]).length = s.input.length + 1 := List.length_append
  by_cases hl : s.input.length + 1 = p.rate
  · rw [if_pos hl, observe_full (e.trans hl)]
    rfl
  · rw [if_neg hl, observe_notfull (e ▸ hl)]
    exact e

theorem observeMany_input_mod {p : Perm} (hp : PermOk p) (zs : List P2.GL) (s : St) (h : Inv p s) :
    (observeMany p s zs).input.length = (s.input.length + zs.length) % p.rate := by
  induction zs generalizing s with
  | nil => exact (Nat.mod_eq_of_lt h.len).symm
  | cons z t ih =>
    rw [show observeMany p s (z :: t) = observeMany p (observe p s z) t from rfl,
      ih _ (observe_inv hp s z h), observe_input_length, List.length_cons, ← Nat.add_assoc,
      Nat.add_right_comm]
    split
    · next e => rw [e, Nat.zero_add, Nat.add_mod_left]
    · rfl

theorem observeMany_concat (p : Perm) (s : St) (xs : List P2.GL) (x : P2.GL) :
    observeMany p s (xs ++ [x]) = observe p (observeMany p s xs) x := by
  simp [observeMany, List.foldl_append]

theorem fin_observe (p : Perm) (s : St) (x : P2.GL) :
    fin p (observe p s x) = p.permute (setFrom s.sponge (s.input ++ [x]) 0) := by
  by_cases hl : (s.input ++ [x]).length = p.rate
  · rw [observe_full hl]
    rfl
  · rw [observe_notfull hl]
    exact if_neg (List.append_ne_nil_of_right_ne_nil _ (List.cons_ne_nil _ _))

theorem observe_ready {p : Perm} (hp : PermOk p) (s : St) (x : P2.GL) (h : Inv p s) :
    (observe p s x).input ≠ [] ∨ (observe p s x).output.isEmpty = false := by
  by_cases hl : (s.input ++ [x]).length = p.rate
  · rw [observe_full hl]
    exact Or.inr (take_nonempty hp _ (hp.size _ (by rw [setFrom_size]; exact h.size)))
  · rw [observe_notfull hl]
    exact Or.inl (List.append_ne_nil_of_right_ne_nil _ (List.cons_ne_nil _ _))

theorem getChallenge_sponge (p : Perm) (t : St) (h : t.input ≠ [] ∨ t.output.isEmpty = false) :
    (getChallenge p t).1.sponge = fin p t := by
  rw [getChallenge_eq, pop_sponge]
  unfold fin
  by_cases hi : t.input = []
  · rw [if_pos hi, hi, h.resolve_left fun h' => h' hi]
    rfl
  · rw [if_neg hi, List.isEmpty_eq_false_iff.mpr hi]
    rfl

/-- after at least one observation the next challenge is squeezed from `fin` -/
theorem getChallenge_observeMany {p : Perm} (hp : PermOk p) (s : St) (h : Inv p s) {zs : List P2.GL}
    (hz : zs ≠ []) : (getChallenge p (observeMany p s zs)).1.sponge = fin p (observeMany p s zs) := by
  rcases List.eq_nil_or_concat' zs with rfl | ⟨z0, z, rfl⟩
  · exact absurd rfl hz
  · rw [observeMany_concat]
    exact getChallenge_sponge p _ (observe_ready hp _ z (observeMany_inv hp z0 s h))

theorem ne_nil_of_ne {α : Type} {xs ys : List α} (hl : xs.length = ys.length) (hne : xs ≠ ys) :
    xs ≠ [] ∧ ys ≠ [] :=
  ⟨fun e => hne (e ▸ (List.eq_nil_of_length_eq_zero (hl.symm.trans (e ▸ rfl))).symm),
    fun e => hne (e ▸ List.eq_nil_of_length_eq_zero (hl.trans (e ▸ rfl)))⟩

theorem exists_concat {α : Type} (l : List α) (n : Nat) (h : l.length = n + 1) :
    ∃ l0 x, l = l0 ++ [x] ∧ l0.length = n := by
  have hne : l ≠ [] := by
    intro e; subst e; simp at h
  refine ⟨l.dropLast, l.getLast hne, (List.dropLast_append_getLast hne).symm, ?_⟩
  simp [h]

/-- Two different histories of the same length either leave different states to squeeze from, or at
some earlier point `k` their sponges differed while agreeing on the capacity part (a collision).
Induction on the length, peeling off the LAST element: if the final states agree, injectivity of the
permutation and `setFrom0_inj` give equal last blocks (so equal buffers and equal last elements) and
equal sponge cells beyond the block; then either the sponges before the last element agree too, and the
shorter histories differ and have equal `fin` (induction hypothesis), or they differ, and `k = n` is
the collision. -/
theorem fin_differs_or_collision {p : Perm} (hp : PermOk p) (hinj : Function.Injective p.permute)
    (s : St) (hs : Inv p s) (n : Nat) :
    ∀ xs ys : List P2.GL, xs.length = n → ys.length = n → xs ≠ ys →
      fin p (observeMany p s xs) ≠ fin p (observeMany p s ys) ∨
      ∃ k, k < n ∧
        (observeMany p s (xs.take k)).sponge ≠ (observeMany p s (ys.take k)).sponge ∧
        (observeMany p s (xs.take k)).sponge.size = p.width ∧
        (observeMany p s (ys.take k)).sponge.size = p.width ∧
        ∀ i, p.rate ≤ i →
          (observeMany p s (xs.take k)).sponge[i]! = (observeMany p s (ys.take k)).sponge[i]! := by
  induction n with
  | zero =>
    intro xs ys hx hy hne
    have e1 : xs = [] := List.eq_nil_of_length_eq_zero hx
    have e2 : ys = [] := List.eq_nil_of_length_eq_zero hy
    exact absurd (e1.trans e2.symm) hne
  | succ n ih =>
    intro xs ys hx hy hne
    obtain ⟨xs0, x, rfl, hx0⟩ := exists_concat xs n hx
    obtain ⟨ys0, y, rfl, hy0⟩ := exists_concat ys n hy
    by_cases hfin : fin p (observeMany p s (xs0 ++ [x])) = fin p (observeMany p s (ys0 ++ [y]))
    · right
      have ia := observeMany_inv hp xs0 s hs
      have ia' := observeMany_inv hp ys0 s hs
      have hlen : (observeMany p s xs0).input.length = (observeMany p s ys0).input.length := by
        rw [observeMany_input_mod hp _ s hs, observeMany_input_mod hp _ s hs, hx0, hy0]
      rw [observeMany_concat, observeMany_concat, fin_observe, fin_observe] at hfin
      have hlt := ia.len
      have hw := hp.rate_le
      obtain ⟨e1, e2⟩ := setFrom0_inj _ _ _ _
        (by rw [List.length_append, List.length_append, hlen]; rfl)
        (by rw [List.length_append, ia.size]; exact Nat.le_trans hlt hw)
        (by rw [ia.size, ia'.size]) (hinj hfin)
      have ein : (observeMany p s xs0).input = (observeMany p s ys0).input :=
        List.append_inj_left' e1 rfl
      have exy : x = y := by
        have := List.append_inj_right' e1 rfl
        simpa using this
      by_cases hsp : (observeMany p s xs0).sponge = (observeMany p s ys0).sponge
      · -- same sponge, same buffer, same last element: the difference lies in the shorter histories
        have hne0 : xs0 ≠ ys0 := by
          intro e; apply hne; rw [e, exy]
        have hf : fin p (observeMany p s xs0) = fin p (observeMany p s ys0) := by
          unfold fin; rw [ein, hsp]
        rcases ih xs0 ys0 hx0 hy0 hne0 with h | ⟨k, hk, h⟩
        · exact absurd hf h
        · refine ⟨k, Nat.lt_succ_of_lt hk, ?_⟩
          rw [List.take_append_of_le_length (hx0 ▸ Nat.le_of_lt hk),
            List.take_append_of_le_length (hy0 ▸ Nat.le_of_lt hk)]
          exact h
      · -- different sponges that agree beyond the overwritten block, hence on the capacity part
        refine ⟨n, Nat.lt_succ_self n, ?_⟩
        rw [List.take_left' hx0, List.take_left' hy0]
        refine ⟨hsp, ia.size, ia'.size, ?_⟩
        intro i hi
        apply e2
        rw [List.length_append]
        exact Nat.le_trans hlt hi
    · left; exact hfin

theorem observeMany_no_duplex (p : Perm) (zs : List P2.GL) (s : St)
    (h : s.input.length + zs.length < p.rate) :
    (observeMany p s zs).sponge = s.sponge ∧ (observeMany p s zs).input = s.input ++ zs := by
  induction zs generalizing s with
  | nil => exact ⟨rfl, (List.append_nil _).symm⟩
  | cons z t ih =>
    rw [List.length_cons, Nat.add_comm t.length, ← Nat.add_assoc] at h
    have e : observe p s z = ⟨s.sponge, s.input ++ [z], []⟩ :=
      observe_notfull (Nat.ne_of_lt (Nat.lt_of_le_of_lt (List.length_append ▸ Nat.le_add_right _ _) h))
    have := ih ⟨s.sponge, s.input ++ [z], []⟩ (by
      show (s.input ++ [z]).length + t.length < p.rate
      rw [List.length_append]
      exact h)
    rw [show observeMany p s (z :: t) = observeMany p (observe p s z) t from rfl, e]
    rwa [List.append_assoc] at this

/-- popping `l.length ≤ o.length` challenges from a full output buffer: no permutation happens, the
challenges are the buffer read backwards -/
theorem pops {α : Type} (p : Perm) (l : List α) (sp : Array P2.GL) (o pre : List P2.GL)
    (h : l.length ≤ o.length) :
    l.foldl (fun acc _ => gstepN p acc) ((⟨sp, [], o⟩ : St), pre) =
      ((⟨sp, [], o.take (o.length - l.length)⟩ : St), pre ++ o.reverse.take l.length) := by
  induction l generalizing o pre with
  | nil => simp
  | cons a t ih =>
    rcases List.eq_nil_or_concat' o with rfl | ⟨o', c, rfl⟩
    · exact absurd h (Nat.not_succ_le_zero _)
    · have ht : t.length ≤ o'.length := by
        rw [List.length_append] at h; exact Nat.le_of_succ_le_succ h
      have hstep : gstepN p ((⟨sp, [], o' ++ [c]⟩ : St), pre) = ((⟨sp, [], o'⟩ : St), pre ++ [c]) := by
        rw [gstepN_apply, getChallenge_eq]
        simp [pop]
      have e1 : (o' ++ [c]).length - (a :: t).length = o'.length - t.length := by
        rw [List.length_append]; exact Nat.add_sub_add_right ..
      rw [List.foldl_cons, hstep, ih o' (pre ++ [c]) ht, e1,
        List.take_append_of_le_length (Nat.sub_le ..)]
      simp

theorem getChallenge_duplexing (p : Perm) (s : St)
    (hd : s.input ≠ [] ∨ s.output = []) :
    getChallenge p s = pop (duplexing p s) := by
  rw [getChallenge_eq]
  rcases hd with h | h
  · rw [List.isEmpty_eq_false_iff.mpr h]
    rfl
  · rw [h, List.isEmpty_nil, Bool.or_true]
    rfl

theorem getChallenge_after_duplexing (p : Perm) (s : St)
    (hne : (duplexing p s).output.isEmpty = false) :
    getChallenge p (duplexing p s) = pop (duplexing p s) := by
  rw [getChallenge_eq, hne]
  rfl

theorem fold_gstepN_duplexing {α : Type} (p : Perm) (a : α) (t : List α) (s : St)
    (hd : s.input ≠ [] ∨ s.output = []) (hne : (duplexing p s).output.isEmpty = false) :
    (a :: t).foldl (fun acc _ => gstepN p acc) (s, []) =
      (a :: t).foldl (fun acc _ => gstepN p acc) (duplexing p s, []) := by
  simp only [List.foldl_cons, gstepN_apply]
  rw [getChallenge_duplexing p s hd, getChallenge_after_duplexing p s hne]

theorem getN_explicit (p : Perm) (s : St) (n : Nat) (hd : s.input ≠ [] ∨ s.output = [])
    (h0 : 0 < n) (hn : n ≤ p.rate) (hsz : p.rate ≤ (duplexing p s).sponge.size) :
    getN p s n =
      ((⟨(duplexing p s).sponge, [],
          ((duplexing p s).sponge.toList.take p.rate).take (p.rate - n)⟩ : St),
        ((duplexing p s).sponge.toList.take p.rate).reverse.take n) := by
  have hlen : ((duplexing p s).sponge.toList.take p.rate).length = p.rate := by
    rw [List.length_take, Array.length_toList]; omega
  have hne : (duplexing p s).output.isEmpty = false :=
    List.isEmpty_eq_false_iff.mpr (List.ne_nil_of_length_pos (hlen ▸ Nat.lt_of_lt_of_le h0 hn))
  rw [getN_eq]
  cases n with
  | zero => omega
  | succ m =>
    rw [List.range_succ_eq_map, fold_gstepN_duplexing p _ _ s hd hne, duplexing_eq,
      pops p _ _ _ _ (by simp [hlen]; omega)]
    simp [hlen]

theorem append_inj7 {α : Type} (a1 a2 a3 a4 a5 a6 a7 b1 b2 b3 b4 b5 b6 b7 : List α)
    (h1 : a1.length = b1.length) (h2 : a2.length = b2.length) (h3 : a3.length = b3.length)
    (h4 : a4.length = b4.length) (h5 : a5.length = b5.length) (h6 : a6.length = b6.length)
    (h : a1 ++ a2 ++ a3 ++ a4 ++ a5 ++ a6 ++ a7 = b1 ++ b2 ++ b3 ++ b4 ++ b5 ++ b6 ++ b7) :
    a1 = b1 ∧ a2 = b2 ∧ a3 = b3 ∧ a4 = b4 ∧ a5 = b5 ∧ a6 = b6 ∧ a7 = b7 := by
  simp only [List.append_assoc] at h
  obtain ⟨e1, h⟩ := List.append_inj h h1
  obtain ⟨e2, h⟩ := List.append_inj h h2
  obtain ⟨e3, h⟩ := List.append_inj h h3
  obtain ⟨e4, h⟩ := List.append_inj h h4
  obtain ⟨e5, h⟩ := List.append_inj h h5
  obtain ⟨e6, h⟩ := List.append_inj h h6
  exact ⟨e1, e2, e3, e4, e5, e6, h⟩

theorem flatten_inj {α : Type} (n : Nat) (hn : 0 < n) (a b : List (List α))
    (ha : ∀ d ∈ a, d.length = n) (hb : ∀ d ∈ b, d.length = n)
    (h : a.flatten = b.flatten) : a = b := by
  induction a generalizing b with
  | nil => exact (flatten_eq_nil_of_len hn b hb h.symm).symm
  | cons c t ih =>
    cases b with
    | nil => exact flatten_eq_nil_of_len hn _ ha h
    | cons d t' =>
      rw [List.flatten_cons, List.flatten_cons] at h
      obtain ⟨e1, e2⟩ := List.append_inj h
        ((ha c List.mem_cons_self).trans (hb d List.mem_cons_self).symm)
      rw [e1, ih t' (fun x hx => ha x (List.mem_cons_of_mem _ hx))
        (fun x hx => hb x (List.mem_cons_of_mem _ hx)) e2]

theorem length_flatten_of_length {α : Type} (n : Nat) (a : List (List α)) (h : ∀ d ∈ a, d.length = n) :
    a.flatten.length = n * a.length := by
  induction a with
  | nil => rfl
  | cons d t ih =>
    rw [List.flatten_cons, List.length_append, h d (List.mem_cons_self ..),
      ih fun x hx => h x (List.mem_cons_of_mem _ hx), List.length_cons, Nat.mul_succ, Nat.add_comm]

theorem flattenCap_inj (a b : List Merkle.Digest)
    (ha : ∀ d ∈ a, d.length = 4) (hb : ∀ d ∈ b, d.length = 4)
    (h : Plonk.flattenCap a = Plonk.flattenCap b) : a = b := by
  unfold Plonk.flattenCap at h
  simp only [List.flatMap_id] at h
  exact flatten_inj 4 (by decide) a b ha hb h

theorem flattenCap_length (a : List Merkle.Digest) (ha : ∀ d ∈ a, d.length = 4) :
    (Plonk.flattenCap a).length = 4 * a.length := by
  rw [Plonk.flattenCap, List.flatMap_id, length_flatten_of_length 4 a ha]

theorem flattenExt_inj (a b : List GL2) (h : Plonk.flattenExt a = Plonk.flattenExt b) : a = b := by
  unfold Plonk.flattenExt at h
  induction a generalizing b with
  | nil =>
    cases b with
    | nil => rfl
    | cons y t => simp at h
  | cons x t ih =>
    cases b with
    | nil => simp at h
    | cons y t' =>
      simp only [List.flatMap_cons, List.cons_append, List.nil_append, List.cons.injEq] at h
      obtain ⟨e1, e2, e3⟩ := h
      have : x = y := by
        cases x; cases y; simp_all
      rw [this, ih t' e3]

theorem flatMap_flattenExt (l : List (List GL2)) :
    l.flatMap Plonk.flattenExt = Plonk.flattenExt l.flatten := by
  unfold Plonk.flattenExt
  induction l with
  | nil => rfl
  | cons a t ih => simp [ih]

theorem flatMap_flattenCap (l : List (List Merkle.Digest)) :
    l.flatMap Plonk.flattenCap = l.flatten.flatten := by
  rw [List.flatten_flatten, List.flatMap_def]
  exact congrArg _ (List.map_congr_left fun _ _ => List.flatMap_id)

theorem forall_mem_flatten_caps {m : Nat} {l : List (List Merkle.Digest)}
    (hl : ∀ cap ∈ l, cap.length = m ∧ ∀ d ∈ cap, d.length = 4) : ∀ d ∈ l.flatten, d.length = 4 :=
  fun d hd => by
    obtain ⟨cap, hc, hdc⟩ := List.mem_flatten.mp hd
    exact (hl cap hc).2 d hdc

theorem flatMap_flattenCap_length (m : Nat) (a : List (List Merkle.Digest))
    (ha : ∀ cap ∈ a, cap.length = m ∧ ∀ d ∈ cap, d.length = 4) :
    (a.flatMap Plonk.flattenCap).length = 4 * (m * a.length) := by
  rw [flatMap_flattenCap, length_flatten_of_length 4 _ (forall_mem_flatten_caps ha),
    length_flatten_of_length m a fun c hc => (ha c hc).1]

theorem flatMap_flattenCap_inj (m : Nat) (hm : 0 < m) (a b : List (List Merkle.Digest))
    (ha : ∀ cap ∈ a, cap.length = m ∧ ∀ d ∈ cap, d.length = 4)
    (hb : ∀ cap ∈ b, cap.length = m ∧ ∀ d ∈ cap, d.length = 4)
    (h : a.flatMap Plonk.flattenCap = b.flatMap Plonk.flattenCap) : a = b := by
  rw [flatMap_flattenCap, flatMap_flattenCap] at h
  exact flatten_inj m hm a b (fun c hc => (ha c hc).1) (fun c hc => (hb c hc).1)
    (flatten_inj 4 (by decide) _ _ (forall_mem_flatten_caps ha) (forall_mem_flatten_caps hb) h)

theorem flattenExt_length (l : List GL2) : (Plonk.flattenExt l).length = 2 * l.length := by
  rw [Plonk.flattenExt, List.flatMap_def, length_flatten_of_length 2 _ (by
    intro d hd
    obtain ⟨x, _, rfl⟩ := List.mem_map.mp hd
    rfl), List.length_map]

theorem fold_gstepN_length {α : Type} (p : Perm) (l : List α) (s : St) (pre : List P2.GL) :
    (l.foldl (fun acc _ => gstepN p acc) (s, pre)).2.length = pre.length + l.length := by
  induction l generalizing s pre with
  | nil => simp
  | cons a t ih =>
    simp only [List.foldl_cons, gstepN_apply]
    rw [ih]; simp; omega

theorem getN_length (p : Perm) (s : St) (n : Nat) : (getN p s n).2.length = n := by
  rw [getN_eq, fold_gstepN_length]; simp

/-- number of challenges a history draws -/
def drawn : List Op → Nat
  | [] => 0
  | .obs _ :: rest => drawn rest
  | .get n :: rest => n + drawn rest

theorem runFrom_length (p : Perm) (s : St) (ops : List Op) : (runFrom p s ops).2.length = drawn ops := by
  induction ops generalizing s with
  | nil => rfl
  | cons op t ih =>
    have e : runFrom p s (op :: t) = runFrom p s ([op] ++ t) := rfl
    rw [e, runFrom_append, List.length_append, ih]
    cases op with
    | obs xs => simp [runFrom, stepN, drawn]
    | get n =>
      have : (runFrom p s [Op.get n]).2 = (getN p s n).2 := by simp [runFrom, stepN]
      rw [this, getN_length]; rfl

theorem getChallenge_inv {p : Perm} (hp : PermOk p) (s : St) (h : Inv p s) : Inv p (getChallenge p s).1 := by
  rw [getChallenge_eq]
  constructor
  · rw [pop_sponge]
    split
    · exact hp.size _ (by rw [setFrom_size]; exact h.size)
    · exact h.size
  · rw [pop_input]
    split
    · exact hp.rate_pos
    · exact h.len

theorem fold_gstepN_inv {α : Type} {p : Perm} (hp : PermOk p) (l : List α) (s : St) (pre : List P2.GL)
    (h : Inv p s) : Inv p (l.foldl (fun acc _ => gstepN p acc) (s, pre)).1 := by
  induction l generalizing s pre with
  | nil => exact h
  | cons a t ih =>
    simp only [List.foldl_cons, gstepN_apply]
    exact ih _ _ (getChallenge_inv hp s h)

theorem stepN_inv {p : Perm} (hp : PermOk p) (op : Op) (s : St) (pre : List P2.GL) (h : Inv p s) :
    Inv p (stepN p (s, pre) op).1 := by
  cases op with
  | obs xs => exact observeMany_inv hp xs s h
  | get n =>
    simp only [stepN, getN_eq]
    exact fold_gstepN_inv hp _ s [] h

theorem runFrom_inv {p : Perm} (hp : PermOk p) (ops : List Op) (s : St) (h : Inv p s) :
    Inv p (runFrom p s ops).1 := by
  unfold runFrom
  suffices ∀ (acc : St × List P2.GL), Inv p acc.1 → Inv p (ops.foldl (stepN p) acc).1 from this _ h
  induction ops with
  | nil => intro acc h; exact h
  | cons op t ih =>
    intro acc h
    simp only [List.foldl_cons]
    exact ih _ (stepN_inv hp op acc.1 acc.2 h)

theorem runState_inv {p : Perm} (hp : PermOk p) (ops : List Op) : Inv p (runState p ops).1 :=
  runFrom_inv hp ops _ ⟨by simp [init], by simpa [init] using hp.rate_pos⟩

theorem runFrom_obs_get1 (p : Perm) (s : St) (xs : List P2.GL) :
    (runFrom p s [Op.obs xs, Op.get 1]).1 = (getChallenge p (observeMany p s xs)).1 := by
  simp [runFrom, stepN, getN]

/-- position of the last block boundary (the last duplexing) among the first `n` observations made
from a state with `a` buffered elements; `0` if there was none -/
def boundary (rate a n : Nat) : Nat := if a + n < rate then 0 else n - (a + n) % rate

theorem boundary_le (rate a n : Nat) : boundary rate a n ≤ n := by
  unfold boundary; split <;> omega

theorem boundary_arith (rate a n : Nat) (ha : a < rate) (hc : ¬ a + n < rate) :
    (a + n) % rate < n ∧ (a + (n - (a + n) % rate)) % rate = 0 := by
  have hrn : (a + n) % rate < n := by
    rw [Nat.mod_eq_sub_mod (Nat.le_of_not_lt hc)]
    exact Nat.lt_of_le_of_lt (Nat.mod_le _ _) (by omega)
  rw [← Nat.add_sub_assoc (Nat.le_of_lt hrn)]
  exact ⟨hrn, Nat.sub_mod_eq_zero_of_mod_eq (Nat.mod_mod _ _).symm⟩

theorem boundary_mod (rate a n : Nat) (h : 0 < boundary rate a n) :
    (a + boundary rate a n) % rate = 0 := by
  unfold boundary at h ⊢
  by_cases c : a + n < rate
  · rw [if_pos c] at h; exact absurd h (Nat.lt_irrefl 0)
  · rw [if_neg c] at h ⊢
    rw [← Nat.add_sub_assoc (Nat.le_of_lt (Nat.lt_of_sub_pos h))]
    exact Nat.sub_mod_eq_zero_of_mod_eq (Nat.mod_mod _ _).symm

theorem input_nil_of_mod {p : Perm} (hp : PermOk p) (s : St) (h : Inv p s) (zs : List P2.GL) {k : Nat}
    (hk : k ≤ zs.length) (hmod : (s.input.length + k) % p.rate = 0) :
    (observeMany p s (zs.take k)).input = [] :=
  List.eq_nil_of_length_eq_zero (by
    rw [observeMany_input_mod hp _ s h, List.length_take, Nat.min_eq_left hk, hmod])

/-- the sponge state after `zs` is the one produced at the last block boundary -/
theorem sponge_at_boundary {p : Perm} (hp : PermOk p) (zs : List P2.GL) (s : St) (h : Inv p s) :
    (observeMany p s zs).sponge =
      (observeMany p s (zs.take (boundary p.rate s.input.length zs.length))).sponge := by
  unfold boundary
  by_cases c : s.input.length + zs.length < p.rate
  · rw [if_pos c, List.take_zero]
    exact (observeMany_no_duplex p zs s c).1
  · rw [if_neg c]
    obtain ⟨hrn, hmod⟩ := boundary_arith p.rate s.input.length zs.length h.len c
    generalize hk : zs.length - (s.input.length + zs.length) % p.rate = k at hmod
    have hkl : k ≤ zs.length := hk ▸ Nat.sub_le ..
    -- after the first `k` elements the buffer is empty, and the remaining `n - k` fit into one block
    have hin := input_nil_of_mod hp s h zs hkl hmod
    have hrest : (observeMany p s (zs.take k)).input.length + (zs.drop k).length < p.rate := by
      rw [hin, List.length_drop, ← hk, Nat.sub_sub_self (Nat.le_of_lt hrn), List.length_nil, Nat.zero_add]
      exact Nat.mod_lt _ hp.rate_pos
    rw [← List.take_append_drop k zs, P2.Props.C13.observeMany_append, List.take_append_drop]
    exact (observeMany_no_duplex p (zs.drop k) _ hrest).1

theorem sponge_at_boundary_take {p : Perm} (hp : PermOk p) (zs : List P2.GL) (s : St) (h : Inv p s)
    {k : Nat} (hk : k ≤ zs.length) :
    (observeMany p s (zs.take k)).sponge =
      (observeMany p s (zs.take (boundary p.rate s.input.length k))).sponge := by
  have e := sponge_at_boundary hp (zs.take k) s h
  rwa [List.length_take_of_le hk, List.take_take, Nat.min_eq_left (boundary_le _ _ _)] at e

end P2.Lemmas.C04
