/-
Bit reversal arithmetic: `bitrev` stays below `2^b`, ignores the bits above its width, splits over a
sum of widths and is an involution; the chunked index map is bit reversal.
-/
import P2.Model.BitRev
namespace P2.Lemmas.C15
open P2 P2.BitRev

theorem lt_mul_of_digits (m l P D : Nat) (hm : m < D) (hl : l < P) : m * P + l < P * D :=
  Nat.lt_of_lt_of_le (Nat.add_lt_add_left hl _)
    (by rw [← Nat.succ_mul, Nat.mul_comm P]; exact Nat.mul_le_mul_right _ hm)

theorem divmod_of_eq (x q B r : Nat) (h : x = q * B + r) (hr : r < B) : x / B = q ∧ x % B = r := by
  subst h
  have hB : 0 < B := by omega
  rw [Nat.add_comm, Nat.add_mul_div_right _ _ hB, Nat.add_mul_mod_self_right, Nat.div_eq_of_lt hr,
    Nat.mod_eq_of_lt hr, Nat.zero_add]
  exact ⟨rfl, rfl⟩

theorem bitrev_zero (i : Nat) : bitrev 0 i = 0 := rfl

theorem bitrev_succ (b i : Nat) : bitrev (b + 1) i = i % 2 * 2 ^ b + bitrev b (i / 2) := rfl

theorem bitrev_arg_zero (b : Nat) : bitrev b 0 = 0 := by
  induction b with
  | zero => rfl
  | succ b ih => rw [bitrev_succ, ih, Nat.zero_mod, Nat.zero_mul]

theorem bitrev_one (i : Nat) : bitrev 1 i = i % 2 := by
  rw [bitrev_succ, bitrev_zero, Nat.pow_zero, Nat.mul_one, Nat.add_zero]

theorem bitrev_two_mul (b q : Nat) : bitrev (b + 1) (2 * q) = bitrev b q := by
  rw [bitrev_succ, Nat.mul_mod_right, Nat.zero_mul, Nat.zero_add, Nat.mul_div_cancel_left _ Nat.two_pos]

theorem bitrev_two_mul_add_one (b q : Nat) : bitrev (b + 1) (2 * q + 1) = 2 ^ b + bitrev b q := by
  rw [bitrev_succ, Nat.mul_add_mod, Nat.mul_add_div Nat.two_pos]
  show 1 * 2 ^ b + bitrev b (q + 0) = _
  rw [Nat.one_mul, Nat.add_zero]

theorem bitrev_lt (b i : Nat) : bitrev b i < 2 ^ b := by
  induction b generalizing i with
  | zero => exact Nat.one_pos
  | succ b ih =>
    rw [bitrev_succ, Nat.pow_succ]
    exact lt_mul_of_digits _ _ _ 2 (Nat.mod_lt _ Nat.two_pos) (ih _)

theorem bitrev_mod (b i : Nat) : bitrev b (i % 2 ^ b) = bitrev b i := by
  induction b generalizing i with
  | zero => rfl
  | succ b ih =>
    rw [bitrev_succ, bitrev_succ, Nat.pow_succ', Nat.mod_mul_right_mod, Nat.mod_mul_right_div_self, ih]

theorem bitrev_add (a b i : Nat) :
    bitrev (a + b) i = bitrev a (i / 2 ^ b) + bitrev b (i % 2 ^ b) * 2 ^ a := by
  induction b generalizing i with
  | zero => rw [bitrev_zero, Nat.zero_mul, Nat.pow_zero, Nat.div_one]; rfl
  | succ b ih =>
    rw [← Nat.add_assoc, bitrev_mod, bitrev_succ, bitrev_succ, ih (i / 2), bitrev_mod,
      Nat.div_div_eq_div_mul, ← Nat.pow_succ', Nat.add_mul, Nat.mul_assoc, ← Nat.pow_add, Nat.add_comm b a,
      Nat.add_left_comm]

theorem bitrev_involutive (b i : Nat) (h : i < 2 ^ b) : bitrev b (bitrev b i) = i := by
  induction b generalizing i with
  | zero => rw [bitrev_zero]; exact (Nat.lt_one_iff.1 h).symm
  | succ b ih =>
    have hi2 : i / 2 < 2 ^ b := Nat.div_lt_of_lt_mul (by rwa [Nat.pow_succ'] at h)
    obtain ⟨hdiv, hmod⟩ := divmod_of_eq _ _ _ _ (bitrev_succ b i) (bitrev_lt b (i / 2))
    rw [Nat.add_comm b 1, bitrev_add 1 b, Nat.add_comm 1 b, hdiv, hmod, ih _ hi2, bitrev_one,
      Nat.mod_mod, Nat.pow_one]
    exact Nat.mod_add_div' i 2

theorem bitrev_small : ∀ d m : Nat, d ≤ 1 → m < 2 ^ d → bitrev d m = m
  | 0, _, _, hm => (Nat.lt_one_iff.1 hm).symm
  | 1, _, _, hm => (bitrev_one _).trans (Nat.mod_eq_of_lt hm)

/-- the chunked map on widths `lb_num_chunks = a`, `lb_chunk_size = a + d`: with `H` the reversed
chunk index and `L = m·2^a + l` the position in the chunk, the three steps take
`(i/2^(a+d), m, l)` to `(H, m, l)`, to `(l, m, H)`, to `(bitrev l, m, H)` -/
theorem chunked_core (a d i : Nat) (hd : d ≤ 1) :
    chunkedMap (a + (a + d)) i = bitrev (a + (a + d)) i := by
  have hnc : (a + (a + d)) / 2 = a := by omega
  have hcs : a + (a + d) - a = a + d := Nat.add_sub_cancel_left _ _
  have hdd : a + d - a = d := Nat.add_sub_cancel_left _ _
  have hPD : 2 ^ (a + d) = 2 ^ a * 2 ^ d := Nat.pow_add 2 a d
  have hL : i % 2 ^ (a + d) < 2 ^ a * 2 ^ d := hPD ▸ Nat.mod_lt _ (Nat.two_pow_pos _)
  have hm : i % 2 ^ (a + d) / 2 ^ a < 2 ^ d := Nat.div_lt_of_lt_mul hL
  have hl : i % 2 ^ (a + d) % 2 ^ a < 2 ^ a := Nat.mod_lt _ (Nat.two_pow_pos _)
  have hH := bitrev_lt a (i / 2 ^ (a + d))
  have eL := Nat.div_add_mod' (i % 2 ^ (a + d)) (2 ^ a)
  rw [bitrev_add a (a + d), Nat.add_comm a d, bitrev_add d a, Nat.add_comm d a,
    bitrev_small d _ hd hm]
  unfold chunkedMap
  simp only [hnc, hcs, hdd]
  generalize bitrev a (i / 2 ^ (a + d)) = H at hH ⊢
  generalize i % 2 ^ (a + d) = L at hL hm hl eL ⊢
  generalize L / 2 ^ a = m at hm eL ⊢
  generalize L % 2 ^ a = l at hl eL ⊢
  rw [hPD]
  generalize 2 ^ a = P at *
  generalize 2 ^ d = D at *
  subst eL
  have x1 := divmod_of_eq (H * (P * D) + (m * P + l)) H (P * D) (m * P + l) rfl
    (lt_mul_of_digits m l P D hm hl)
  have x1' := divmod_of_eq (H * (P * D) + (m * P + l)) (H * D + m) P l
    (by rw [Nat.add_mul, Nat.mul_assoc, Nat.mul_comm D P, Nat.add_assoc]) hl
  have x1'' := divmod_of_eq (H * D + m) H D m rfl hm
  have x2 := divmod_of_eq (l * (P * D) + m * P + H) l (P * D) (m * P + H) (Nat.add_assoc _ _ _)
    (lt_mul_of_digits m H P D hm hH)
  rw [x1.1, x1'.2, x1'.1, x1''.2, x2.1, x2.2, Nat.add_mul, Nat.mul_assoc, Nat.mul_comm D P,
    Nat.add_comm (_ * (P * D)), Nat.add_right_comm, Nat.add_comm _ H]

theorem chunkedMap_eq_bitrev (lbN i : Nat) : chunkedMap lbN i = bitrev lbN i := by
  obtain ⟨a, d, hd, rfl⟩ : ∃ a d, d ≤ 1 ∧ lbN = a + (a + d) := ⟨lbN / 2, lbN % 2, by omega, by omega⟩
  exact chunked_core a d i hd

end P2.Lemmas.C15
