/-
Helper lemmas for the L0 Goldilocks model: branch arithmetic over plain `Nat`s and thin connecting
proofs.  Core Lean only.

Style: a wrapping step is described additively (`a + b = 2^64 + c` rather than `c = a + b - 2^64`), and a
congruence modulo `P` by naming the multiple (`mod_of_add_mul`); the arithmetic side goals then have
neither truncated subtraction nor `%`.
-/
import P2.Model.Goldilocks
import P2.Model.GlExt

namespace P2.L0

-- literal spellings of the constants (so that `omega`/`lia` see numerals, not opaque constants)
namespace Lit
scoped notation "Wl" => 18446744073709551616
scoped notation "Pl" => 18446744069414584321
scoped notation "El" => 4294967295
scoped notation "W32l" => 4294967296
scoped notation "W128l" => 340282366920938463463374607431768211456
scoped notation "W160l" => 1461501637330902918203684832716283019655932542976
/-- `(2^64 - 1)^2`, the largest product of two limbs -/
scoped notation "Ml" => 340282366920938463426481119284349108225
end Lit
open Lit

def Good (r : Res) (x : Nat) : Prop :=
  r.trap = false ∧ r.val < Wl ∧ r.val % Pl = x % Pl

theorem Good.congr {r : Res} {x y : Nat} (h : Good r x) (e : x % Pl = y % Pl) : Good r y :=
  ⟨h.1, h.2.1, h.2.2.trans e⟩

theorem mod_of_add_mul {v x : Nat} (k : Nat) (h : v + k * Pl = x) : v % Pl = x % Pl :=
  h ▸ (Nat.add_mul_mod_self_right v k Pl).symm

theorem mod_cancel {v x s p : Nat} (h : (v + s) % p = (x + s) % p) : v % p = x % p := by
  have h' : ((v : Int) + s) % p = ((x : Int) + s) % p := by exact_mod_cast h
  exact_mod_cast (Int.emod_add_cancel_right _).mp h'

theorem Good.bind {r : Res} {f : Nat → Res} {x y : Nat} (hr : Good r x)
    (hf : ∀ v, v < Wl → v % Pl = x % Pl → Good (f v) y) : Good (r.bind f) y := by
  obtain ⟨h1, h2, h3⟩ := hr
  obtain ⟨g1, g2, g3⟩ := hf r.val h2 h3
  refine ⟨?_, g2, g3⟩
  show (r.trap || (f r.val).trap) = false
  rw [h1, g1]
  rfl

theorem good_mk {v x : Nat} (hv : v < Wl) (h : v % Pl = x % Pl) : Good ⟨v, false⟩ x :=
  ⟨rfl, hv, h⟩

theorem oadd64_of_lt {a b : Nat} (h : a + b < Wl) : oadd64 a b = (a + b, false) := by
  show ((a + b) % Wl, decide (Wl ≤ a + b)) = _
  rw [Nat.mod_eq_of_lt h, decide_eq_false (Nat.not_le_of_lt h)]

theorem oadd64_wrap {a b c : Nat} (h : a + b = Wl + c) (hc : c < Wl) : oadd64 a b = (c, true) := by
  show ((a + b) % Wl, decide (Wl ≤ a + b)) = _
  rw [h, Nat.add_mod_left, Nat.mod_eq_of_lt hc, decide_eq_true (Nat.le_add_right _ _)]

theorem osub64_of_le {a b c : Nat} (h : a = b + c) : osub64 a b = (c, false) := by
  rw [osub64, if_pos (h ▸ Nat.le_add_right b c), h, Nat.add_sub_cancel_left]

theorem osub64_wrap {a b c : Nat} (h : a + Wl = b + c) (hlt : a < b) : osub64 a b = (c, true) := by
  rw [osub64, if_neg (Nat.not_le_of_lt hlt)]
  show (a + Wl - b, true) = _
  rw [h, Nat.add_sub_cancel_left]

theorem exists_wrap (a : Nat) {b : Nat} (hb : b ≤ Wl) : ∃ c, a + Wl = b + c :=
  ⟨a + Wl - b, (Nat.add_sub_cancel' (Nat.le_trans hb (Nat.le_add_left _ _))).symm⟩

theorem cadd64_of_lt {a b : Nat} (h : a + b < Wl) : cadd64 a b = ⟨a + b, false⟩ := by
  show (⟨(a + b) % Wl, decide (Wl ≤ a + b)⟩ : Res) = _
  rw [Nat.mod_eq_of_lt h, decide_eq_false (Nat.not_le_of_lt h)]

theorem csub64_of_le {a b c : Nat} (h : a = b + c) : csub64 a b = ⟨c, false⟩ := by
  rw [csub64, if_pos (h ▸ Nat.le_add_right b c), h, Nat.add_sub_cancel_left]

theorem glAdd_good (a b : Nat) (ha : a < Wl) (hb : b < Wl) : Good (glAdd a b) (a + b) := by
  unfold Good glAdd
  by_cases h1 : a + b < Wl
  · rw [oadd64_of_lt h1]
    simp only [Bool.false_eq_true, ↓reduceIte]
    rw [oadd64_of_lt (a := a + b) (b := 0) h1]
    exact ⟨rfl, h1, rfl⟩
  · obtain ⟨c, hc⟩ := Nat.exists_eq_add_of_le (Nat.le_of_not_lt h1)
    rw [oadd64_wrap hc (by lia)]
    simp only [↓reduceIte, EPS]
    by_cases h2 : c + El < Wl
    · rw [oadd64_of_lt h2]
      simp only [Bool.false_eq_true, ↓reduceIte]
      exact ⟨trivial, h2, mod_of_add_mul 1 (by lia)⟩
    · obtain ⟨e, he⟩ := Nat.exists_eq_add_of_le (Nat.le_of_not_lt h2)
      rw [oadd64_wrap he (by lia)]
      simp only [↓reduceIte]
      rw [cadd64_of_lt (by lia)]
      have h3 : Pl < a := by lia
      have h4 : Pl < b := by lia
      simp only [P, h3, h4, decide_true, Bool.and_self, Bool.not_true, Bool.or_self]
      exact ⟨trivial, by lia, mod_of_add_mul 2 (by lia)⟩

theorem glSub_good (a b : Nat) (ha : a < Wl) (hb : b < Wl) :
    (glSub a b).trap = false ∧ (glSub a b).val < Wl ∧ ((glSub a b).val + b) % Pl = a % Pl := by
  unfold glSub
  by_cases h1 : b ≤ a
  · obtain ⟨c, hc⟩ := Nat.exists_eq_add_of_le h1
    rw [osub64_of_le hc]
    simp only [Bool.false_eq_true, ↓reduceIte]
    rw [osub64_of_le (Nat.zero_add c).symm]
    simp only [Bool.false_eq_true, ↓reduceIte, true_and]
    exact ⟨by lia, by rw [hc, Nat.add_comm]⟩
  · obtain ⟨c, hc⟩ := exists_wrap a (Nat.le_of_lt hb)
    rw [osub64_wrap hc (by lia)]
    simp only [↓reduceIte, EPS]
    by_cases h2 : El ≤ c
    · obtain ⟨e, he⟩ := Nat.exists_eq_add_of_le h2
      rw [osub64_of_le he]
      simp only [Bool.false_eq_true, ↓reduceIte, true_and]
      exact ⟨by lia, (mod_of_add_mul 1 (by lia)).symm⟩
    · obtain ⟨f, hf⟩ := exists_wrap c (b := El) (by decide)
      obtain ⟨g, hg⟩ : ∃ g, f = El + g := ⟨f - El, by lia⟩
      have h3 : a < El - 1 := by lia
      have h4 : Pl < b := by lia
      rw [osub64_wrap hf (by lia)]
      simp only [↓reduceIte, P, h3, h4, decide_true, Bool.and_self, Bool.not_true, Bool.or_false]
      rw [csub64_of_le hg]
      simp only [true_and]
      exact ⟨by lia, (mod_of_add_mul 2 (by lia)).symm⟩

theorem toCanonical_eq (a : Nat) (ha : a < Wl) : toCanonical a = a % Pl := by
  unfold toCanonical
  rw [show P = Pl from rfl]
  by_cases h : Pl ≤ a
  · rw [if_pos h, Nat.mod_eq_sub_mod h, Nat.mod_eq_of_lt (by lia)]
  · rw [if_neg h, Nat.mod_eq_of_lt (Nat.lt_of_not_le h)]

theorem glNeg_good (a : Nat) (ha : a < Wl) :
    (glNeg a).trap = false ∧ (glNeg a).val < Pl ∧ ((glNeg a).val + a) % Pl = 0 := by
  unfold glNeg
  rw [toCanonical_eq a ha]
  by_cases h : a % Pl = 0
  · rw [if_pos h]
    exact ⟨rfl, by decide, (Nat.zero_add a).symm ▸ h⟩
  · have hlt : a % Pl < Pl := Nat.mod_lt a (by decide)
    obtain ⟨c, hc⟩ := Nat.exists_eq_add_of_le (Nat.le_of_lt hlt)
    rw [if_neg h, show P = Pl from rfl, csub64_of_le hc]
    refine ⟨rfl, by lia, ?_⟩
    show (c + a) % Pl = 0
    lia

/-- `add_no_canonicalize_trashing_input`: fine as long as `x + y < 2^64 + P`. -/
theorem addNoCanon_spec (x y : Nat) (hxy : x + y < 36893488143124135937) :
    (addNoCanon x y).trap = false ∧ (addNoCanon x y).val < Wl ∧
      ((addNoCanon x y).val = x + y ∨ (addNoCanon x y).val + Pl = x + y) := by
  unfold addNoCanon
  by_cases h1 : x + y < Wl
  · rw [oadd64_of_lt h1]
    simp only [Bool.false_eq_true, ↓reduceIte]
    rw [cadd64_of_lt (a := x + y) (b := 0) h1]
    exact ⟨rfl, h1, Or.inl rfl⟩
  · obtain ⟨c, hc⟩ := Nat.exists_eq_add_of_le (Nat.le_of_not_lt h1)
    have h2 : c + El < Wl := by lia
    rw [oadd64_wrap hc (by lia)]
    simp only [↓reduceIte, EPS]
    rw [cadd64_of_lt h2]
    exact ⟨rfl, h2, Or.inr (by lia)⟩

theorem reduce96_good (xlo xhi : Nat) (h1 : xlo < Wl) (h2 : xhi < W32l) :
    Good (reduce96 xlo xhi) (xlo + xhi * Wl) := by
  have ht : xhi * El < Wl := by lia
  obtain ⟨a1, a2, a3⟩ := addNoCanon_spec xlo (xhi * El) (by lia)
  unfold Good reduce96
  simp only [EPS, W64]
  rw [Nat.mod_eq_of_lt ht, a1]
  simp only [Nat.not_le_of_lt ht, decide_false, Bool.or_false, true_and]
  refine ⟨a2, ?_⟩
  rcases a3 with h | h
  · exact mod_of_add_mul xhi (by lia)
  · exact mod_of_add_mul (xhi + 1) (by lia)

/-- common tail of `reduce128` / `reduce160` -/
def redTail (xlo s m : Nat) : Res :=
  let b := osub64 xlo s
  let t0 : Res := if b.2 then csub64 b.1 EPS else ⟨b.1, false⟩
  let t1 := m * EPS
  let r := addNoCanon t0.val (t1 % W64)
  ⟨r.val, r.trap || t0.trap || decide (W64 ≤ t1)⟩

theorem reduce128_eq (x : Nat) : reduce128 x = redTail (x % Wl) (x / Wl / W32l) (x / Wl % W32l) := rfl

/-- (`79228162514264337593543950336 = 2^96`) -/
theorem reduce160_eq (xlo128 xhi32 : Nat) :
    reduce160 xlo128 xhi32 =
      ⟨(redTail (xlo128 % Wl) ((xlo128 / 79228162514264337593543950336 + xhi32 * W32l) % Wl)
          (xlo128 / Wl % W32l)).val,
       (redTail (xlo128 % Wl) ((xlo128 / 79228162514264337593543950336 + xhi32 * W32l) % Wl)
          (xlo128 / Wl % W32l)).trap ||
        decide (Wl ≤ xlo128 / 79228162514264337593543950336 + xhi32 * W32l)⟩ := by
  -- `rfl` alone unfolds the two sides in step and is slow; unfolded first they agree syntactically
  unfold reduce160 redTail
  rfl

theorem redTail_spec (xlo s m : Nat) (h1 : xlo < Wl) (h2 : s ≤ xlo + Pl) (h3 : m < W32l) :
    (redTail xlo s m).trap = false ∧ (redTail xlo s m).val < Wl ∧
      ((redTail xlo s m).val + s) % Pl = (xlo + m * El) % Pl := by
  have ht : m * El < Wl := by lia
  unfold redTail
  simp only [EPS, W64]
  rw [Nat.mod_eq_of_lt ht]
  simp only [Nat.not_le_of_lt ht, decide_false, Bool.or_false]
  by_cases hb : s ≤ xlo
  · obtain ⟨c, hc⟩ := Nat.exists_eq_add_of_le hb
    rw [osub64_of_le hc]
    simp only [Bool.false_eq_true, ↓reduceIte]
    obtain ⟨a1, a2, a3⟩ := addNoCanon_spec c (m * El) (by lia)
    rw [a1]
    refine ⟨rfl, a2, ?_⟩
    rcases a3 with h | h
    · exact congrArg (· % Pl) (by lia)
    · exact mod_of_add_mul 1 (by lia)
  · obtain ⟨c, hc⟩ : ∃ c, xlo + Wl = s + c := ⟨xlo + Wl - s, by lia⟩
    obtain ⟨e, he⟩ : ∃ e, c = El + e := ⟨c - El, by lia⟩
    rw [osub64_wrap hc (by lia)]
    simp only [↓reduceIte]
    rw [csub64_of_le he]
    obtain ⟨a1, a2, a3⟩ := addNoCanon_spec e (m * El) (by lia)
    rw [a1]
    refine ⟨rfl, a2, ?_⟩
    rcases a3 with h | h
    · exact (mod_of_add_mul 1 (by lia)).symm
    · exact congrArg (· % Pl) (by lia)

theorem reduce128_good (x : Nat) (hx : x < W128l) : Good (reduce128 x) x := by
  unfold Good
  rw [reduce128_eq]
  obtain ⟨a1, a2, a3⟩ := redTail_spec (x % Wl) (x / Wl / W32l) (x / Wl % W32l)
    (Nat.mod_lt x (by decide)) (by lia) (Nat.mod_lt _ (by decide))
  -- `2^64 = P + EPS` and `2^96 + 1 = (2^32 + 1) * P`
  exact ⟨a1, a2, mod_cancel (a3.trans
    (mod_of_add_mul (x / Wl % W32l + 4294967297 * (x / Wl / W32l)) (by lia)))⟩

/-- the bound is `2^96 * P` -/
theorem reduce160_good (xlo xhi : Nat) (h1 : xlo < W128l) (h2 : xhi < W32l)
    (h3 : xlo + xhi * W128l < 1461501636990620551361974531767172749817708281856) :
    Good (reduce160 xlo xhi) (xlo + xhi * W128l) := by
  unfold Good
  rw [reduce160_eq]
  have hs : xlo / 79228162514264337593543950336 + xhi * W32l < Wl := by lia
  rw [Nat.mod_eq_of_lt hs]
  obtain ⟨a1, a2, a3⟩ := redTail_spec (xlo % Wl) (xlo / 79228162514264337593543950336 + xhi * W32l)
    (xlo / Wl % W32l) (Nat.mod_lt xlo (by decide)) (by lia) (Nat.mod_lt _ (by decide))
  simp only [a1, Nat.not_le_of_lt hs, decide_false, Bool.or_false, true_and]
  -- `2^64 = P + EPS`, `2^96 + 1 = (2^32 + 1) * P` and `2^128 + 2^32 = (2^64 + 2^32) * P`
  exact ⟨a2, mod_cancel (a3.trans (mod_of_add_mul (xlo / Wl % W32l +
    4294967297 * (xlo / 79228162514264337593543950336) + 18446744078004518912 * xhi) (by lia)))⟩

theorem mul_le_Ml {a b : Nat} (ha : a < Wl) (hb : b < Wl) :
    a * b ≤ Ml :=
  Nat.mul_le_mul (Nat.le_of_lt_succ ha) (Nat.le_of_lt_succ hb)

theorem glMul_good (a b : Nat) (ha : a < Wl) (hb : b < Wl) : Good (glMul a b) (a * b) :=
  reduce128_good (a * b) (Nat.lt_of_le_of_lt (mul_le_Ml ha hb) (by decide))

theorem glSquare_good (a : Nat) (ha : a < Wl) : Good (glSquare a) (a * a) :=
  glMul_good a a ha ha

theorem glMulAcc_good (s x y : Nat) (hs : s < Wl) (hx : x < Wl) (hy : y < Wl) :
    Good (glMulAcc s x y) (s + x * y) := by
  have h := mul_le_Ml hx hy
  have h1 : s + x * y < W128l := by lia
  obtain ⟨a1, a2, a3⟩ := reduce128_good (s + x * y) h1
  unfold Good
  rw [show glMulAcc s x y = ⟨(reduce128 ((s + x * y) % W128l)).val,
      (reduce128 ((s + x * y) % W128l)).trap || decide (W128l ≤ s + x * y)⟩ from rfl,
    Nat.mod_eq_of_lt h1, a1, decide_eq_false (Nat.not_le_of_lt h1)]
  exact ⟨rfl, a2, a3⟩

/-- congruence form: operands known only modulo `P` -/
theorem glMul_good' {a b x y : Nat} (ha : a < Wl) (hb : b < Wl)
    (hx : a % Pl = x % Pl) (hy : b % Pl = y % Pl) : Good (glMul a b) (x * y) :=
  (glMul_good a b ha hb).congr (by rw [Nat.mul_mod, hx, hy, ← Nat.mul_mod])

theorem glSquare_good' {a x : Nat} (ha : a < Wl) (hx : a % Pl = x % Pl) :
    Good (glSquare a) (x * x) :=
  glMul_good' ha ha hx hx

theorem addCanonicalU64_good (a rhs : Nat) (ha : a < Wl) (hr : rhs < Pl) :
    Good (addCanonicalU64 a rhs) (a + rhs) := by
  obtain ⟨a1, a2, a3⟩ := addNoCanon_spec a rhs (by lia)
  refine ⟨a1, a2, ?_⟩
  rcases a3 with h | h
  · exact congrArg (· % Pl) h
  · exact mod_of_add_mul 1 h

theorem subCanonicalU64_good (a rhs : Nat) (ha : a < Wl) (hr : rhs < Pl) :
    (subCanonicalU64 a rhs).trap = false ∧ (subCanonicalU64 a rhs).val < Wl ∧
      ((subCanonicalU64 a rhs).val + rhs) % Pl = a % Pl := by
  rw [show subCanonicalU64 a rhs =
    csub64 (osub64 a rhs).1 (if (osub64 a rhs).2 = true then EPS else 0) from rfl]
  by_cases h1 : rhs ≤ a
  · obtain ⟨c, hc⟩ := Nat.exists_eq_add_of_le h1
    rw [osub64_of_le hc, if_neg Bool.false_ne_true, csub64_of_le (Nat.zero_add c).symm]
    exact ⟨rfl, by lia, by rw [hc, Nat.add_comm]⟩
  · obtain ⟨c, hc⟩ := exists_wrap a (b := rhs) (by lia)
    obtain ⟨e, he⟩ : ∃ e, c = El + e := ⟨c - El, by lia⟩
    rw [osub64_wrap hc (by lia), if_pos rfl, show EPS = El from rfl, csub64_of_le he]
    exact ⟨rfl, by lia, (mod_of_add_mul 1 (by lia)).symm⟩

theorem fromNoncanonicalI64_eq (n : Nat) :
    fromNoncanonicalI64 n =
      ⟨if 9223372036854775808 ≤ n then (Pl + n) % Wl else n,
       decide (Pl ≤ if 9223372036854775808 ≤ n then (Pl + n) % Wl else n)⟩ := rfl

theorem fromNoncanonicalI64_good (n : Nat) (hn : n < Wl) :
    (fromNoncanonicalI64 n).trap = false ∧ (fromNoncanonicalI64 n).val < Pl ∧
      ((fromNoncanonicalI64 n).val : Int) % 18446744069414584321 =
        (if 9223372036854775808 ≤ n then (n : Int) - 18446744073709551616 else (n : Int)) %
          18446744069414584321 := by
  rw [fromNoncanonicalI64_eq]
  by_cases h : 9223372036854775808 ≤ n
  · -- `P + n` wraps once: `n = EPS + c` and `P + EPS = 2^64`
    obtain ⟨c, hc⟩ : ∃ c, n = El + c := ⟨n - El, by lia⟩
    have hc' : c < Pl := by lia
    have hv : (Pl + n) % Wl = c := by
      rw [hc, ← Nat.add_assoc, Nat.add_mod_left, Nat.mod_eq_of_lt (by lia)]
    rw [if_pos h, if_pos h, hv, decide_eq_false (Nat.not_le_of_lt hc')]
    refine ⟨rfl, hc', ?_⟩
    -- `n - 2^64 = c - P`
    rw [← Int.sub_emod_right (c : Int), hc]
    exact congrArg (· % _) (by lia)
  · have hd : n < Pl := by lia
    rw [if_neg h, if_neg h, decide_eq_false (Nat.not_le_of_lt hd)]
    exact ⟨rfl, hd, rfl⟩

end P2.L0
