/-
The row-level system of `P2.Lemmas.LookupTrace`, instantiated at the model's own field `GL2`
(`gl2Field`), IS what `Plonk.checkLookupConstraints` evaluates row by row: the named pieces of
`P2.Lemmas.LookupStructure` (the `let`s of the model, list folds over slot ranges) equal the
`Finset` products / sums of `Slots.lutProd`, `Slots.lutSumProdsMul`, … .
-/
import P2.Lemmas.Alg2
import P2.Lemmas.GL2Field
import P2.Lemmas.LookupTrace
import P2.Lemmas.LookupStructure

namespace P2.Lemmas.LookupTraceGL2
open P2 Finset P2.Lemmas.GL2Field P2.Lemmas.LookupTrace

section folds
variable {K : Type} [Field K]

theorem prod_map_range (f : ℕ → K) (m : ℕ) :
    ((List.range m).map f).prod = ∏ i ∈ range m, f i := rfl

theorem sum_map_range (f : ℕ → K) (m : ℕ) :
    ((List.range m).map f).sum = ∑ i ∈ range m, f i := rfl

/-- the slot range of the model, as a list -/
def rangeList (d n p : ℕ) : List ℕ :=
  (List.range (min ((p + 1) * d) n - p * d)).map (· + p * d)

theorem prod_rangeList (d n p : ℕ) (g : ℕ → K) :
    ((rangeList d n p).map g).prod = ∏ i ∈ chunk d n p, g i := by
  rw [rangeList, List.map_map, prod_map_range, chunk, prod_Ico_eq_prod_range]
  exact prod_congr rfl fun i _ => congrArg g (Nat.add_comm _ _)

theorem sum_rangeList (d n p : ℕ) (g : ℕ → K) :
    ((rangeList d n p).map g).sum = ∑ i ∈ chunk d n p, g i := by
  rw [rangeList, List.map_map, sum_map_range, chunk, sum_Ico_eq_sum_range]
  exact sum_congr rfl fun i _ => congrArg g (Nat.add_comm _ _)

theorem foldl_prod_rangeList (d n p : ℕ) (g : ℕ → K) :
    (rangeList d n p).foldl (fun acc i => acc * g i) 1 = ∏ i ∈ chunk d n p, g i := by
  rw [Alg2.foldl_mul_form _ _ g (fun _ _ => rfl), one_mul, prod_rangeList]

theorem foldl_prod_erase_rangeList (d n p i : ℕ) (g : ℕ → K) :
    (rangeList d n p).foldl (fun acc j => if j ≠ i then acc * g j else acc) 1
      = ∏ j ∈ (chunk d n p).erase i, g j := by
  rw [Alg2.foldl_mul_form _ _ (fun j => if j ≠ i then g j else 1)
    (fun acc j => by rw [mul_ite, mul_one]), one_mul, prod_rangeList,
    ← filter_ne', prod_filter]

theorem foldl_sum_rangeList (d n p : ℕ) (g : ℕ → K) :
    (rangeList d n p).foldl (fun acc i => acc + g i) 0 = ∑ i ∈ chunk d n p, g i := by
  rw [Alg2.foldl_add_form _ _ g (fun _ _ => rfl), zero_add, sum_rangeList]

/-- the model's `Σ_i F_i(∏_{j≠i} g_j)` over a slot range: a fold of folds -/
theorem foldl_sumProds_rangeList (d n p : ℕ) (F : ℕ → K → K) (g : ℕ → K) :
    (rangeList d n p).foldl (fun acc i => acc + F i
        ((rangeList d n p).foldl (fun acc j => if j ≠ i then acc * g j else acc) 1)) 0
      = ∑ i ∈ chunk d n p, F i (∏ j ∈ (chunk d n p).erase i, g j) := by
  simp only [foldl_prod_erase_rangeList]
  exact foldl_sum_rangeList _ _ _ _

end folds

attribute [local instance] gl2Field

namespace LS
export P2.Lemmas.LookupStructure (numSldc sel zRe zx zgx sldcPrev wire numLuSlots numLutSlots
  luDegree lutDegree dAlpha looked looking lutRange luRange lutProd luProd lutProdI luProdI
  luSumProds lutSumProdsMul sumTransition ldcTransition)
end LS

/-- the part of the trace the lookup terms read: per row the wire values and the values
`[zRe, z_0, …, z_{s−1}]` of the lookup polynomials (for one challenge index), and the four
lookup challenges -/
structure Trace where
  c : Plonk.CommonData
  wires : ℕ → List GL2
  zs : ℕ → List GL2
  deltas : List P2.GL

/-- the slot data of a trace: the combinations under challenge A and the multiplicity wires, the
slot counts and the slots per SLDC polynomial exactly as `check_lookup_constraints` computes them
from the configuration and `s` -/
def Trace.slots (t : Trace) (s : ℕ) : Slots GL2 where
  nLut := LS.numLutSlots t.c
  nLu := LS.numLuSlots t.c
  lutDeg := if s = 0 then 0 else (LS.numLutSlots t.c + s - 1) / s
  luDeg := LS.luDegree t.c
  looked := fun r i => LS.looked (t.wires r) t.deltas i
  mult := fun r i => LS.wire (t.wires r) (3 * i + 2)
  looking := fun r i => LS.looking (t.wires r) t.deltas i

/-- the SLDC values of a trace -/
def Trace.z (t : Trace) (r k : ℕ) : GL2 := LS.zx (t.zs r) k

/-- the challenge `α` -/
def Trace.alpha (t : Trace) : GL2 := LS.dAlpha t.deltas

theorem lutRange_eq (t : Trace) (L : Layout) (r : ℕ) (hlen : (t.zs r).length = L.s + 1) (p : ℕ) :
    LS.lutRange t.c (t.zs r) p = rangeList (t.slots L.s).lutDeg (t.slots L.s).nLut p := by
  simp only [LookupStructure.lutRange, LookupStructure.lutDegree, LookupStructure.numSldc, hlen,
    Nat.add_sub_cancel, rangeList, Trace.slots]

theorem luRange_eq (t : Trace) (s : ℕ) (p : ℕ) :
    LS.luRange t.c p = rangeList (t.slots s).luDeg (t.slots s).nLu p := rfl

theorem sldcPrev_eq (t : Trace) (L : Layout) (r : ℕ) (hlen : (t.zs r).length = L.s + 1) (p : ℕ) :
    LS.sldcPrev (t.zs r) (t.zs (r + 1)) p = prev L t.z r p := by
  cases p with
  | zero => simp only [LookupStructure.sldcPrev, LookupStructure.numSldc, hlen, Nat.add_sub_cancel,
      prev, Trace.z, LookupStructure.zgx, LookupStructure.zx, if_true]
  | succ p => rfl

/-- `unfiltered_sum_transition` of the model on row `r` is the `VerifierRows.sre` expression -/
theorem sumTransition_eq (t : Trace) (L : Layout) (r : ℕ) (hlen : (t.zs r).length = L.s + 1)
    (p : ℕ) :
    LS.sumTransition t.c (t.wires r) (t.zs r) (t.zs (r + 1)) t.deltas p
      = (t.slots L.s).lutProd t.alpha r p * (t.z r p - prev L t.z r p)
        - (t.slots L.s).lutSumProdsMul t.alpha r p := by
  rw [LookupStructure.sumTransition, LookupStructure.lutProd, LookupStructure.lutSumProdsMul,
    sldcPrev_eq t L r hlen]
  simp only [LookupStructure.lutProdI, lutRange_eq t L r hlen]
  exact congrArg₂ (· - ·)
    (congrArg (· * _) (foldl_prod_rangeList _ _ _ fun i => t.alpha - (t.slots L.s).looked r i))
    (foldl_sumProds_rangeList _ _ _ (fun i x => (t.slots L.s).mult r i * x)
      fun j => t.alpha - (t.slots L.s).looked r j)

/-- `unfiltered_ldc_transition` of the model on row `r` is the `VerifierRows.ldc` expression -/
theorem ldcTransition_eq (t : Trace) (L : Layout) (r : ℕ) (hlen : (t.zs r).length = L.s + 1)
    (p : ℕ) :
    LS.ldcTransition t.c (t.wires r) (t.zs r) (t.zs (r + 1)) t.deltas p
      = (t.slots L.s).luProd t.alpha r p * (t.z r p - prev L t.z r p)
        + (t.slots L.s).luSumProds t.alpha r p := by
  rw [LookupStructure.ldcTransition, LookupStructure.luProd, LookupStructure.luSumProds,
    sldcPrev_eq t L r hlen]
  simp only [LookupStructure.luProdI, luRange_eq t L.s, Slots.luSumProds, one_mul]
  exact congrArg₂ (· + ·)
    (congrArg (· * _) (foldl_prod_rangeList _ _ _ fun i => t.alpha - (t.slots L.s).looking r i))
    (foldl_sumProds_rangeList _ _ _ (fun _ x => x) fun j => t.alpha - (t.slots L.s).looking r j)

/-- the four lookup selector values on every row are those `selectors_lookup` sets for `L` -/
def SelectorsOf (L : Layout) (sels : ℕ → List GL2) : Prop :=
  ∀ r, LS.sel (sels r) 0 = ind (L.transSre r) ∧ LS.sel (sels r) 1 = ind (L.transLdc r) ∧
    LS.sel (sels r) 2 = ind (L.initSre r) ∧ LS.sel (sels r) 3 = ind (L.lastLdc r)

/-- on every row, the entries of the list `Plonk.checkLookupConstraints` builds (local values: the
row's; next values: the next row's) that involve the SLDC polynomials are zero: positions `0`
(LastLdc), `1` (InitSre) and `4 + #tables + 2·poly (+ 1)` for `poly < s` -/
def ModelRowsVanish (t : Trace) (L : Layout) (sels : ℕ → List GL2) : Prop :=
  ∀ r,
    (Plonk.checkLookupConstraints t.c (t.wires r) (t.zs r) (t.zs (r + 1)) (sels r) t.deltas)[0]?
      = some 0 ∧
    (Plonk.checkLookupConstraints t.c (t.wires r) (t.zs r) (t.zs (r + 1)) (sels r) t.deltas)[1]?
      = some 0 ∧
    ∀ p, p < L.s →
      (Plonk.checkLookupConstraints t.c (t.wires r) (t.zs r) (t.zs (r + 1)) (sels r) t.deltas)[
        4 + (t.c.numLookupSelectors - 4) + 2 * p]? = some 0 ∧
      (Plonk.checkLookupConstraints t.c (t.wires r) (t.zs r) (t.zs (r + 1)) (sels r) t.deltas)[
        4 + (t.c.numLookupSelectors - 4) + 2 * p + 1]? = some 0

end P2.Lemmas.LookupTraceGL2
