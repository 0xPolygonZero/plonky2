/-
C07, `BaseSumGate<B>` (`GateKind.baseSum b l`): wire 0 = sum, wires `1 .. l` = limbs.
Constraint 0 is `Σ_i limb_i · b^i − w0`, constraint `1+i` is the range check `∏_{d<b} (limb_i − d)`.
The generator (`BaseSplitGenerator`) writes limb `i := (s / b^i) % b` where `s` is the canonical
value of wire 0.  Last: C07 on the generated row over `GL` (`baseSum_C07On`), which needs `p ∤ b`
when there are two or more limbs (`baseSum_C07On_fails`).
-/
import P2.Lemmas.C07GenGL
import Mathlib.Algebra.BigOperators.Group.Finset.Basic
import Mathlib.Algebra.BigOperators.GroupWithZero.Finset
import Mathlib.Algebra.BigOperators.Ring.Finset
import Mathlib.Data.ZMod.Basic
set_option linter.unusedSectionVars false
set_option linter.unusedSimpArgs false
set_option linter.unusedVariables false
namespace P2.Lemmas.C07
open P2 P2.Gates
section
variable {K : Type} [Field K] [DecidableEq K] [Inhabited K]

theorem reduceWithPowers_cons (x : K) (xs : List K) (a : K) :
    @FOps.reduceWithPowers K (FOps.ofField K) (x :: xs) a
      = x + a * @FOps.reduceWithPowers K (FOps.ofField K) xs a :=
  (add_comm _ x).trans (congrArg (x + ·) (mul_comm _ a))

theorem reduceWithPowers_map_range (n : Nat) (f : Nat → K) (a : K) :
    @FOps.reduceWithPowers K (FOps.ofField K) ((List.range n).map f) a
      = ∑ i ∈ Finset.range n, f i * a ^ i := by
  induction n generalizing f with
  | zero => rfl
  | succ n ih =>
    rw [List.range_succ_eq_map, List.map_cons, List.map_map, reduceWithPowers_cons, ih,
      Finset.sum_range_succ', Finset.mul_sum, pow_zero, mul_one, add_comm]
    exact congrArg (· + f 0) (Finset.sum_congr rfl fun i _ => by
      rw [Function.comp, pow_succ, mul_left_comm a, mul_comm a])

theorem fopsProd_eq (xs : List K) : @FOps.prod K (FOps.ofField K) xs = xs.prod := by
  simp only [FOps.prod]
  show List.foldl (· * ·) 1 xs = xs.prod
  rw [List.prod_eq_foldl]

theorem fopsProd_map_range (n : Nat) (f : Nat → K) :
    @FOps.prod K (FOps.ofField K) ((List.range n).map f) = ∏ d ∈ Finset.range n, f d := by
  rw [fopsProd_eq]
  induction n with
  | zero => simp
  | succ n ih => rw [List.range_succ, List.map_append, List.prod_append, ih, Finset.prod_range_succ]; simp

theorem baseSum_con0 (b l : Nat) (v : EvalVars K) :
    con (.baseSum b l) v 0
      = (∑ i ∈ Finset.range l, v.wires[1 + i]! * (b : K) ^ i) - v.wires[0]! := by
  simp only [con, evalF, GateKind.evalUnfiltered, evalBaseSum, List.getD_cons_zero]
  rw [reduceWithPowers_map_range]
  rfl

theorem baseSum_con_succ' (b l : Nat) (v : EvalVars K) (i : Nat) :
    con (.baseSum b l) v (1 + i)
      = if i < l then ∏ d ∈ Finset.range b, (v.wires[1 + i]! - (d : K)) else 0 := by
  simp only [con, evalF, GateKind.evalUnfiltered, evalBaseSum, Nat.add_comm 1 i, List.getD_cons_succ,
    List.map_map, getD_map_range]
  split
  · simp only [Function.comp]
    rw [fopsProd_map_range, Nat.add_comm i 1]
    rfl
  · rfl

theorem baseSum_con_succ (b l : Nat) (v : EvalVars K) (i : Nat) (hi : i < l) :
    con (.baseSum b l) v (1 + i) = ∏ d ∈ Finset.range b, (v.wires[1 + i]! - (d : K)) := by
  rw [baseSum_con_succ', if_pos hi]

theorem base_pos_of_lt_pow {b l s : Nat} (hs : s < b ^ l) (hl : 0 < l) : 0 < b :=
  Nat.pos_of_ne_zero fun hb => Nat.not_lt_zero s (by rw [hb, Nat.zero_pow hl] at hs; exact hs)

theorem sum_digits_eq_mod (b s l : Nat) :
    ∑ i ∈ Finset.range l, (s / b ^ i % b) * b ^ i = s % b ^ l := by
  induction l with
  | zero => simp [Nat.mod_one]
  | succ l ih => rw [Finset.sum_range_succ, ih, Nat.mod_pow_succ, Nat.mul_comm]

theorem rangeCheck_natCast (b d : Nat) (hd : d < b) :
    ∏ e ∈ Finset.range b, (((d : ℕ) : K) - (e : K)) = 0 :=
  Finset.prod_eq_zero (Finset.mem_range.2 hd) (sub_self _)

theorem rangeCheck_root (b : Nat) (x : K) (h : ∏ e ∈ Finset.range b, (x - (e : K)) = 0) :
    ∃ d, d < b ∧ x = (d : K) := by
  obtain ⟨d, hd, h0⟩ := Finset.prod_eq_zero_iff.1 h
  exact ⟨d, Finset.mem_range.1 hd, sub_eq_zero.1 h0⟩

theorem baseSum_con0_natCast (b l : Nat) (v : EvalVars K) (d : Nat → Nat)
    (hl : ∀ i, i < l → v.wires[1 + i]! = (d i : K)) :
    con (.baseSum b l) v 0 = ((∑ i ∈ Finset.range l, d i * b ^ i : ℕ) : K) - v.wires[0]! := by
  rw [baseSum_con0, Nat.cast_sum]
  exact congrArg (· - _) (Finset.sum_congr rfl fun i hi => by
    rw [hl i (Finset.mem_range.1 hi), Nat.cast_mul, Nat.cast_pow])

/-- `BaseSplitGenerator`'s row satisfies every constraint, in any characteristic, under the
gate's contract `s < b^l` -/
theorem baseSum_gen_sat (b l s : Nat) (hs : s < b ^ l) (v : EvalVars K)
    (h0 : v.wires[0]! = (s : K))
    (hl : ∀ i, i < l → v.wires[1 + i]! = (((s / b ^ i) % b : ℕ) : K)) :
    Sat (.baseSum b l) v :=
  (sat_iff_con _ _).2 fun
    | 0 => by
      rw [baseSum_con0_natCast b l v _ hl, sum_digits_eq_mod, Nat.mod_eq_of_lt hs, h0, sub_self]
    | i + 1 => by
      rw [Nat.add_comm i 1, baseSum_con_succ']
      split
      · next hi =>
        rw [hl i hi]
        exact rangeCheck_natCast _ _ (Nat.mod_lt _ (base_pos_of_lt_pow hs (Nat.zero_lt_of_lt hi)))
      · rfl

/-- the sum constraint is affine in limb `i` with coefficient `b^i` -/
theorem baseSum_con0_diff (b l : Nat) (v v' : EvalVars K) (i : Nat) (hi : i < l)
    (hd : DiffersOnlyAt v v' (1 + i)) :
    con (.baseSum b l) v' 0 - con (.baseSum b l) v 0
      = (v'.wires[1 + i]! - v.wires[1 + i]!) * (b : K) ^ i := by
  rw [baseSum_con0, baseSum_con0, hd.same 0 (by omega), sub_sub_sub_cancel_right,
    ← Finset.sum_sub_distrib,
    Finset.sum_eq_single i
      (fun j _ hj => by rw [hd.same (1 + j) fun h => hj (Nat.add_left_cancel h), sub_self])
      (fun h => absurd (Finset.mem_range.2 hi) h), sub_mul]

/-- changing limb wire `1+i` of a row on which the sum constraint (index 0) vanishes makes it
non-zero, PROVIDED `(b : K)^i ≠ 0` -/
theorem baseSum_pinned (b l : Nat) (v v' : EvalVars K) (i : Nat) (hi : i < l)
    (hb : (b : K) ^ i ≠ 0)
    (hd : DiffersOnlyAt v v' (1 + i)) (h0 : con (.baseSum b l) v 0 = 0) :
    con (.baseSum b l) v' 0 ≠ 0 := by
  have h := baseSum_con0_diff b l v v' i hi hd
  rw [h0, sub_zero] at h
  rw [h]
  exact mul_ne_zero (sub_ne_zero.2 hd.diff) hb

theorem baseSum_pinned' (b l : Nat) (v v' : EvalVars K) (i : Nat) (hi : i < l)
    (hb : (b : K) ≠ 0 ∨ i = 0)
    (hd : DiffersOnlyAt v v' (1 + i)) (h0 : con (.baseSum b l) v 0 = 0) :
    con (.baseSum b l) v' 0 ≠ 0 := by
  apply baseSum_pinned b l v v' i hi _ hd h0
  rcases hb with hb | rfl
  · exact pow_ne_zero _ hb
  · rw [pow_zero]; exact one_ne_zero

/-- the side condition is necessary: when `(b : K)^i = 0` (the characteristic divides `b`, `i > 0`)
the sum constraint does not see limb `i` at all -/
theorem baseSum_con0_blind (b l : Nat) (v v' : EvalVars K) (i : Nat) (hi : i < l)
    (hb : (b : K) ^ i = 0) (hd : DiffersOnlyAt v v' (1 + i)) :
    con (.baseSum b l) v' 0 = con (.baseSum b l) v 0 := by
  have h := baseSum_con0_diff b l v v' i hi hd
  rw [hb, mul_zero, sub_eq_zero] at h
  exact h

/-- the range checks of the other limbs do not read wire `1+i` -/
theorem baseSum_others (b l : Nat) (v v' : EvalVars K) (i : Nat)
    (hd : DiffersOnlyAt v v' (1 + i)) (j : Nat) (hj : j ≠ i) :
    con (.baseSum b l) v' (1 + j) = con (.baseSum b l) v (1 + j) := by
  rw [baseSum_con_succ', baseSum_con_succ', hd.same (1 + j) (by omega)]

theorem digits_of_sum (b l : Nat) (d : Nat → Nat) (hd : ∀ j, j < l → d j < b) :
    (∑ j ∈ Finset.range l, d j * b ^ j) < b ^ l ∧
      ∀ i, i < l → (∑ j ∈ Finset.range l, d j * b ^ j) / b ^ i % b = d i := by
  induction l with
  | zero => simp
  | succ l ih =>
    obtain ⟨ihlt, ihd⟩ := ih (fun j hj => hd j (Nat.lt_succ_of_lt hj))
    have hdl : d l < b := hd l (Nat.lt_succ_self l)
    have hbpos : 0 < b ^ l := Nat.pow_pos (Nat.zero_lt_of_lt hdl)
    rw [Finset.sum_range_succ]
    constructor
    · calc (∑ j ∈ Finset.range l, d j * b ^ j) + d l * b ^ l
          < b ^ l + d l * b ^ l := Nat.add_lt_add_right ihlt _
        _ = (d l + 1) * b ^ l := by rw [Nat.succ_mul, Nat.add_comm]
        _ ≤ b * b ^ l := Nat.mul_le_mul_right _ hdl
        _ = b ^ (l + 1) := Nat.pow_succ'.symm
    · intro i hi
      rcases Nat.lt_succ_iff_lt_or_eq.1 hi with hil | rfl
      · rw [← Nat.mod_mul_right_div_self]
        have hdvd : b ^ i * b ∣ d l * b ^ l := by
          rw [← pow_succ]
          exact Dvd.dvd.mul_left (pow_dvd_pow b hil) _
        obtain ⟨c, hc⟩ := hdvd
        rw [hc, Nat.add_mul_mod_self_left, Nat.mod_mul_right_div_self]
        exact ihd i hil
      · rw [Nat.add_mul_div_right _ _ hbpos, Nat.div_eq_of_lt ihlt, Nat.zero_add,
          Nat.mod_eq_of_lt hdl]

/-- uniqueness (the strongest form of pinning, no condition on `b` itself): if `Nat.cast` is injective
on `[0, b^l)` then on a satisfying row whose sum wire is `(s : K)` with `s < b^l` every limb wire IS
the generator's digit -/
theorem baseSum_sat_unique (b l s : Nat) (hs : s < b ^ l)
    (hinj : ∀ m n, m < b ^ l → n < b ^ l → (m : K) = (n : K) → m = n)
    (v : EvalVars K) (hsat : Sat (.baseSum b l) v) (h0 : v.wires[0]! = (s : K)) :
    ∀ i, i < l → v.wires[1 + i]! = (((s / b ^ i) % b : ℕ) : K) := by
  rw [sat_iff_con] at hsat
  have hroot : ∀ i, i < l → ∃ d, d < b ∧ v.wires[1 + i]! = (d : K) := fun i hi =>
    rangeCheck_root b _ (by rw [← baseSum_con_succ _ _ _ _ hi]; exact hsat _)
  choose! d hd using hroot
  obtain ⟨hlt, hdig⟩ := digits_of_sum b l d (fun j hj => (hd j hj).1)
  have hsum : ((∑ j ∈ Finset.range l, d j * b ^ j : ℕ) : K) = (s : K) := by
    have h := hsat 0
    rwa [baseSum_con0_natCast b l v d fun j hj => (hd j hj).2, h0, sub_eq_zero] at h
  have hN := hinj _ _ hlt hs hsum
  intro i hi
  rw [(hd i hi).2, ← hN, hdig i hi]

/-- under the same injectivity hypothesis: a row differing from a satisfying row (with in-range
sum) in one limb wire only does not satisfy the gate -/
theorem baseSum_pinned_sat (b l s : Nat) (hs : s < b ^ l)
    (hinj : ∀ m n, m < b ^ l → n < b ^ l → (m : K) = (n : K) → m = n)
    (v v' : EvalVars K) (i : Nat) (hi : i < l) (hd : DiffersOnlyAt v v' (1 + i))
    (hsat : Sat (.baseSum b l) v) (h0 : v.wires[0]! = (s : K)) :
    ¬ Sat (.baseSum b l) v' := by
  intro hsat'
  apply hd.diff
  rw [baseSum_sat_unique b l s hs hinj v hsat h0 i hi,
    baseSum_sat_unique b l s hs hinj v' hsat' (by rw [hd.same 0 (by omega), h0]) i hi]

/-- the injectivity hypothesis of `baseSum_sat_unique` holds when the characteristic is `0` or at
least `b^l` -/
theorem natCast_inj_of_charP (p : Nat) [CharP K p] (N : Nat) (hN : N ≤ p ∨ p = 0) :
    ∀ m n, m < N → n < N → (m : K) = (n : K) → m = n := by
  intro m n hm hn h
  rw [CharP.natCast_eq_natCast K p] at h
  unfold Nat.ModEq at h
  rcases hN with hN | rfl
  · rwa [Nat.mod_eq_of_lt (by omega), Nat.mod_eq_of_lt (by omega)] at h
  · simpa [Nat.mod_zero] using h

/-! ## the side condition of `baseSum_pinned` is necessary: a counterexample in characteristic 2
(two rows differing only in limb wire 2, both satisfying ALL constraints of `BaseSumGate<2>` with 2 limbs
over a field of characteristic 2, and both with the in-contract sum `0 < 2^2`) -/

section Counterexample

/-- base 2, two limbs, over `ZMod 2`: sum wire 0, limbs `(0, 0)` -/
def cexRow : EvalVars (ZMod 2) := ⟨#[], #[0, 0, 0], #[]⟩
/-- the same row with limb 1 changed to `1` (it "represents" `2 = 0`) -/
def cexRow' : EvalVars (ZMod 2) := ⟨#[], #[0, 0, 1], #[]⟩

theorem cex_differs : DiffersOnlyAt cexRow cexRow' (1 + 1) where
  constants := rfl
  pih := rfl
  same := by
    intro j hj
    match j, hj with
    | 0, _ => rfl
    | 1, _ => rfl
    | 2, h => exact absurd rfl h
    | j + 3, _ => simp [cexRow, cexRow']
  diff := by decide

theorem cex_sat : Sat (.baseSum 2 2) cexRow := by
  unfold Sat; decide

theorem cex_sat' : Sat (.baseSum 2 2) cexRow' := by
  unfold Sat; decide

end Counterexample

end

section OverGL

attribute [local instance] glField

/-- what `BaseSplitGenerator` (the model's `generate`) leaves on the row: the sum wire is the padded
input's wire 0, limb wire `1+i` holds digit `i` of its canonical value -/
theorem generate_baseSum (b l : Nat) (consts wires : Array P2.GL) :
    ((GateKind.baseSum b l).generate consts wires)[0]!
        = (wires ++ Array.replicate (1 + l - wires.size) 0)[0]! ∧
      ∀ i, i < l → ((GateKind.baseSum b l).generate consts wires)[1 + i]!
        = GL.ofNat (((wires ++ Array.replicate (1 + l - wires.size) 0)[0]!).val / b ^ i % b) := by
  simp only [GateKind.generate, GateKind.numWires]
  obtain ⟨_, h2, h3⟩ := foldl_set!_spec l (fun i => 1 + i)
    (fun _ i => GL.ofNat (((wires ++ Array.replicate (1 + l - wires.size) 0)[0]!).val / b ^ i % b)) _
    (fun i j _ _ h => Nat.add_left_cancel h) (fun _ _ _ _ _ => rfl)
  exact ⟨h3 0 fun k _ => by omega, fun i hi =>
    h2 i hi (Nat.lt_of_lt_of_le (Nat.add_lt_add_left hi 1) (size_pad_ge wires _))⟩

/-- under the gate's contract (the canonical value of the sum wire is below `b^l`) the
generated row satisfies every constraint of the executable evaluator over `GL` -/
theorem baseSum_generate_sat (b l : Nat) (consts wires pih : Array P2.GL)
    (hs : ((wires ++ Array.replicate (1 + l - wires.size) 0)[0]!).val < b ^ l) :
    ∀ c ∈ (GateKind.baseSum b l).evalUnfiltered (genRow (.baseSum b l) consts wires pih), c = 0 := by
  rw [evalGL]
  obtain ⟨h0, hl⟩ := generate_baseSum b l consts wires
  refine baseSum_gen_sat b l _ hs _ ?_ ?_
  · show ((GateKind.baseSum b l).generate consts wires)[0]! = _
    rw [h0]
    exact (ZMod.natCast_zmod_val (n := GLP) _).symm
  · intro i hi
    show ((GateKind.baseSum b l).generate consts wires)[1 + i]! = _
    rw [hl i hi]
    rfl

/-- the same with a non-empty input row: the contract reads `wires[0].val < b^l` -/
theorem baseSum_generate_sat' (b l : Nat) (consts wires pih : Array P2.GL) (hw : 0 < wires.size)
    (hs : (wires[0]!).val < b ^ l) :
    ∀ c ∈ (GateKind.baseSum b l).evalUnfiltered (genRow (.baseSum b l) consts wires pih), c = 0 := by
  apply baseSum_generate_sat
  rw [pad_getElem!]
  exact hs

/-- non-vacuity: `5 = 1 + 0·2 + 1·4` with three binary limbs -/
example : ∀ c ∈ (GateKind.baseSum 2 3).evalUnfiltered (genRow (.baseSum 2 3) #[] #[5] #[]), c = 0 :=
  baseSum_generate_sat' 2 3 _ _ _ (by decide) (by decide)

theorem baseSum_generate_size (b l : Nat) (consts wires : Array P2.GL) :
    (GateKind.baseSum b l).numWires ≤ ((GateKind.baseSum b l).generate consts wires).size := by
  have hgen : (GateKind.baseSum b l).generate consts wires =
      (List.range l).foldl (fun ws i => ws.set! (1 + i)
        (GL.ofNat ((((wires ++ Array.replicate ((GateKind.baseSum b l).numWires - wires.size)
          (0 : P2.GL))[0]!).val / b ^ i) % b)))
        (wires ++ Array.replicate ((GateKind.baseSum b l).numWires - wires.size) (0 : P2.GL)) := rfl
  rw [hgen, foldl_size_preserved _ (fun ws a => size_set! _ _ _)]
  exact size_pad_ge wires _

theorem gl_natCast_ne_zero (b : Nat) (h : ¬ GLP ∣ b) : ((b : ℕ) : P2.GL) ≠ 0 := by
  intro h0
  exact h ((ZMod.natCast_eq_zero_iff b GLP).1 h0)

/-- **C07 for the base-sum gate** (`BaseSumGate<B>` with `l` limbs) on its generated row.
Hypotheses:
* `hs` — the gate's contract: the canonical value of the sum wire (wire 0 of the zero-padded input
  row) is below `b^l`. It is needed already for the first half (otherwise the generated digits do
  not add up to the sum wire); for `l > 0` it implies `0 < b`.
* `hb` — `l ≤ 1` or the field characteristic does not divide `b`: the sum constraint (index 0) sees
  limb `i` with coefficient `b^i`; for `i > 0` that is non-zero iff `(b : GL) ≠ 0`
  (see `baseSum_con0_blind` / `baseSum_C07On_fails` for the necessity). -/
theorem baseSum_C07On (b l : Nat) (consts wires pih : Array P2.GL)
    (hb : l ≤ 1 ∨ ¬ GLP ∣ b)
    (hs : ((wires ++ Array.replicate (1 + l - wires.size) 0)[0]!).val < b ^ l) :
    C07On (.baseSum b l) consts wires pih :=
  C07On.intro _ _ _ _ (baseSum_generate_sat b l consts wires pih hs) fun k hk => by
    obtain ⟨i, hi, rfl⟩ := List.mem_map.1 hk
    have hi := List.mem_range.1 hi
    have hsz : 1 + l ≤ ((GateKind.baseSum b l).generate consts wires).size :=
      baseSum_generate_size b l consts wires
    refine ⟨Nat.lt_of_lt_of_le (Nat.add_lt_add_left hi 1) hsz, 0,
      fun v' hd h0 => baseSum_pinned' b l _ v' i hi ?_ hd h0⟩
    rcases hb with hb | hb
    · exact Or.inr (Nat.lt_one_iff.1 (Nat.lt_of_lt_of_le hi hb))
    · exact Or.inl (gl_natCast_ne_zero b hb)

/-- the usual instantiation: a base `0 < b < p` (in plonky2 `B` is a small constant, 2 or 4) -/
theorem baseSum_C07On' (b l : Nat) (consts wires pih : Array P2.GL)
    (hb : 0 < b) (hbp : b < GLP)
    (hs : ((wires ++ Array.replicate (1 + l - wires.size) 0)[0]!).val < b ^ l) :
    C07On (.baseSum b l) consts wires pih :=
  baseSum_C07On b l consts wires pih
    (Or.inr fun h => absurd (Nat.le_of_dvd hb h) (by omega)) hs

/-- with a non-empty input row the contract reads `wires[0].val < b^l` -/
theorem baseSum_C07On'' (b l : Nat) (consts wires pih : Array P2.GL)
    (hb : l ≤ 1 ∨ ¬ GLP ∣ b) (hw : 0 < wires.size) (hs : (wires[0]!).val < b ^ l) :
    C07On (.baseSum b l) consts wires pih := by
  apply baseSum_C07On b l consts wires pih hb
  rw [pad_getElem!]
  exact hs

/-- when the Goldilocks prime divides the base, limb wire 2 of a satisfying row can be replaced by any
value: the sum constraint sees it with coefficient `b = 0`, and its range check `∏_{e<b} (x − e)` has every
field element as a root (`x = (x.val : GL)` with `x.val < p ≤ b`) -/
theorem baseSum_sat_of_dvd (b l : Nat) (hl : 2 ≤ l) (hb : 0 < b) (hdvd : GLP ∣ b)
    (v v' : EvalVars P2.GL) (hd : DiffersOnlyAt v v' (1 + 1)) (hsat : Sat (.baseSum b l) v) :
    Sat (.baseSum b l) v' := by
  rw [sat_iff_con]
  intro j
  rcases Nat.eq_zero_or_pos j with rfl | hj
  · rw [baseSum_con0_blind b l v v' 1 hl
      (by rw [pow_one]; exact (ZMod.natCast_eq_zero_iff b GLP).2 hdvd) hd]
    exact con_eq_zero_of_sat _ _ hsat 0
  · obtain ⟨i, rfl⟩ : ∃ i, j = 1 + i := ⟨j - 1, (Nat.add_sub_cancel' hj).symm⟩
    by_cases hi1 : i = 1
    · subst hi1
      rw [baseSum_con_succ _ _ _ _ hl, ← ZMod.natCast_zmod_val (n := GLP) v'.wires[1 + 1]!]
      exact rangeCheck_natCast b _
        (lt_of_lt_of_le (ZMod.val_lt (n := GLP) _) (Nat.le_of_dvd hb hdvd))
    · rw [baseSum_others b l v v' 1 hd i hi1]
      exact con_eq_zero_of_sat _ _ hsat _

/-- **the side condition `hb` of `baseSum_C07On` is necessary**: when the Goldilocks prime divides
the base and there are at least two limbs, C07 FAILS on every in-contract generated row
(`baseSum_sat_of_dvd`). So `baseSum_C07On` holds iff `l ≤ 1 ∨ ¬ GLP ∣ b`, given the contract `hs`. -/
theorem baseSum_C07On_fails (b l : Nat) (consts wires pih : Array P2.GL)
    (hl : 2 ≤ l) (hdvd : GLP ∣ b)
    (hs : ((wires ++ Array.replicate (1 + l - wires.size) 0)[0]!).val < b ^ l) :
    ¬ C07On (.baseSum b l) consts wires pih := by
  intro hC
  have hsz : 1 + l ≤ ((GateKind.baseSum b l).generate consts wires).size :=
    baseSum_generate_size b l consts wires
  have hx : ∀ x : P2.GL, x + 1 ≠ x := fun x h =>
    one_ne_zero (α := P2.GL) (add_left_cancel (h.trans (add_zero _).symm))
  obtain ⟨c, hc, hcne⟩ := hC.2 (1 + 1) (List.mem_map.2 ⟨1, List.mem_range.2 hl, rfl⟩) _ (hx _)
  rw [evalGL] at hc
  exact hcne (baseSum_sat_of_dvd b l hl (base_pos_of_lt_pow hs (Nat.lt_of_lt_of_le Nat.two_pos hl)) hdvd
    (genRow (.baseSum b l) consts wires pih) _
    (setW_differs _ (1 + 1) _ (Nat.lt_of_lt_of_le (Nat.add_lt_add_left hl 1) hsz) (hx _))
    (by rw [Sat, ← evalGL]; exact baseSum_generate_sat b l consts wires pih hs) c hc)

/-- non-vacuity: `5 = 1 + 0·2 + 1·4`, three binary limbs -/
example : C07On (.baseSum 2 3) #[] #[5] #[] :=
  baseSum_C07On'' 2 3 _ _ _ (Or.inr (by decide)) (by decide) (by decide)

end OverGL
end P2.Lemmas.C07
