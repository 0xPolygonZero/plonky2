/-
The list and array plumbing of `Plonk.evalVanishingPoly`, `Plonk.getChallenges` and
`Plonk.identityHolds` that `P2.Props.C02c` builds on: the gate-constraint accumulation fold entry by
entry, term counts, output lengths of the Fiat–Shamir schedule, and `identityHolds` as one equation
per quotient chunk. Core Lean only.
-/
import P2.Model.Plonk
namespace P2.Lemmas.Vanishing
open P2 P2.Plonk P2.Gates P2.Merkle P2.Challenger

/-- the scalar accumulation step at constraint index `j` (`P2.Props.C02c.addFiltered` is the same
function under the name the property statements use) -/
def addAt (filter : GL2) (cs : List GL2) (j : Nat) (s : GL2) : GL2 :=
  match cs[j]? with
  | some cv => s + filter * cv
  | none => s

/-- one update of the accumulator array: add `filter · value` at the pair's index -/
def bump (filter : GL2) (a : Array GL2) (p : GL2 × Nat) : Array GL2 :=
  if p.2 < a.size then a.set! p.2 (a[p.2]! + filter * p.1) else a

theorem bump_spec (filter : GL2) (a : Array GL2) (p : GL2 × Nat) :
    (bump filter a p).size = a.size ∧ ∀ j, j < a.size →
      (bump filter a p)[j]! = if p.2 = j then a[j]! + filter * p.1 else a[j]! := by
  unfold bump
  split
  · next h =>
    refine ⟨Array.size_setIfInBounds .., fun j hj => ?_⟩
    split
    · next e => subst e; simp [h]
    · next e => simp [Array.getElem!_eq_getD, Array.getD_eq_getD_getElem?, e]
  · next h => exact ⟨rfl, fun j hj => (if_neg fun e : p.2 = j => h (e ▸ hj)).symm⟩

theorem foldl_bump (filter : GL2) (l : List (GL2 × Nat)) : ∀ a : Array GL2,
    (l.foldl (bump filter) a).size = a.size ∧ ∀ j, j < a.size →
      (l.foldl (bump filter) a)[j]! =
        l.foldl (fun s p => if p.2 = j then s + filter * p.1 else s) a[j]! := by
  induction l with
  | nil => exact fun a => ⟨rfl, fun _ _ => rfl⟩
  | cons p t ih =>
    intro a
    obtain ⟨h1, h2⟩ := bump_spec filter a p
    obtain ⟨h3, h4⟩ := ih (bump filter a p)
    exact ⟨h3.trans h1, fun j hj => by rw [List.foldl_cons, h4 j (h1 ▸ hj), h2 j hj]; rfl⟩

theorem foldl_pick_lt (filter : GL2) (j : Nat) (cs : List GL2) : ∀ (k : Nat) (s : GL2), j < k →
    (cs.zipIdx k).foldl (fun s p => if p.2 = j then s + filter * p.1 else s) s = s := by
  induction cs with
  | nil => exact fun _ _ _ => rfl
  | cons c t ih =>
    intro k s h
    rw [List.zipIdx_cons, List.foldl_cons, if_neg (Nat.ne_of_gt h)]
    exact ih (k + 1) s (Nat.lt_succ_of_lt h)

/-- among the pairs of `cs.zipIdx k`, index `k + j` belongs to the `j`-th entry of `cs`, if any -/
theorem foldl_pick (filter : GL2) (cs : List GL2) : ∀ (k j : Nat) (s : GL2),
    (cs.zipIdx k).foldl (fun s p => if p.2 = k + j then s + filter * p.1 else s) s
      = addAt filter cs j s := by
  induction cs with
  | nil => exact fun _ _ _ => rfl
  | cons c t ih =>
    intro k j s
    rw [List.zipIdx_cons, List.foldl_cons]
    cases j with
    | zero => exact (foldl_pick_lt filter k t (k + 1) _ (Nat.lt_succ_self k)).trans (if_pos rfl)
    | succ j =>
      rw [if_neg (Nat.ne_of_lt (Nat.lt_add_of_pos_right (Nat.succ_pos j))),
        ← Nat.succ_add_eq_add_succ]
      exact ih (k + 1) j s

/-- the filter of the gate at index `i` -/
def gateFilter (c : CommonData) (constants : List GL2) (i : Nat) : GL2 :=
  computeFilter i (c.groups.getD (c.selectorIndices.getD i 0) (0, 0))
    (constants.getD (c.selectorIndices.getD i 0) FOps.zero) (c.numSelectors > 1)

/-- one gate's contribution -/
def gateStep (c : CommonData) (constants : List GL2) (vars : EvalVars GL2)
    (acc : Array GL2) (gi : GateKind × Nat) : Array GL2 :=
  (gi.1.evalUnfiltered vars).zipIdx.foldl (bump (gateFilter c constants gi.2)) acc

theorem gateFold_spec (c : CommonData) (constants : List GL2) (vars : EvalVars GL2)
    (l : List (GateKind × Nat)) : ∀ (a : Array GL2),
    (l.foldl (gateStep c constants vars) a).size = a.size ∧
    ∀ j, j < a.size → (l.foldl (gateStep c constants vars) a)[j]! =
      l.foldl (fun s (gi : GateKind × Nat) =>
        addAt (gateFilter c constants gi.2) (gi.1.evalUnfiltered vars) j s) a[j]! := by
  induction l with
  | nil => exact fun a => ⟨rfl, fun _ _ => rfl⟩
  | cons gi t ih =>
    intro a
    obtain ⟨h1, h2⟩ := foldl_bump (gateFilter c constants gi.2) (gi.1.evalUnfiltered vars).zipIdx a
    obtain ⟨h3, h4⟩ := ih (gateStep c constants vars a gi)
    refine ⟨h3.trans h1, fun j hj => ?_⟩
    have hp := foldl_pick (gateFilter c constants gi.2) (gi.1.evalUnfiltered vars) 0 j a[j]!
    rw [Nat.zero_add] at hp
    rw [List.foldl_cons, List.foldl_cons, h4 j (h1 ▸ hj), gateStep, h2 j hj, hp]

/-- the variables every gate is evaluated on -/
def gateVars (c : CommonData) (constants wires : List GL2) (pih : Digest) : EvalVars GL2 :=
  ⟨(constants.drop (c.numSelectors + c.numLookupSelectors)).toArray, wires.toArray,
    (pih.map GL2.ofBase).toArray⟩

theorem evaluateGateConstraints_eq (c : CommonData) (constants wires : List GL2) (pih : Digest) :
    evaluateGateConstraints c constants wires pih =
      ((c.gates.zipIdx).foldl (gateStep c constants (gateVars c constants wires pih))
        (Array.replicate c.numGateConstraints FOps.zero)).toList := rfl

theorem length_flatMap_const {α β : Type} (l : List α) (f : α → List β) (k : Nat)
    (h : ∀ a ∈ l, (f a).length = k) : (l.flatMap f).length = l.length * k := by
  induction l with
  | nil => simp
  | cons a t ih =>
    simp only [List.flatMap_cons, List.length_append, List.length_cons]
    rw [h a (by simp), ih (fun b hb => h b (by simp [hb])), Nat.add_mul, Nat.one_mul, Nat.add_comm]

theorem chunksOf_length' {α : Type} (n : Nat) (xs : List α) :
    (Plonk.chunksOf n xs).length = if n = 0 then 0 else (xs.length + n - 1) / n := by
  unfold Plonk.chunksOf PlonkAlg.chunksOf
  by_cases h : n = 0 <;> simp [h]

theorem checkPartialProducts_length (nums dens partials : List GL2) (zx zgx : GL2) (d : Nat) :
    (checkPartialProducts nums dens partials zx zgx d).length =
      if d = 0 then 0 else (nums.length + d - 1) / d := by
  unfold checkPartialProducts PlonkAlg.checkPartialProducts
  simp only [List.length_map, List.length_range]
  exact chunksOf_length' d nums

theorem checkLookupConstraints_length (c : CommonData) (wires localZs nextZs sels : List GL2)
    (deltas : List GL) :
    (checkLookupConstraints c wires localZs nextZs sels deltas).length =
      4 + (c.numLookupSelectors - 4) + 2 * (localZs.length - 1) := by
  unfold checkLookupConstraints
  simp only [List.length_append, List.length_cons, List.length_nil, List.length_map, List.length_range]
  rw [length_flatMap_const _ _ 2 (fun _ _ => rfl), List.length_range]
  omega

/-- a fold whose step appends `cnt a` entries to the second component -/
theorem foldl_snd_length {σ α β : Type} (f : σ × List β → α → σ × List β) (cnt : α → Nat)
    (h : ∀ acc a, (f acc a).2.length = acc.2.length + cnt a) (l : List α) (acc : σ × List β) :
    (l.foldl f acc).2.length = acc.2.length + (l.map cnt).sum := by
  induction l generalizing acc with
  | nil => rfl
  | cons a t ih => rw [List.foldl_cons, ih, h, List.map_cons, List.sum_cons, Nat.add_assoc]

theorem getN_length (p : Sponge.Perm) (s : St) (n : Nat) : (getN p s n).2.length = n := by
  refine (foldl_snd_length _ (fun _ => 1) (fun _ _ => List.length_append) (List.range n) (s, [])).trans ?_
  rw [List.map_const', List.sum_replicate_nat, List.length_range, Nat.mul_one]
  exact Nat.zero_add n

/-- number of challenges an operation squeezes -/
def opCount : Op → Nat
  | .obs _ => 0
  | .get n => n

theorem run_length (p : Sponge.Perm) (ops : List Op) :
    (run p ops).length = (ops.map opCount).sum :=
  (foldl_snd_length _ opCount (fun acc op => by
    cases op with
    | obs xs => rfl
    | get n => exact List.length_append.trans (congrArg _ (getN_length p acc.1 n))) ops (init p, [])).trans
    (Nat.zero_add _)

theorem caps_count (caps : List (List Digest)) :
    ((caps.flatMap fun cap => [Op.obs (flattenCap cap), Op.get 2]).map opCount).sum = 2 * caps.length := by
  induction caps with
  | nil => rfl
  | cons a t ih =>
    simp only [List.flatMap_cons, List.map_append, List.sum_append, ih, List.length_cons]
    simp [opCount]
    omega

theorem sum_replicate_two (k : Nat) : (List.replicate k 2).sum = 2 * k := by
  rw [List.sum_replicate_nat, Nat.mul_comm]

theorem splitBy_getD_length : ∀ (counts : List Nat) (xs : List GL) (k : Nat),
    counts.sum ≤ xs.length → ((splitBy counts xs).getD k []).length = counts.getD k 0
  | [], _, _, _ => rfl
  | n :: ns, xs, 0, h => by
    rw [List.sum_cons] at h
    exact List.length_take_of_le (Nat.le_trans (Nat.le_add_right n _) h)
  | n :: ns, xs, k + 1, h => by
    rw [List.sum_cons] at h
    exact splitBy_getD_length ns (xs.drop n) k (by rw [List.length_drop]; omega)

theorem GL2.beq_iff (v w : GL2) : (v == w) = true ↔ v = w := by
  cases v
  cases w
  show (_ == _ && _ == _) = true ↔ _
  rw [Bool.and_eq_true, beq_iff_eq, beq_iff_eq, GL2.mk.injEq]

theorem all_zipIdx_iff {α : Type} (l : List α) (f : α × Nat → Bool) :
    (l.zipIdx).all f = true ↔ ∀ i (h : i < l.length), f (l[i], i) = true := by
  rw [List.all_eq_true]
  constructor
  · intro H i h
    apply H
    rw [List.mem_zipIdx_iff_getElem?]
    simp [h]
  · intro H x hx
    rw [List.mem_zipIdx_iff_getElem?] at hx
    obtain ⟨h, hx'⟩ := List.getElem?_eq_some_iff.1 hx
    have := H x.2 h
    rw [hx'] at this
    exact this

theorem chunksOf_getElem {α : Type} (n : Nat) (xs : List α) (i : Nat)
    (h : i < (Plonk.chunksOf n xs).length) :
    (Plonk.chunksOf n xs)[i] = (xs.drop (i * n)).take n := by
  unfold Plonk.chunksOf PlonkAlg.chunksOf at h ⊢
  by_cases hn : n = 0
  · simp [hn] at h
  · simp [hn]

theorem chunksOf_length_exact {α : Type} (n k : Nat) (xs : List α) (hn : 0 < n)
    (hl : xs.length = k * n) : (Plonk.chunksOf n xs).length = k := by
  unfold Plonk.chunksOf PlonkAlg.chunksOf
  have : n ≠ 0 := by omega
  simp only [this, if_false, List.length_map, List.length_range, hl]
  rw [Nat.add_sub_assoc hn, Nat.add_comm, Nat.add_mul_div_right _ _ hn, Nat.div_eq_of_lt (by omega)]
  omega

/-- `identityHolds`, with the `all`/`zipIdx`/`match` plumbing removed -/
theorem identityHolds_iff (c : CommonData) (p : Proof) (pih : Digest) (ch : Challenges) :
    identityHolds c p pih ch = true ↔
      ∀ i, i < (Plonk.chunksOf c.quotientDegreeFactor p.openings.quotientPolys).length →
        (evalVanishingPoly c ch.zeta p.openings pih ch)[i]? =
          some ((FOps.pow ch.zeta (2 ^ c.degreeBits) - FOps.one) *
            Fri.reduceExt ((p.openings.quotientPolys.drop (i * c.quotientDegreeFactor)).take
              c.quotientDegreeFactor) (FOps.pow ch.zeta (2 ^ c.degreeBits))) := by
  unfold identityHolds
  dsimp only
  rw [all_zipIdx_iff]
  refine forall₂_congr fun i h => ?_
  rw [chunksOf_getElem]
  dsimp only
  cases (evalVanishingPoly c ch.zeta p.openings pih ch)[i]? with
  | none => exact ⟨fun h => (nomatch h), fun h => (nomatch h)⟩
  | some v => exact (GL2.beq_iff _ _).trans Option.some_inj.symm

theorem gl2_add_zero_mul (s cv : GL2) : s + (FOps.zero : GL2) * cv = s := by
  show GL2.add s (GL2.mul GL2.zero cv) = s
  cases s with | mk sa sb =>
  cases cv with | mk ca cb =>
  simp only [GL2.add, GL2.mul, GL2.zero]
  rw [Fin.zero_mul ca, Fin.zero_mul cb, Fin.mul_zero, Fin.add_zero, Fin.add_zero, Fin.add_zero]

theorem gl2_zero_add (x : GL2) : (FOps.zero : GL2) + x = x := by
  show GL2.add GL2.zero x = x
  cases x with | mk a b =>
  simp only [GL2.add, GL2.zero]
  rw [Fin.zero_add, Fin.zero_add]

theorem addAt_zero (cs : List GL2) (j : Nat) (s : GL2) : addAt FOps.zero cs j s = s := by
  unfold addAt
  cases cs[j]? with
  | none => rfl
  | some cv => exact gl2_add_zero_mul s cv

theorem foldl_fixed {α β : Type} (F : β → α → β) (s : β) :
    ∀ l : List α, (∀ x ∈ l, F s x = s) → l.foldl F s = s
  | [], _ => rfl
  | a :: t, h => by
    rw [List.foldl_cons, h a List.mem_cons_self]
    exact foldl_fixed F s t fun x hx => h x (List.mem_cons_of_mem _ hx)

/-- a fold in which every step but the one at position `i0` leaves every state alone (selector
semantics: every gate but one has filter zero) -/
theorem foldl_single {α β : Type} (F : β → α → β) (s : β) :
    ∀ (l : List α) (i0 : Nat) (x : α), l[i0]? = some x →
      (∀ i (h : i < l.length), i ≠ i0 → ∀ s', F s' l[i] = s') → l.foldl F s = F s x
  | [], _, _, hx, _ => nomatch hx
  | a :: t, 0, x, hx, h => by
    obtain rfl : a = x := Option.some.inj hx
    refine foldl_fixed F _ t fun y hy => ?_
    obtain ⟨i, hi, rfl⟩ := List.getElem_of_mem hy
    exact h (i + 1) (Nat.succ_lt_succ hi) (Nat.succ_ne_zero i) _
  | a :: t, i0 + 1, x, hx, h => by
    have e : F s a = s := h 0 (Nat.succ_pos _) (Nat.succ_ne_zero i0).symm s
    rw [List.foldl_cons, e]
    exact foldl_single F s t i0 x hx fun i hi hne =>
      h (i + 1) (Nat.succ_lt_succ hi) (mt Nat.succ.inj hne)

end P2.Lemmas.Vanishing
