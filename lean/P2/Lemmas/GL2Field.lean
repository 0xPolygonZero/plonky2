/-
`GL2 = GL[X]/(X² − 7)` as a Mathlib field whose operations are the model's, and the link between
the executable `FOps GL2` instance and `FOps.ofField GL2`.

 1. `7` is not a square modulo `GLP` (Euler's criterion + a kernel-evaluated square-and-multiply);
 2. `gl2Field : Field GL2` with `+ * - neg 0 1 ⁻¹ Nat.cast` DEFINITIONALLY the model's
    `GL2.add/mul/sub/neg/zero/one/inv` and `ofBase ∘ GL.ofNat`;
 3. `fops_GL2_eq : instFOpsGL2 = FOps.ofField GL2` and the derived lemmas;
 4. `GL.primitiveRoot k` is a primitive `2^k`-th root of unity, in `GL` and embedded in `GL2`;
    `Plonk.evalL0` on `GL2` in field terms.
-/
import Mathlib.NumberTheory.LegendreSymbol.Basic
import Mathlib.FieldTheory.Finite.Basic
import Mathlib.Tactic.Ring
import Mathlib.Tactic.LinearCombination
import Mathlib.Tactic.FieldSimp
import Mathlib.SetTheory.Cardinal.Finite
import P2.Lemmas.C07
import Mathlib.Algebra.CharP.Algebra
import Mathlib.GroupTheory.OrderOfElement
import Mathlib.RingTheory.RootsOfUnity.PrimitiveRoots
import P2.Lemmas.PlonkAlg
import P2.Model.GL2
import P2.Model.Plonk

namespace P2.Lemmas.GL2Field
open P2 P2.Lemmas.C07

attribute [local instance] glField
/- `Neg`/`Sub` on `Fin GLP` would otherwise be found as `Fin.neg`/`Fin.instSub`, which `ring` does not
identify (at reducible transparency) with the operations of `ZMod GLP`; definitionally the same -/
local instance (priority := 2000) glNeg : Neg P2.GL := glField.toNeg
local instance (priority := 2000) glSub : Sub P2.GL := glField.toSub

/-- powers in `ZMod GLP` through the kernel-friendly `L0.powMod` -/
theorem natCast_pow_val (a e v : ℕ) (he : e < 2 ^ 64) (h : L0.powMod a e GLP = v) :
    ((a : ℕ) : ZMod GLP) ^ e = ((v : ℕ) : ZMod GLP) := by
  have h1 : ((a ^ e : ℕ) : ZMod GLP) = ((v : ℕ) : ZMod GLP) := by
    rw [ZMod.natCast_eq_natCast_iff', L0.powMod_eq _ _ _ he, h]
    unfold L0.powMod at h
    rw [← h, Nat.mod_mod]
  rw [← h1, Nat.cast_pow]

theorem seven_pow_half : (7 : ZMod GLP) ^ (GLP / 2) = -1 := by
  have h2 : ((18446744069414584320 : ℕ) : ZMod GLP) = -1 := by
    rw [eq_neg_iff_add_eq_zero]
    have : ((18446744069414584320 + 1 : ℕ) : ZMod GLP) = 0 := by
      -- leaves `GLP ∣ 18446744069414584320 + 1`, which the `rfl` that `rw` tries closes: the sum is `GLP`
      rw [ZMod.natCast_eq_zero_iff]
    rw [Nat.cast_add, Nat.cast_one] at this
    exact this
  rw [show GLP / 2 = 9223372034707292160 by norm_num,
    ← Nat.cast_ofNat (n := 7),
    natCast_pow_val 7 9223372034707292160 18446744069414584320 (by norm_num) (by decide +kernel), h2]

theorem seven_nonsquare : ¬ IsSquare (7 : ZMod GLP) := by
  intro h
  have h7 : (7 : ZMod GLP) ≠ 0 := by
    rw [← Nat.cast_ofNat (n := 7), Ne, ZMod.natCast_eq_zero_iff]
    decide
  have h1 := (ZMod.euler_criterion GLP h7).1 h
  rw [seven_pow_half] at h1
  have : Fact (2 < GLP) := ⟨by norm_num⟩
  exact ZMod.neg_one_ne_one h1

theorem ext' : ∀ {x y : GL2}, x.a = y.a → x.b = y.b → x = y
  | ⟨_, _⟩, ⟨_, _⟩, rfl, rfl => rfl

theorem W_eq : GL2.W = ((7 : ℕ) : P2.GL) := rfl
theorem W_eq' : GL2.W = (7 : ZMod GLP) := rfl

theorem add_a (x y : GL2) : (GL2.add x y).a = x.a + y.a := rfl
theorem add_b (x y : GL2) : (GL2.add x y).b = x.b + y.b := rfl
theorem sub_a (x y : GL2) : (GL2.sub x y).a = x.a - y.a := rfl
theorem sub_b (x y : GL2) : (GL2.sub x y).b = x.b - y.b := rfl
theorem neg_a (x : GL2) : (GL2.neg x).a = -x.a := rfl
theorem neg_b (x : GL2) : (GL2.neg x).b = -x.b := rfl
theorem mul_a (x y : GL2) : (GL2.mul x y).a = x.a * y.a + GL2.W * (x.b * y.b) := rfl
theorem mul_b (x y : GL2) : (GL2.mul x y).b = x.a * y.b + x.b * y.a := rfl
theorem zero_a : GL2.zero.a = 0 := rfl
theorem zero_b : GL2.zero.b = 0 := rfl
theorem one_a : GL2.one.a = 1 := rfl
theorem one_b : GL2.one.b = 0 := rfl
theorem ofBase_a (x : P2.GL) : (GL2.ofBase x).a = x := rfl
theorem ofBase_b (x : P2.GL) : (GL2.ofBase x).b = 0 := rfl
theorem inv_a (x : GL2) : (GL2.inv x).a = x.a * (x.a * x.a - GL2.W * (x.b * x.b))⁻¹ := by
  show x.a * GL.inv _ = _
  rw [gl_inv_eq]
theorem inv_b (x : GL2) : (GL2.inv x).b = -(x.b * (x.a * x.a - GL2.W * (x.b * x.b))⁻¹) := by
  show -(x.b * GL.inv _) = _
  rw [gl_inv_eq]

/-- the norm `a² − 7b²` vanishes only at `a = b = 0`, 7 being no square -/
theorem norm_ne_zero (x : GL2) (hx : x ≠ GL2.zero) :
    x.a * x.a - GL2.W * (x.b * x.b) ≠ 0 := by
  intro h
  by_cases hb : x.b = 0
  · rw [hb, mul_zero, mul_zero, sub_zero] at h
    have ha : x.a = 0 := mul_self_eq_zero.1 h
    exact hx (ext' ha hb)
  · apply seven_nonsquare
    refine ⟨x.a * x.b⁻¹, ?_⟩
    have h7 : GL2.W = (x.a * x.b⁻¹) * (x.a * x.b⁻¹) := by
      rw [mul_mul_mul_comm, sub_eq_zero.1 h, ← mul_inv, mul_inv_cancel_right₀ (mul_ne_zero hb hb)]
    exact W_eq'.symm.trans h7

theorem natCast_succ (n : ℕ) :
    GL2.ofBase (GL.ofNat (n + 1)) = GL2.add (GL2.ofBase (GL.ofNat n)) GL2.one := by
  apply ext'
  · simp only [add_a, ofBase_a, one_a, ofNat_GL]
    exact Nat.cast_succ n
  · simp only [add_b, ofBase_b, one_b, add_zero]

theorem mul_inv_cancel' (x : GL2) (hx : x ≠ GL2.zero) : GL2.mul x (GL2.inv x) = GL2.one := by
  have hn := mul_inv_cancel₀ (norm_ne_zero x hx)
  apply ext'
  · rw [mul_a, inv_a, inv_b, one_a, ← hn]
    ring
  · rw [mul_b, inv_a, inv_b, one_b]
    ring

theorem inv_zero' : GL2.inv GL2.zero = GL2.zero := by
  apply ext'
  · rw [inv_a, zero_a, zero_mul]
  · rw [inv_b, zero_b, zero_mul]; ring

/-! The multiplicative identities reduce component by component to ring identities in `GL`, in
which `GL2.W` stays an atom (they hold for every `W`). -/

theorem mul_comm' (x y : GL2) : GL2.mul x y = GL2.mul y x := by
  apply ext' <;> simp only [mul_a, mul_b] <;> ring
theorem one_mul' (x : GL2) : GL2.mul GL2.one x = x := by
  apply ext' <;> simp only [mul_a, mul_b, one_a, one_b] <;> ring
theorem zero_mul' (x : GL2) : GL2.mul GL2.zero x = GL2.zero := by
  apply ext' <;> simp only [mul_a, mul_b, zero_a, zero_b] <;> ring
theorem mul_add' (x y z : GL2) : GL2.mul x (GL2.add y z) = GL2.add (GL2.mul x y) (GL2.mul x z) := by
  apply ext' <;> simp only [mul_a, mul_b, add_a, add_b] <;> ring
theorem mul_assoc' (x y z : GL2) : GL2.mul (GL2.mul x y) z = GL2.mul x (GL2.mul y z) := by
  apply ext' <;> simp only [mul_a, mul_b] <;> ring

/-- `GL2` as a commutative ring; every operation is the model's, by `rfl`. The additive axioms hold
component by component; the right-hand multiplicative ones follow from their mirror images by
commutativity. -/
@[reducible] def gl2CommRing : CommRing GL2 where
  add := GL2.add
  zero := GL2.zero
  mul := GL2.mul
  one := GL2.one
  neg := GL2.neg
  sub := GL2.sub
  natCast := fun n => GL2.ofBase (GL.ofNat n)
  nsmul := @nsmulRec GL2 ⟨GL2.zero⟩ ⟨GL2.add⟩
  zsmul := @zsmulRec GL2 ⟨GL2.zero⟩ ⟨GL2.add⟩ ⟨GL2.neg⟩ (@nsmulRec GL2 ⟨GL2.zero⟩ ⟨GL2.add⟩)
  add_assoc := fun x y z => show GL2.add (GL2.add x y) z = GL2.add x (GL2.add y z) by
    exact ext' (add_assoc x.a y.a z.a) (add_assoc x.b y.b z.b)
  zero_add := fun x => show GL2.add GL2.zero x = x by exact ext' (zero_add x.a) (zero_add x.b)
  add_zero := fun x => show GL2.add x GL2.zero = x by exact ext' (add_zero x.a) (add_zero x.b)
  add_comm := fun x y => show GL2.add x y = GL2.add y x by
    exact ext' (add_comm x.a y.a) (add_comm x.b y.b)
  neg_add_cancel := fun x => show GL2.add (GL2.neg x) x = GL2.zero by
    exact ext' (neg_add_cancel x.a) (neg_add_cancel x.b)
  sub_eq_add_neg := fun x y => show GL2.sub x y = GL2.add x (GL2.neg y) by
    exact ext' (sub_eq_add_neg x.a y.a) (sub_eq_add_neg x.b y.b)
  mul_assoc := mul_assoc'
  one_mul := one_mul'
  mul_one := fun x => show GL2.mul x GL2.one = x by exact (mul_comm' x GL2.one).trans (one_mul' x)
  zero_mul := zero_mul'
  mul_zero := fun x => show GL2.mul x GL2.zero = GL2.zero by
    exact (mul_comm' x GL2.zero).trans (zero_mul' x)
  mul_comm := mul_comm'
  left_distrib := mul_add'
  right_distrib := fun x y z =>
    show GL2.mul (GL2.add x y) z = GL2.add (GL2.mul x z) (GL2.mul y z) by
      rw [mul_comm' (GL2.add x y) z, mul_comm' x z, mul_comm' y z]
      exact mul_add' z x y
  natCast_zero := rfl
  natCast_succ := natCast_succ

/-- `GL2` as a field; `⁻¹` is the model's `GL2.inv`, by `rfl` -/
@[reducible] def gl2Field : Field GL2 where
  toCommRing := gl2CommRing
  inv := GL2.inv
  exists_pair_ne := ⟨GL2.zero, GL2.one, fun h => by
    have := congrArg GL2.a h
    exact absurd this (by decide)⟩
  mul_inv_cancel := mul_inv_cancel'
  inv_zero := inv_zero'
  nnqsmul := _
  nnqsmul_def := fun _ _ => rfl
  qsmul := _
  qsmul_def := fun _ _ => rfl

section Bridge
attribute [local instance] gl2Field

theorem beq_eq (x y : GL2) : (x == y) = decide (x = y) := by
  show (x.a == y.a && x.b == y.b) = decide (x = y)
  by_cases h : x = y
  · subst h; simp
  · rw [decide_eq_false h]
    by_cases ha : x.a = y.a
    · have hb : x.b ≠ y.b := fun hb => h (ext' ha hb)
      simp [hb]
    · simp [ha]

theorem fops_GL2_eq : instFOpsGL2 = FOps.ofField P2.GL2 := by
  unfold instFOpsGL2 FOps.ofField
  congr
  funext x y
  exact beq_eq x y

theorem zero_def : (FOps.zero : GL2) = 0 := rfl
theorem one_def : (FOps.one : GL2) = 1 := rfl
theorem zero_def' : GL2.zero = 0 := rfl
theorem one_def' : GL2.one = 1 := rfl
theorem add_def (x y : GL2) : GL2.add x y = x + y := rfl
theorem mul_def (x y : GL2) : GL2.mul x y = x * y := rfl
theorem sub_def (x y : GL2) : GL2.sub x y = x - y := rfl
theorem neg_def (x : GL2) : GL2.neg x = -x := rfl
theorem inv_def (x : GL2) : GL2.inv x = x⁻¹ := rfl
theorem fops_add (x y : GL2) : @HAdd.hAdd GL2 GL2 GL2 (@instHAdd GL2 instFOpsGL2.toAdd) x y = x + y := rfl
theorem fops_mul (x y : GL2) : @HMul.hMul GL2 GL2 GL2 (@instHMul GL2 instFOpsGL2.toMul) x y = x * y := rfl
theorem fops_sub (x y : GL2) : @HSub.hSub GL2 GL2 GL2 (@instHSub GL2 instFOpsGL2.toSub) x y = x - y := rfl
theorem fops_neg (x : GL2) : @Neg.neg GL2 instFOpsGL2.toNeg x = -x := rfl
theorem fops_inv (x : GL2) : (FOps.inv x : GL2) = x⁻¹ := rfl
theorem fops_ofNat (n : ℕ) : (FOps.ofNat n : GL2) = (n : GL2) := rfl
theorem natCast_def (n : ℕ) : (n : GL2) = GL2.ofBase (GL.ofNat n) := rfl

theorem fops_pow (x : GL2) (n : ℕ) : FOps.pow x n = x ^ n := by
  rw [fops_GL2_eq]; exact C15.pow_eq x n

theorem fops_reduceWithPowers_range (xs : List GL2) (α : GL2) :
    FOps.reduceWithPowers xs α = ∑ i ∈ Finset.range xs.length, xs.getD i 0 * α ^ i := by
  rw [fops_GL2_eq]; exact PlonkAlg.reduce_eq_sum_range xs α

/-- `GL2.ofBase` as a ring homomorphism -/
def ofBaseHom : P2.GL →+* GL2 where
  toFun := GL2.ofBase
  map_one' := rfl
  map_zero' := rfl
  map_mul' := fun x y => show GL2.ofBase (x * y) = GL2.mul (GL2.ofBase x) (GL2.ofBase y) by
    apply ext' <;> simp only [mul_a, mul_b, ofBase_a, ofBase_b] <;> ring
  map_add' := fun x y => show GL2.ofBase (x + y) = GL2.add (GL2.ofBase x) (GL2.ofBase y) by
    exact ext' rfl (add_zero (0 : P2.GL)).symm

theorem ofBaseHom_apply (x : P2.GL) : ofBaseHom x = GL2.ofBase x := rfl

theorem ofBase_pow (x : P2.GL) (n : ℕ) : GL2.ofBase (x ^ n) = (GL2.ofBase x) ^ n := map_pow ofBaseHom x n
theorem ofBase_GLpow (x : P2.GL) (n : ℕ) : GL2.ofBase (GL.pow x n) = (GL2.ofBase x) ^ n := by
  rw [gl_pow_eq, ofBase_pow]

/-- the `GL`-algebra structure with `algebraMap = GL2.ofBase` -/
@[reducible] def gl2Algebra : Algebra P2.GL GL2 := ofBaseHom.toAlgebra

theorem algebraMap_eq : @algebraMap P2.GL GL2 _ _ gl2Algebra = ofBaseHom := rfl

instance gl2CharP : CharP GL2 GLP :=
  haveI : CharP P2.GL GLP := ZMod.charP GLP
  charP_of_injective_ringHom ofBaseHom.injective GLP

theorem natCast_eq_zero_iff (n : ℕ) : (n : GL2) = 0 ↔ GLP ∣ n := CharP.cast_eq_zero_iff GL2 GLP n

theorem natCast_ne_zero (n : ℕ) (h0 : 0 < n) (hn : n < GLP) : (n : GL2) ≠ 0 := by
  rw [Ne, natCast_eq_zero_iff]
  exact fun h => absurd (Nat.le_of_dvd h0 h) (by omega)

theorem two_pow_ne_zero (k : ℕ) : ((2 ^ k : ℕ) : GL2) ≠ 0 := by
  rw [Ne, natCast_eq_zero_iff]
  intro h
  have := (Nat.Prime.dvd_of_dvd_pow glPrime.out h)
  exact absurd (Nat.le_of_dvd (by norm_num) this) (by norm_num)

/-- `GL2 ≃ GL × GL` -/
def equivProd : GL2 ≃ P2.GL × P2.GL where
  toFun := fun x => (x.a, x.b)
  invFun := fun p => ⟨p.1, p.2⟩
  left_inv := fun ⟨_, _⟩ => rfl
  right_inv := fun ⟨_, _⟩ => rfl

instance gl2Fintype : Fintype GL2 := Fintype.ofEquiv _ equivProd.symm

end Bridge

/-- `natCast_pow_val` with the carrier spelt `P2.GL`, as `rw` needs it in goals about `GL` -/
theorem natCast_pow_val_GL (a e v : ℕ) (he : e < 2 ^ 64) (h : L0.powMod a e GLP = v) :
    ((a : ℕ) : P2.GL) ^ e = ((v : ℕ) : P2.GL) := natCast_pow_val a e v he h

theorem pow2Gen_order : orderOf (GL.pow2Gen : P2.GL) = 2 ^ 32 := by
  have e : (GL.pow2Gen : P2.GL) = ((7277203076849721926 : ℕ) : P2.GL) := rfl
  apply orderOf_eq_prime_pow (p := 2) (n := 31)
  · rw [e, show (2 : ℕ) ^ 31 = 2147483648 by norm_num,
      natCast_pow_val_GL 7277203076849721926 2147483648 18446744069414584320 (by norm_num) (by decide +kernel)]
    intro h
    have h1 := (ZMod.natCast_eq_natCast_iff' 18446744069414584320 1 GLP).1 (h.trans Nat.cast_one.symm)
    exact absurd h1 (by norm_num)
  · rw [e, show (2 : ℕ) ^ (31 + 1) = 4294967296 by norm_num,
      natCast_pow_val_GL 7277203076849721926 4294967296 1 (by norm_num) (by decide +kernel), Nat.cast_one]

theorem pow2Gen_primitive : IsPrimitiveRoot (GL.pow2Gen : P2.GL) (2 ^ 32) := by
  rw [← pow2Gen_order]; exact IsPrimitiveRoot.orderOf _

/-- `primitive_root_of_unity(k)` is a primitive `2^k`-th root of unity, `k ≤ 32` -/
theorem primitiveRoot_primitive (k : ℕ) (hk : k ≤ 32) :
    IsPrimitiveRoot (GL.primitiveRoot k : P2.GL) (2 ^ k) := by
  unfold GL.primitiveRoot
  rw [gl_pow_eq]
  apply IsPrimitiveRoot.pow (n := 2 ^ 32) (by norm_num) pow2Gen_primitive
  rw [← pow_add]
  congr 1
  omega

theorem primitiveRoot_ne_zero (k : ℕ) (hk : k ≤ 32) : (GL.primitiveRoot k : P2.GL) ≠ 0 :=
  (primitiveRoot_primitive k hk).ne_zero (by positivity)

/-! A name prefixed `m_` (here and in `P2/Lemmas/GL2Inst.lean`) is a field-generic theorem carried over
to the model's executable operations on `GL2` through `fops_GL2_eq`. -/

section Model
attribute [local instance] gl2Field
open P2.PlonkAlg

theorem ofBase_primitiveRoot_primitive (k : ℕ) (hk : k ≤ 32) :
    IsPrimitiveRoot (GL2.ofBase (GL.primitiveRoot k)) (2 ^ k) :=
  (primitiveRoot_primitive k hk).map_of_injective (f := ofBaseHom) ofBaseHom.injective

theorem m_reduce_zeros_card (terms : List GL2) (h : ∃ t ∈ terms, t ≠ GL2.zero) (S : Finset GL2)
    (hS : ∀ α ∈ S, FOps.reduceWithPowers terms α = GL2.zero) : S.card ≤ terms.length - 1 := by
  have := PlonkAlg.reduce_zeros_card terms h S
  rw [← fops_GL2_eq] at this
  exact this hS

theorem m_reduce_zero_set (terms : List GL2) (h : ∃ t ∈ terms, t ≠ GL2.zero) :
    {α : GL2 | FOps.reduceWithPowers terms α = GL2.zero}.Finite ∧
    {α : GL2 | FOps.reduceWithPowers terms α = GL2.zero}.ncard ≤ terms.length - 1 := by
  have := PlonkAlg.reduce_zero_set terms h
  rw [← fops_GL2_eq] at this
  exact this

theorem m_evalL0_eq (n : ℕ) (x : GL2) :
    Plonk.evalL0 n x = if x = 1 then 1 else (x ^ n - 1) * ((n : GL2) * (x - 1))⁻¹ := by
  have := PlonkAlg.evalL0_eq (K := GL2) n x
  rw [← fops_GL2_eq] at this
  exact this

end Model

end P2.Lemmas.GL2Field
