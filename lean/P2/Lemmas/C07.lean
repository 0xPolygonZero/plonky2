/-
Vocabulary and tools for C07 (gate constraints vs. witness generators): rows whose entries lie in a
Mathlib field (`evalF`, `con`, `Sat`), replacement of a single wire (`setW`, `DiffersOnlyAt`), folds
of array writes to distinct positions (the shape of every generator), indexing into lists built by
`map` and `flatMap` over `List.range`, the two shapes of constraint that pin a value (`w − e`, which
every copy and output constraint has, and `a·w + b`), and the identification of the executable `FOps GL` instance with `FOps.ofField GL`.
-/
import Mathlib.Tactic.Ring
import Mathlib.Tactic.LinearCombination
import Mathlib.Algebra.Field.Basic
import Mathlib.Algebra.Field.ZMod
import P2.Lemmas.FieldOps
import P2.Lemmas.C15
import P2.Model.Gates

namespace P2.Lemmas.C07
open P2 P2.Gates

/-! ## rows, replacement of one wire -/

section Rows
variable {K : Type} [Inhabited K]

/-- replace wire `k` of the row by `x` (a no-op when `k` is outside the row) -/
def setW (v : EvalVars K) (k : Nat) (x : K) : EvalVars K := { v with wires := v.wires.set! k x }

/-- `v'` is `v` with the value of wire `k` (and nothing else the gate can read) changed -/
structure DiffersOnlyAt (v v' : EvalVars K) (k : Nat) : Prop where
  constants : v'.constants = v.constants
  pih : v'.pih = v.pih
  same : ∀ j, j ≠ k → v'.wires[j]! = v.wires[j]!
  diff : v'.wires[k]! ≠ v.wires[k]!

theorem getElem!_set! (a : Array K) (k j : Nat) (x : K) :
    (a.set! k x)[j]! = if j = k ∧ k < a.size then x else a[j]! := by
  simp only [Array.set!, getElem!_def, Array.getElem?_setIfInBounds]
  by_cases h : k = j
  · subst h
    by_cases h2 : k < a.size
    · simp [h2]
    · simp [h2]
  · have : ¬ j = k := fun e => h e.symm
    simp [h, this]

theorem getElem!_set!_self (a : Array K) (k : Nat) (x : K) (h : k < a.size) :
    (a.set! k x)[k]! = x := by rw [getElem!_set!]; simp [h]

theorem getElem!_set!_ne (a : Array K) (k j : Nat) (x : K) (h : j ≠ k) :
    (a.set! k x)[j]! = a[j]! := by rw [getElem!_set!]; simp [h]

omit [Inhabited K] in
@[simp] theorem size_set! (a : Array K) (k : Nat) (x : K) : (a.set! k x).size = a.size := by
  simp [Array.set!]

theorem setW_differs (v : EvalVars K) (k : Nat) (x : K) (hk : k < v.wires.size)
    (hx : x ≠ v.wires[k]!) : DiffersOnlyAt v (setW v k x) k where
  constants := rfl
  pih := rfl
  same := fun j hj => getElem!_set!_ne _ _ _ _ hj
  diff := by simp only [setW]; rw [getElem!_set!_self _ _ _ hk]; exact hx

end Rows

/-! ## folds of writes to distinct positions (the shape of every `run_once`) -/

theorem foldl_size_preserved {α β : Type} (f : Array α → β → Array α)
    (h : ∀ ws a, (f ws a).size = ws.size) (l : List β) (ws : Array α) :
    (l.foldl f ws).size = ws.size := by
  induction l generalizing ws with
  | nil => rfl
  | cons a l ih => rw [List.foldl_cons, ih, h]

theorem foldl_size_preserved_fst {α β σ : Type} (f : Array α × σ → β → Array α × σ)
    (h : ∀ st a, (f st a).1.size = st.1.size) (l : List β) (st : Array α × σ) :
    (l.foldl f st).1.size = st.1.size := by
  induction l generalizing st with
  | nil => rfl
  | cons a l ih => rw [List.foldl_cons, ih, h]

theorem foldl_size_preserved_snd {α β σ : Type} (f : σ × Array α → β → σ × Array α)
    (h : ∀ st a, (f st a).2.size = st.2.size) (l : List β) (st : σ × Array α) :
    (l.foldl f st).2.size = st.2.size := by
  induction l generalizing st with
  | nil => rfl
  | cons a l ih => rw [List.foldl_cons, ih, h]

section Folds
variable {α : Type} [Inhabited α]

/-- A fold of `m ≤ n` steps on an array.  Step `i` writes only positions `j` with `W i j`, distinct
steps write distinct positions, and what step `i` writes is determined by the positions that steps
`i, …, n − 1` do not write.  Then the size is kept, unwritten positions are unchanged, and every
written position holds what its step writes on the FINISHED array (or on any `ws'` that agrees with
it where step `i` may read). -/
theorem foldl_writes (n : Nat) (W : Nat → Nat → Prop) (step : Array α → Nat → Array α)
    (ws0 : Array α) (hsize : ∀ ws i, (step ws i).size = ws.size)
    (hframe : ∀ ws i j, ¬ W i j → (step ws i)[j]! = ws[j]!)
    (hdisj : ∀ i k j, i < n → k < n → W i j → W k j → i = k)
    (hloc : ∀ ws ws' i j, i < n → W i j → ws.size = ws0.size → ws'.size = ws0.size →
      (∀ j, (∀ k, i ≤ k → k < n → ¬ W k j) → ws[j]! = ws'[j]!) →
      (step ws i)[j]! = (step ws' i)[j]!)
    (m : Nat) (hm : m ≤ n) :
    ((List.range m).foldl step ws0).size = ws0.size ∧
    (∀ i j ws', i < m → W i j → ws'.size = ws0.size →
      (∀ j, (∀ k, i ≤ k → k < n → ¬ W k j) → ((List.range m).foldl step ws0)[j]! = ws'[j]!) →
      ((List.range m).foldl step ws0)[j]! = (step ws' i)[j]!) ∧
    (∀ j, (∀ k, k < m → ¬ W k j) → ((List.range m).foldl step ws0)[j]! = ws0[j]!) := by
  induction m with
  | zero => exact ⟨rfl, fun i j _ hi => absurd hi (Nat.not_lt_zero _), fun j _ => rfl⟩
  | succ m ih =>
    obtain ⟨h1, h2, h3⟩ := ih (Nat.le_of_succ_le hm)
    rw [List.range_succ, List.foldl_append, List.foldl_cons, List.foldl_nil]
    refine ⟨(hsize _ _).trans h1, fun i j ws' hi hW hs' hag => ?_, fun j hj => ?_⟩
    · -- step `m ≥ i` only writes where `ws'` is not compared
      have hag' : ∀ j, (∀ k, i ≤ k → k < n → ¬ W k j) →
          ((List.range m).foldl step ws0)[j]! = ws'[j]! := fun j hj =>
        (hframe _ m j (hj m (Nat.le_of_lt_succ hi) hm)).symm.trans (hag j hj)
      rcases Nat.lt_succ_iff_lt_or_eq.1 hi with him | rfl
      · rw [hframe _ _ _ fun hWm => Nat.ne_of_lt him (hdisj i m j (Nat.lt_of_lt_of_le hi hm) hm hW hWm)]
        exact h2 i j ws' him hW hs' hag'
      · exact hloc _ ws' i j hm hW h1 hs' hag'
    · rw [hframe _ _ _ (hj m (Nat.lt_succ_self m))]
      exact h3 j fun k hk => hj k (Nat.lt_succ_of_lt hk)

/-- writes of single values to pairwise distinct positions `p i`, the value of step `i` computed
from positions that steps `i, …, n − 1` do not write: position `p i` ends up holding the value
computed from the FINISHED array -/
theorem foldl_set!_spec (n : Nat) (p : Nat → Nat) (f : Array α → Nat → α) (ws0 : Array α)
    (hp : ∀ i j, i < n → j < n → p i = p j → i = j)
    (hf : ∀ (ws ws' : Array α) i, i < n →
      (∀ j, (∀ k, i ≤ k → k < n → j ≠ p k) → ws[j]! = ws'[j]!) → f ws i = f ws' i) :
    ((List.range n).foldl (fun ws i => ws.set! (p i) (f ws i)) ws0).size = ws0.size ∧
    (∀ i, i < n → p i < ws0.size →
      ((List.range n).foldl (fun ws i => ws.set! (p i) (f ws i)) ws0)[p i]! =
        f ((List.range n).foldl (fun ws i => ws.set! (p i) (f ws i)) ws0) i) ∧
    (∀ j, (∀ k, k < n → j ≠ p k) →
      ((List.range n).foldl (fun ws i => ws.set! (p i) (f ws i)) ws0)[j]! = ws0[j]!) := by
  obtain ⟨h1, h2, h3⟩ := foldl_writes n (fun i j => j = p i)
    (fun ws i => ws.set! (p i) (f ws i)) ws0 (fun _ _ => size_set! _ _ _)
    (fun _ _ _ hj => getElem!_set!_ne _ _ _ _ hj)
    (fun i k _ hi hk hj hj' => hp i k hi hk (hj.symm.trans hj'))
    (fun ws ws' i j hi hj hs hs' h => by
      subst hj
      rw [getElem!_set!, getElem!_set!, hs, hs', hf ws ws' i hi h]
      split
      · rfl
      · next hn =>
        rw [getElem!_neg ws _ (hs ▸ fun h' => hn ⟨rfl, h'⟩), getElem!_neg ws' _ (hs' ▸ fun h' => hn ⟨rfl, h'⟩)])
    n (Nat.le_refl n)
  exact ⟨h1, fun i hi hsz => (h2 i _ _ hi rfl h1 fun _ _ => rfl).trans
    (getElem!_set!_self _ _ _ (h1 ▸ hsz)), h3⟩

/-- `ws'` is `ws` with positions `b, …, b + n - 1` overwritten by `val 0, …, val (n - 1)` -/
structure Wrote (ws ws' : Array α) (b n : Nat) (val : Nat → α) : Prop where
  size : ws'.size = ws.size
  frame : ∀ k, k < b ∨ b + n ≤ k → ws'[k]! = ws[k]!
  get : b + n ≤ ws.size → ∀ i, i < n → ws'[b + i]! = val i

theorem wrote_set! (ws : Array α) (j : Nat) (x : α) : Wrote ws (ws.set! j x) j 1 fun _ => x :=
  ⟨size_set! _ _ _, fun k hk => getElem!_set!_ne _ _ _ _ (by omega),
    fun hj i hi => by rw [Nat.lt_one_iff.1 hi]; exact getElem!_set!_self _ _ _ hj⟩

theorem wrote_foldl (b : Nat) (val : Nat → α) (n : Nat) (ws : Array α) :
    Wrote ws ((List.range n).foldl (fun a i => a.set! (b + i) (val i)) ws) b n val := by
  obtain ⟨h1, h2, h3⟩ := foldl_set!_spec n (fun i => b + i) (fun _ => val) ws
    (fun i j _ _ => Nat.add_left_cancel) (fun _ _ _ _ _ => rfl)
  exact ⟨h1, fun k hk => h3 k fun i hi => by omega, fun hb i hi => h2 i hi (by omega)⟩

end Folds

/-! ## columns laid out in blocks of `s`: column `s·i + a` is offset `a < s` of block `i` -/

theorem block_unique {s a b i k : Nat} (ha : a < s) (hb : b < s) (h : s * i + a = s * k + b) :
    i = k ∧ a = b := by
  have hm := congrArg (· % s) h
  have hd := congrArg (· / s) h
  simp only [Nat.mul_add_mod, Nat.mod_eq_of_lt ha, Nat.mod_eq_of_lt hb] at hm
  simp only [Nat.mul_add_div (Nat.zero_lt_of_lt ha), Nat.div_eq_of_lt ha, Nat.div_eq_of_lt hb,
    Nat.add_zero] at hd
  exact ⟨hd, hm⟩

theorem block_ne {s a b : Nat} (i k : Nat) (ha : a < s) (hb : b < s) (hab : a ≠ b) :
    s * i + a ≠ s * k + b := fun h => hab (block_unique ha hb h).2

theorem block_ne_of_ne {s a b i k : Nat} (hik : i ≠ k) (ha : a < s) (hb : b < s) :
    s * i + a ≠ s * k + b := fun h => hik (block_unique ha hb h).1

theorem block_lt {s b i n : Nat} (hb : b < s) (hi : i < n) : s * i + b < s * n :=
  Nat.lt_of_lt_of_le (Nat.add_lt_add_left hb _) (Nat.mul_le_mul_left s hi)

/-! ## indexing into the constraint lists -/

/-- component `r` of a pair; the constraints on an extension-field wire are listed component by
component, so constraint `2·i + r` is `compAt (…) r` -/
def compAt {K : Type} (p : K × K) : Nat → K
  | 0 => p.1
  | _ => p.2

section Lists
variable {α : Type}

theorem getElem?_map_range (n : Nat) (f : Nat → α) (i : Nat) :
    ((List.range n).map f)[i]? = if i < n then some (f i) else none := by
  rw [List.getElem?_map]
  by_cases h : i < n
  · rw [if_pos h, List.getElem?_range h]; rfl
  · rw [if_neg h, List.getElem?_eq_none (by rw [List.length_range]; exact Nat.le_of_not_lt h)]; rfl

theorem getD_map_range (n : Nat) (f : Nat → α) (i : Nat) (d : α) :
    ((List.range n).map f).getD i d = if i < n then f i else d := by
  rw [List.getD_eq_getElem?_getD, getElem?_map_range]
  by_cases h : i < n
  · rw [if_pos h, if_pos h]; rfl
  · rw [if_neg h, if_neg h]; rfl

theorem length_flatMap_const {β : Type} (f : α → List β) (c : Nat) (h : ∀ a, (f a).length = c)
    (l : List α) : (l.flatMap f).length = c * l.length := by
  induction l with
  | nil => rfl
  | cons a l ih =>
    rw [List.flatMap_cons, List.length_append, ih, h, List.length_cons, Nat.mul_succ, Nat.add_comm]

theorem length_flatMap_range (n m : Nat) (f : Nat → List α) (hf : ∀ i, (f i).length = m) :
    ((List.range n).flatMap f).length = m * n := by
  rw [length_flatMap_const f m hf, List.length_range]

theorem getElem?_flatMap_range (n m : Nat) (f : Nat → List α) (hf : ∀ i, (f i).length = m)
    (i r : Nat) (hi : i < n) (hr : r < m) :
    ((List.range n).flatMap f)[m * i + r]? = (f i)[r]? := by
  induction n with
  | zero => exact absurd hi (Nat.not_lt_zero i)
  | succ n ih =>
    rw [List.range_succ, List.flatMap_append, List.flatMap_singleton]
    have hlen := length_flatMap_range n m f hf
    rcases Nat.lt_succ_iff_lt_or_eq.1 hi with h | rfl
    · rw [List.getElem?_append_left, ih h]
      rw [hlen]
      exact Nat.lt_of_lt_of_le (Nat.add_lt_add_left hr _) (Nat.mul_le_mul_left m h)
    · rw [List.getElem?_append_right (hlen ▸ Nat.le_add_right _ _), hlen, Nat.add_sub_cancel_left]

theorem getElem?_flatMap_range_of_ge (n m : Nat) (f : Nat → List α) (hf : ∀ i, (f i).length = m)
    (j : Nat) (hj : m * n ≤ j) : ((List.range n).flatMap f)[j]? = none := by
  rw [List.getElem?_eq_none_iff, length_flatMap_range n m f hf]; exact hj

theorem forall_mem_flatMap_range {p : α → Prop} (n : Nat) (f : Nat → List α) :
    (∀ c ∈ (List.range n).flatMap f, p c) ↔ ∀ i, i < n → ∀ c ∈ f i, p c := by
  simp only [List.mem_flatMap, List.mem_range]
  constructor
  · intro h i hi c hc; exact h c ⟨i, hi, hc⟩
  · rintro h c ⟨i, hi, hc⟩; exact h i hi c hc

theorem forall_mem_map_range {β : Type} {p : β → Prop} (n : Nat) (f : Nat → β) :
    (∀ c ∈ (List.range n).map f, p c) ↔ ∀ i, i < n → p (f i) := by
  simp only [List.mem_map, List.mem_range]
  constructor
  · intro h i hi; exact h _ ⟨i, hi, rfl⟩
  · rintro h c ⟨i, hi, rfl⟩; exact h i hi

end Lists

/-! ## the evaluator over a Mathlib field -/

section Field
variable {K : Type} [Field K] [DecidableEq K] [Inhabited K]

/-- `Gate::eval_unfiltered` of the model, with the operations of the Mathlib field `K` -/
abbrev evalF (g : GateKind) (v : EvalVars K) : List K :=
  @GateKind.evalUnfiltered K (FOps.ofField K) _ g v

/-- the row satisfies the gate: every constraint evaluates to zero -/
def Sat (g : GateKind) (v : EvalVars K) : Prop := ∀ c ∈ evalF g v, c = 0

/-- constraint number `i` of the gate on the row (`0` past the end of the list) -/
abbrev con (g : GateKind) (v : EvalVars K) (i : Nat) : K := (evalF g v).getD i 0

theorem sat_iff_con (g : GateKind) (v : EvalVars K) : Sat g v ↔ ∀ i, con g v i = 0 := by
  unfold Sat con
  constructor
  · intro h i
    rw [List.getD_eq_getElem?_getD]
    cases hc : (evalF g v)[i]? with
    | none => rfl
    | some c => exact h c (List.mem_of_getElem? hc)
  · intro h c hc
    obtain ⟨i, hi, rfl⟩ := List.getElem_of_mem hc
    have := h i
    rw [List.getD_eq_getElem?_getD, List.getElem?_eq_getElem hi] at this
    exact this

theorem sat_iff_of_con (g : GateKind) (v : EvalVars K) (N : Nat) (lhs rhs : Nat → K)
    (h : ∀ i, con g v i = if i < N then lhs i - rhs i else 0) :
    Sat g v ↔ ∀ i, i < N → lhs i = rhs i := by
  rw [sat_iff_con]
  constructor
  · intro h' i hi
    have := h' i
    rwa [h, if_pos hi, sub_eq_zero] at this
  · intro h' i
    rw [h]
    split
    · next hi => exact sub_eq_zero.2 (h' i hi)
    · rfl

end Field

/-! ## a constraint `w − e` or `a·w + b` with `a ≠ 0` that vanishes pins `w` -/

theorem sub_pins {K : Type} [Field K] {w e x : K} (h0 : w - e = 0) (hx : x ≠ w) : x - e ≠ 0 :=
  fun h => hx ((sub_eq_zero.1 h).trans (sub_eq_zero.1 h0).symm)

theorem affine_pins {K : Type} [Field K] {a b w x : K} (ha : a ≠ 0) (h0 : a * w + b = 0)
    (hx : x ≠ w) : a * x + b ≠ 0 := fun h =>
  hx (mul_left_cancel₀ ha (add_right_cancel (h.trans h0.symm)))

section GLTransfer
attribute [local instance] glField

/-- on `GL` the model's executable evaluator is the field-level evaluator `evalF`, for every gate -/
theorem evalGL (g : GateKind) (v : EvalVars P2.GL) : g.evalUnfiltered v = evalF g v :=
  congrArg (fun I => @GateKind.evalUnfiltered P2.GL I _ g v) fops_GL_eq_ofField

/-- the row the model's generator produces, as evaluation variables -/
def genRow (g : GateKind) (consts wires pih : Array P2.GL) : EvalVars P2.GL :=
  ⟨consts, g.generate consts wires, pih⟩

end GLTransfer

end P2.Lemmas.C07

