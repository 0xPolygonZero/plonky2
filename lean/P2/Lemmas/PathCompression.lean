/-
Compress/decompress round trip of Merkle multi-proofs (`hash/path_compression.rs`) against an
abstract true-node-digest function `node` (heap addressing), for arbitrary index lists (duplicates
allowed).

* arithmetic of heap addresses: `nd H i j` (ancestor of leaf `i` at layer `j`), `sib H i j`
  (its sibling), layer separation facts `F1`, `F2`, `F3`;
* `spec node H n is pre suf ℓ`: the list of compressed streams still to be consumed at layer `ℓ`;
* `compress_spec` (from `compressOne_spec`/`compress_go_spec`): `compress` on honest proofs =
  `spec` at layer 0;
* `Inv`: the invariant on the `seen` map of `decompress`;
* in namespace `P2.Lemmas.C16` (second part of the file): `specW`, like `spec` with arbitrary
  streams at repeated indices; `fillLayer_specW`: one `fillLayer` pass maps `specW` at layer `ℓ` to
  `specW` at layer `ℓ+1` and preserves `Inv`; `roundtrip_firstwins`: the round trip on first-wins
  compressed proofs.
-/
import P2.Model.PathCompression
import P2.Lemmas.Merkle
namespace P2.Lemmas.PathCompression
open P2.Merkle P2.PathCompression
open P2.Lemmas.Merkle (xor_one_eq xor_one_div even_or_odd two_mul_xor_one two_mul_add_one_xor_one
  mapM_option_map nodeOf nodeOf_layer sib_heap merkleTreeProve_build)

/-- ancestor of leaf `i` at layer `j` (heap addressing) -/
def nd (H i j : Nat) : Nat := (i + 2 ^ H) / 2 ^ j
/-- sibling of the ancestor of leaf `i` at layer `j` -/
def sib (H i j : Nat) : Nat := nd H i j ^^^ 1

theorem nd_zero (H i : Nat) : nd H i 0 = i + 2 ^ H := by simp [nd]

theorem nd_succ (H i j : Nat) : nd H i (j + 1) = nd H i j / 2 := by
  simp [nd, Nat.div_div_eq_div_mul, Nat.pow_succ]

theorem onLayer_nd {H i j : Nat} (hi : i < 2 ^ H) (hj : j ≤ H) :
    2 ^ (H - j) ≤ nd H i j ∧ nd H i j < 2 ^ (H - j + 1) := by
  have hp : 2 ^ H = 2 ^ (H - j) * 2 ^ j := by rw [← Nat.pow_add]; congr 1; omega
  have hpos : 0 < 2 ^ j := Nat.two_pow_pos j
  unfold nd
  constructor
  · rw [Nat.le_div_iff_mul_le hpos, ← hp]; omega
  · rw [Nat.div_lt_iff_lt_mul hpos, Nat.pow_succ, Nat.mul_right_comm, ← hp]; omega

theorem onLayer_xor {a x : Nat} (ha : 1 ≤ a) (h : 2 ^ a ≤ x ∧ x < 2 ^ (a + 1)) :
    2 ^ a ≤ x ^^^ 1 ∧ x ^^^ 1 < 2 ^ (a + 1) := by
  obtain ⟨b, rfl⟩ : ∃ b, a = b + 1 := ⟨a - 1, by omega⟩
  rw [Nat.pow_succ 2 b, Nat.pow_succ 2 (b + 1), ← Nat.le_div_iff_mul_le (by decide),
    ← Nat.div_lt_iff_lt_mul (by decide)] at h ⊢
  rwa [xor_one_div]

theorem onLayer_uniq {a b x : Nat} (ha : 2 ^ a ≤ x ∧ x < 2 ^ (a + 1))
    (hb : 2 ^ b ≤ x ∧ x < 2 ^ (b + 1)) : a = b := by
  rcases Nat.lt_trichotomy a b with h | h | h
  · have := Nat.pow_le_pow_right (n := 2) (by omega) (show a + 1 ≤ b from h); omega
  · exact h
  · have := Nat.pow_le_pow_right (n := 2) (by omega) (show b + 1 ≤ a from h); omega

theorem onLayer_sib {H i j : Nat} (hi : i < 2 ^ H) (hj : j < H) :
    2 ^ (H - j) ≤ sib H i j ∧ sib H i j < 2 ^ (H - j + 1) :=
  onLayer_xor (by omega) (onLayer_nd hi (by omega))

theorem F1 {H i i' j j' : Nat} (hi : i < 2 ^ H) (hi' : i' < 2 ^ H) (hj : j < H) (hj' : j' < H)
    (e : sib H i j = sib H i' j') : j = j' := by
  have := onLayer_uniq (onLayer_sib hi hj) (e ▸ onLayer_sib hi' hj'); omega

theorem F2 {H i i' j j' : Nat} (hi : i < 2 ^ H) (hi' : i' < 2 ^ H) (hj : j < H) (hj' : j' ≤ H)
    (e : sib H i j = nd H i' j') : j = j' := by
  have := onLayer_uniq (onLayer_sib hi hj) (e ▸ onLayer_nd hi' hj'); omega

theorem F3 (H i j : Nat) : sib H i j ≠ nd H i j := by
  unfold sib; rw [xor_one_eq]; split <;> omega

theorem sib_eq_iff (H i i' j : Nat) : sib H i' j = sib H i j ↔ nd H i' j = nd H i j := by
  unfold sib
  constructor
  · intro e
    have := congrArg (· ^^^ 1) e
    simpa [Nat.xor_assoc] using this
  · intro e; rw [e]

variable {L D : Type}

/-- honest proof of leaf `i`: sibling digests of its ancestors at layers `0 … H - c - 1` (heap
addressing) -/
def honest (node : Nat → D) (H c i : Nat) : List D :=
  (List.range (H - c)).map fun j => node (((i + 2 ^ H) / 2 ^ j) ^^^ 1)

theorem honest_length (node : Nat → D) (H c i : Nat) : (honest node H c i).length = H - c := by
  simp [honest]

/-- `merkle_tree_prove` on the tree of `MerkleTree::new` returns the honest proof for the true node
digests `nodeOf` -/
theorem merkleTreeProve_eq_honest [Inhabited D] (h : Hasher L D) (H c : Nat)
    (leaves : List L) (hl : leaves.length = 2 ^ H) (hc : c ≤ H) (i : Nat) (hi : i < 2 ^ H) :
    merkleTreeProve i (2 ^ H) H c (build h H c leaves).1 = some (honest (nodeOf h H leaves) H c i) := by
  obtain ⟨π, h1, h2, h3⟩ := merkleTreeProve_build h H c leaves hl hc i hi
  rw [h1]
  congr 1
  apply List.ext_getElem?
  intro j
  by_cases hj : j < H - c
  · obtain ⟨a, rfl⟩ : ∃ a, H = a + 1 + j := ⟨H - (j + 1), by omega⟩
    obtain ⟨e1, e2⟩ := sib_heap a j i hi
    rw [h3 j hj, nodeOf_layer h (a + 1) j leaves hl _ e2, ← e1, honest, List.getElem?_map,
      List.getElem?_range hj]
    rfl
  · rw [List.getElem?_eq_none (by omega), List.getElem?_eq_none (by rw [honest_length]; omega)]

/-- kept siblings of the proof of leaf `i` from layer `ℓ` on (`m` layers), for keep predicate `k` -/
def strm (node : Nat → D) (H i : Nat) (k : Nat → Bool) : Nat → Nat → List D
  | 0, _ => []
  | m + 1, ℓ => if k ℓ then node (sib H i ℓ) :: strm node H i k m (ℓ + 1) else strm node H i k m (ℓ + 1)

theorem strm_congr (node : Nat → D) (H i : Nat) (k k' : Nat → Bool) :
    ∀ (m ℓ : Nat), (∀ j, ℓ ≤ j → j < ℓ + m → k j = k' j) →
      strm node H i k m ℓ = strm node H i k' m ℓ := by
  intro m
  induction m with
  | zero => intros; rfl
  | succ m ih =>
    intro ℓ hk
    simp only [strm]
    rw [hk ℓ (by omega) (by omega), ih (ℓ + 1) (fun j h1 h2 => hk j (by omega) (by omega))]

/-- the sibling at layer `j` of proof `i` is kept iff it is neither on a queried path nor was
    already produced at the same layer by an earlier proof -/
def kp (H : Nat) (is pre : List Nat) (i j : Nat) : Bool :=
  decide ((∀ i' ∈ is, nd H i' j ≠ sib H i j) ∧ (∀ i' ∈ pre, sib H i' j ≠ sib H i j))

/-- the compressed streams at layer `ℓ` for the proofs `suf`, given earlier proofs `pre` -/
def spec (node : Nat → D) (H n : Nat) (is : List Nat) : List Nat → List Nat → Nat → List (List D)
  | _, [], _ => []
  | pre, i :: suf, ℓ => strm node H i (kp H is pre i) (n - ℓ) ℓ :: spec node H n is (pre ++ [i]) suf ℓ

theorem spec_length (node : Nat → D) (H n : Nat) (is : List Nat) :
    ∀ (suf pre : List Nat) (ℓ : Nat), (spec node H n is pre suf ℓ).length = suf.length := by
  intro suf
  induction suf with
  | nil => intros; rfl
  | cons i suf ih => intro pre ℓ; simp [spec, ih]

/- Two propositional steps of `compressOne_spec` at layer `ℓ`, about a node `x`: `k` is `x ∈ Kcur`,
`a` is `x ∈ K`, `e` "`x` is a sibling or parent added below layer `ℓ`", `s` and `n` "`x` is the
sibling / the parent at layer `ℓ`". `_new`: sibling and parent are added; `_old`: the sibling is
already in `Kcur`, only the parent is added. -/
theorem or_step_new {n s k a e : Prop} (hk : k ↔ a ∨ e) : (n ∨ s ∨ k) ↔ (a ∨ e ∨ s ∨ n) := by
  grind

theorem or_step_old {n s k a e : Prop} (hk : k ↔ a ∨ e) (hs : s → k) :
    (n ∨ k) ↔ (a ∨ e ∨ s ∨ n) := by
  grind

theorem exists_mem_snoc {pre : List Nat} {i : Nat} {Q : Nat → Prop} :
    (∃ i' ∈ pre ++ [i], Q i') ↔ (∃ i' ∈ pre, Q i') ∨ Q i := by
  constructor
  · rintro ⟨i', hi', h⟩
    rcases List.mem_append.1 hi' with hi' | hi'
    · exact .inl ⟨i', hi', h⟩
    · exact .inr (List.mem_singleton.1 hi' ▸ h)
  · rintro (⟨i', hi', h⟩ | h)
    · exact ⟨i', List.mem_append_left _ hi', h⟩
    · exact ⟨i, List.mem_append_right _ (List.mem_singleton_self i), h⟩

theorem compressOne_keep (known : List Nat) (x : Nat) (s : D) (rest : List D)
    (h : known.contains (x ^^^ 1) = false) :
    compressOne known x (s :: rest) =
      ((compressOne (x / 2 :: (x ^^^ 1) :: known) (x / 2) rest).1,
        s :: (compressOne (x / 2 :: (x ^^^ 1) :: known) (x / 2) rest).2) := by
  simp only [compressOne, h, Bool.not_false, if_true]

theorem compressOne_drop (known : List Nat) (x : Nat) (s : D) (rest : List D)
    (h : known.contains (x ^^^ 1) = true) :
    compressOne known x (s :: rest) = compressOne (x / 2 :: known) (x / 2) rest := by
  simp only [compressOne, h, Bool.not_true, Bool.false_eq_true, if_false]

theorem compressOne_spec (node : Nat → D) (H : Nat) (K : List Nat) (i : Nat) (hi : i < 2 ^ H) :
    ∀ (m ℓ : Nat) (Kcur : List Nat), ℓ + m ≤ H →
      (∀ x, x ∈ Kcur ↔ x ∈ K ∨ ∃ j < ℓ, x = sib H i j ∨ x = nd H i (j + 1)) →
      (compressOne Kcur (nd H i ℓ) ((List.range' ℓ m).map fun j => node (sib H i j))).2
          = strm node H i (fun j => !K.contains (sib H i j)) m ℓ ∧
      ∀ x, x ∈ (compressOne Kcur (nd H i ℓ) ((List.range' ℓ m).map fun j => node (sib H i j))).1
          ↔ x ∈ K ∨ ∃ j < ℓ + m, x = sib H i j ∨ x = nd H i (j + 1) := by
  intro m
  induction m with
  | zero => intro ℓ Kcur _ hK; exact ⟨rfl, hK⟩
  | succ m ih =>
    intro ℓ Kcur hle hK
    have hdec : (Kcur.contains (sib H i ℓ)) = K.contains (sib H i ℓ) := by
      rw [Bool.eq_iff_iff]
      simp only [List.contains_iff_mem, hK]
      constructor
      · rintro (h | ⟨j, hj, h | h⟩)
        · exact h
        · have := F1 hi hi (by omega) (by omega) h; omega
        · have := F2 hi hi (by omega) (by omega) h
          subst this
          exact absurd h (F3 H i (j+1))
      · exact Or.inl
    rw [List.range'_succ, List.map_cons, strm, ← Nat.add_assoc, Nat.add_right_comm]
    cases hb : K.contains (sib H i ℓ)
    · have hK' : ∀ x, x ∈ (nd H i ℓ / 2 :: sib H i ℓ :: Kcur)
          ↔ x ∈ K ∨ ∃ j < ℓ + 1, x = sib H i j ∨ x = nd H i (j + 1) := by
        intro x
        rw [Nat.exists_lt_succ_right, ← nd_succ, List.mem_cons, List.mem_cons]
        exact or_step_new (hK x)
      obtain ⟨h1, h2⟩ := ih (ℓ + 1) _ (by omega) hK'
      rw [nd_succ] at h1 h2
      rw [compressOne_keep _ _ _ _ (hdec.trans hb)]
      exact ⟨congrArg _ h1, h2⟩
    · have hK' : ∀ x, x ∈ (nd H i ℓ / 2 :: Kcur)
          ↔ x ∈ K ∨ ∃ j < ℓ + 1, x = sib H i j ∨ x = nd H i (j + 1) := by
        intro x
        have hmem : sib H i ℓ ∈ Kcur := by
          rw [← List.contains_iff_mem, hdec]; exact hb
        rw [Nat.exists_lt_succ_right, ← nd_succ, List.mem_cons]
        exact or_step_old (hK x) (fun e => e ▸ hmem)
      have := ih (ℓ + 1) _ (by omega) hK'
      rw [nd_succ] at this
      rw [compressOne_drop _ _ _ _ (hdec.trans hb)]
      exact this

theorem mem_initialKnown (H c : Nat) (is : List Nat) (x : Nat) :
    x ∈ initialKnown H c is ↔ ∃ i' ∈ is, ∃ j < H - c, x = nd H i' j := by
  simp only [initialKnown, List.mem_flatMap, List.mem_map, List.mem_range, nd]
  constructor
  · rintro ⟨i', hi', j, hj, rfl⟩; exact ⟨i', hi', j, hj, rfl⟩
  · rintro ⟨i', hi', j, hj, rfl⟩; exact ⟨i', hi', j, hj, rfl⟩

theorem honest_eq (node : Nat → D) (H c i : Nat) :
    honest node H c i = (List.range' 0 (H - c)).map fun j => node (sib H i j) := by
  simp [honest, List.range_eq_range', sib, nd]

theorem kp_iff (H : Nat) (is pre : List Nat) (i j : Nat) :
    kp H is pre i j = true ↔
      (∀ i' ∈ is, nd H i' j ≠ sib H i j) ∧ (∀ i' ∈ pre, sib H i' j ≠ sib H i j) := by
  simp [kp]

/-- the test of `compressOne` on the sibling at layer `j`, in the `known` set reached after the
proofs `pre`, is `kp` -/
theorem not_known_eq_kp {H n : Nat} {is pre K : List Nat} (his : ∀ i ∈ is, i < 2 ^ H)
    (hpre : ∀ i ∈ pre, i ∈ is) (hn : n ≤ H)
    (hK : ∀ x, x ∈ K ↔ (∃ i' ∈ is, ∃ j < n, x = nd H i' j) ∨
      ∃ i' ∈ pre, ∃ j < n, x = sib H i' j ∨ x = nd H i' (j + 1))
    {i j : Nat} (hi : i < 2 ^ H) (hj : j < n) :
    (!K.contains (sib H i j)) = kp H is pre i j := by
  rw [Bool.eq_iff_iff, kp_iff]
  simp only [Bool.not_eq_true', List.contains_eq_mem, decide_eq_false_iff_not, hK]
  constructor
  · intro hn
    exact ⟨fun i' hi' e => hn (Or.inl ⟨i', hi', j, hj, e.symm⟩),
      fun i' hi' e => hn (Or.inr ⟨i', hi', j, hj, Or.inl e.symm⟩)⟩
  · rintro ⟨ha, hb⟩ (⟨i', hi', j', hj', e⟩ | ⟨i', hi', j', hj', e | e⟩)
    · have := F2 hi (his i' hi') (by omega) (by omega) e; subst this
      exact ha i' hi' e.symm
    · have := F1 hi (his i' (hpre i' hi')) (by omega) (by omega) e; subst this
      exact hb i' hi' e.symm
    · have := F2 hi (his i' (hpre i' hi')) (by omega) (by omega) e; subst this
      exact ha i' (hpre i' hi') e.symm

/-- the `compress.go` loop at any split `is = pre ++ suf`: the output on honest proofs is `spec` at
layer 0 -/
theorem compress_go_spec (node : Nat → D) (H c : Nat) (is : List Nat)
    (his : ∀ i ∈ is, i < 2 ^ H) :
    ∀ (suf pre K : List Nat), pre ++ suf = is →
      (∀ x, x ∈ K ↔ (∃ i' ∈ is, ∃ j < H - c, x = nd H i' j) ∨
        ∃ i' ∈ pre, ∃ j < H - c, x = sib H i' j ∨ x = nd H i' (j + 1)) →
      compress.go H K (suf.zip (suf.map (honest node H c))) = spec node H (H - c) is pre suf 0 := by
  intro suf
  induction suf with
  | nil => intros; rfl
  | cons i suf ih =>
    intro pre K hs hK
    have hi : i < 2 ^ H := his i (hs ▸ List.mem_append_right _ List.mem_cons_self)
    rw [List.map_cons, List.zip_cons_cons, compress.go, spec]
    obtain ⟨h1, h2⟩ := compressOne_spec node H K i hi (H - c) 0 K (Nat.le_trans (Nat.le_of_eq
      (Nat.zero_add _)) (Nat.sub_le H c)) (by simp)
    rw [nd_zero, ← honest_eq] at h1 h2
    simp only []
    congr 1
    · rw [h1]
      exact strm_congr node H i _ _ _ _ fun j _ hj => not_known_eq_kp his
        (fun i' h => hs ▸ List.mem_append_left _ h) (Nat.sub_le H c) hK hi (Nat.zero_add (H - c) ▸ hj)
    · refine ih _ _ (by rw [List.append_assoc]; exact hs) fun x => ?_
      rw [h2 x, hK x, Nat.zero_add, exists_mem_snoc, or_assoc]

theorem compress_spec (node : Nat → D) (H c : Nat) (is : List Nat) (his : ∀ i ∈ is, i < 2 ^ H) :
    compress H c is (is.map (honest node H c)) = spec node H (H - c) is [] is 0 :=
  compress_go_spec node H c is his is [] _ rfl fun x => by simp [mem_initialKnown]

theorem compress_honest_length (node : Nat → D) (H c : Nat) (is : List Nat)
    (his : ∀ i ∈ is, i < 2 ^ H) :
    (PathCompression.compress H c is (is.map (honest node H c))).length = is.length := by
  rw [compress_spec node H c is his, spec_length]

theorem lookup_eq_none_iff (seen : List (Nat × D)) (x : Nat) :
    lookup seen x = none ↔ x ∉ seen.map (·.1) := by
  simp only [lookup, Option.map_eq_none_iff, List.find?_eq_none, List.mem_map, not_exists,
    not_and, beq_iff_eq]

theorem mem_of_lookup_eq_some {seen : List (Nat × D)} {x : Nat} {v : D}
    (e : lookup seen x = some v) : (x, v) ∈ seen := by
  simp only [lookup, Option.map_eq_some_iff] at e
  obtain ⟨p, hp, rfl⟩ := e
  have h1 := List.mem_of_find?_eq_some hp
  have h2 := List.find?_some hp
  simp only [beq_iff_eq] at h2
  subst h2
  exact h1

/- The same two steps for the third disjunct of `Inv`: `S i`, `N i` are the sibling and the parent of
proof `i` at the layer being filled, `A`, `B` the first two disjuncts of `Inv`; proof `i` moves
into `pre`. -/
theorem inv_step_new {A B : Nat → Prop} {pre : List Nat} {i : Nat} {S N : Nat → Nat} (x : Nat) :
    (x = N i ∨ x = S i ∨ A x ∨ B x ∨ ∃ i' ∈ pre, x = S i' ∨ x = N i') ↔
      (A x ∨ B x ∨ ∃ i' ∈ pre ++ [i], x = S i' ∨ x = N i') := by
  rw [exists_mem_snoc]; grind

theorem inv_step_old {A B : Nat → Prop} {pre : List Nat} {i : Nat} {S N : Nat → Nat}
    (hS : A (S i) ∨ B (S i) ∨ ∃ i' ∈ pre, S i = S i' ∨ S i = N i') (x : Nat) :
    (x = N i ∨ A x ∨ B x ∨ ∃ i' ∈ pre, x = S i' ∨ x = N i') ↔
      (A x ∨ B x ∨ ∃ i' ∈ pre ++ [i], x = S i' ∨ x = N i') := by
  rw [exists_mem_snoc]; grind

/-- invariant of the `seen` map while layer `ℓ` is being filled, the proofs `pre` already done -/
def Inv (node : Nat → D) (H : Nat) (is : List Nat) (ℓ : Nat) (pre : List Nat)
    (seen : List (Nat × D)) : Prop :=
  (∀ p ∈ seen, p.2 = node p.1) ∧
  ∀ x, x ∈ seen.map (·.1) ↔
    (∃ i' ∈ is, ∃ j' ≤ ℓ, x = nd H i' j') ∨ (∃ i' ∈ is, ∃ j' < ℓ, x = sib H i' j') ∨
    (∃ i' ∈ pre, x = sib H i' ℓ ∨ x = nd H i' (ℓ + 1))

theorem lookup_of_true {node : Nat → D} {seen : List (Nat × D)}
    (ha : ∀ p ∈ seen, p.2 = node p.1) {x : Nat} (hx : x ∈ seen.map (·.1)) :
    lookup seen x = some (node x) := by
  cases e : lookup seen x with
  | none => exact absurd hx ((lookup_eq_none_iff seen x).1 e)
  | some v => exact congrArg some (ha _ (mem_of_lookup_eq_some e))

theorem parent_eq (h : Hasher L D) (node : Nat → D) (H : Nat)
    (hnode : ∀ x, 1 ≤ x → x < 2 ^ H → node x = h.two (node (2 * x)) (node (2 * x + 1)))
    (x : Nat) (h1 : 1 ≤ x / 2) (h2 : x / 2 < 2 ^ H) :
    (if x % 2 = 0 then h.two (node x) (node (x ^^^ 1)) else h.two (node (x ^^^ 1)) (node x))
      = node (x / 2) := by
  rw [hnode _ h1 h2]
  rcases even_or_odd x with ⟨e, hp⟩ | ⟨e, hp⟩
  · rw [if_pos hp, ← two_mul_xor_one, ← e]
  · have e' : x ^^^ 1 = 2 * (x / 2) := by
      conv => lhs; rw [e, two_mul_add_one_xor_one]
    rw [if_neg (by rw [hp]; decide), e', ← e]

theorem node_parent (h : Hasher L D) {node : Nat → D} {H : Nat}
    (hnode : ∀ x, 1 ≤ x → x < 2 ^ H → node x = h.two (node (2 * x)) (node (2 * x + 1)))
    {i ℓ : Nat} (hi : i < 2 ^ H) (hℓ : ℓ < H) :
    (if nd H i ℓ % 2 = 0 then h.two (node (nd H i ℓ)) (node (sib H i ℓ))
      else h.two (node (sib H i ℓ)) (node (nd H i ℓ))) = node (nd H i ℓ / 2) := by
  have hl := onLayer_nd hi (Nat.succ_le_of_lt hℓ)
  rw [nd_succ] at hl
  exact parent_eq h node H hnode (nd H i ℓ) (Nat.le_trans Nat.one_le_two_pow hl.1)
    (Nat.lt_of_lt_of_le hl.2 (Nat.pow_le_pow_right (by decide) (by omega)))

theorem strm_step {node : Nat → D} {H i : Nat} {k : Nat → Bool} {n ℓ : Nat} (hℓ : ℓ < n) :
    strm node H i k (n - ℓ) ℓ =
      if k ℓ then node (sib H i ℓ) :: strm node H i k (n - (ℓ + 1)) (ℓ + 1)
      else strm node H i k (n - (ℓ + 1)) (ℓ + 1) := by
  have e : n - ℓ = n - (ℓ + 1) + 1 := by
    rw [Nat.sub_add_eq, Nat.sub_add_cancel (Nat.sub_pos_of_lt hℓ)]
  rw [e, strm]

theorem Inv_next {node : Nat → D} {H : Nat} {is : List Nat} {ℓ : Nat} {seen : List (Nat × D)}
    (hI : Inv node H is ℓ is seen) : Inv node H is (ℓ + 1) [] seen := by
  refine ⟨hI.1, fun x => ?_⟩
  rw [hI.2 x]
  constructor
  · rintro (⟨i', hi', j', hj', e⟩ | ⟨i', hi', j', hj', e⟩ | ⟨i', hi', e | e⟩)
    · exact Or.inl ⟨i', hi', j', by omega, e⟩
    · exact Or.inr (Or.inl ⟨i', hi', j', by omega, e⟩)
    · exact Or.inr (Or.inl ⟨i', hi', ℓ, by omega, e⟩)
    · exact Or.inl ⟨i', hi', ℓ + 1, by omega, e⟩
  · rintro (⟨i', hi', j', hj', e⟩ | ⟨i', hi', j', hj', e⟩ | ⟨i', hi', _⟩)
    · by_cases hj : j' = ℓ + 1
      · subst hj; exact Or.inr (Or.inr ⟨i', hi', Or.inr e⟩)
      · exact Or.inl ⟨i', hi', j', by omega, e⟩
    · by_cases hj : j' = ℓ
      · subst hj; exact Or.inr (Or.inr ⟨i', hi', Or.inl e⟩)
      · exact Or.inr (Or.inl ⟨i', hi', j', by omega, e⟩)
    · simp at hi'

section
variable {node : Nat → D} {H : Nat} {is : List Nat} {ℓ : Nat} {pre : List Nat}
  {seen : List (Nat × D)}

theorem Inv.lookup_nd (hI : Inv node H is ℓ pre seen) {i : Nat} (hi : i ∈ is) :
    lookup seen (nd H i ℓ) = some (node (nd H i ℓ)) :=
  lookup_of_true hI.1 ((hI.2 _).2 (Or.inl ⟨i, hi, ℓ, Nat.le_refl _, rfl⟩))

/-- the consumer finds the sibling at the layer being filled in `seen` exactly when the producer
dropped it -/
theorem Inv.sib_mem_iff (hI : Inv node H is ℓ pre seen) (his : ∀ i ∈ is, i < 2 ^ H)
    (hpre : ∀ i ∈ pre, i ∈ is) {i : Nat} (hi : i < 2 ^ H) (hℓ : ℓ < H) :
    sib H i ℓ ∈ seen.map (·.1) ↔ kp H is pre i ℓ = false := by
  rw [hI.2, ← Bool.not_eq_true, kp_iff]
  constructor
  · rintro (⟨i', hi', j', hj', e⟩ | ⟨i', hi', j', hj', e⟩ | ⟨i', hi', e | e⟩) ⟨h1, h2⟩
    · have := F2 hi (his i' hi') hℓ (by omega) e; subst this
      exact h1 i' hi' e.symm
    · have := F1 hi (his i' hi') hℓ (by omega) e; omega
    · exact h2 i' hi' e.symm
    · have := F2 hi (his i' (hpre i' hi')) hℓ (by omega) e; omega
  · intro hn
    simp only [Classical.not_and_iff_not_or_not, Classical.not_forall,
      Decidable.not_not] at hn
    rcases hn with ⟨i', hi', e⟩ | ⟨i', hi', e⟩
    · exact Or.inl ⟨i', hi', ℓ, Nat.le_refl _, e.symm⟩
    · exact Or.inr (Or.inr ⟨i', hi', Or.inl e.symm⟩)

theorem Inv.snoc_known (hI : Inv node H is ℓ pre seen) {i : Nat} (hs : sib H i ℓ ∈ seen.map (·.1)) :
    Inv node H is ℓ (pre ++ [i]) ((nd H i ℓ / 2, node (nd H i ℓ / 2)) :: seen) := by
  refine ⟨List.forall_mem_cons.2 ⟨rfl, hI.1⟩, fun x => ?_⟩
  rw [hI.2] at hs
  rw [List.map_cons, List.mem_cons, hI.2 x, ← nd_succ]
  exact inv_step_old (A := fun x => ∃ i' ∈ is, ∃ j' ≤ ℓ, x = nd H i' j')
    (B := fun x => ∃ i' ∈ is, ∃ j' < ℓ, x = sib H i' j')
    (S := fun i => sib H i ℓ) (N := fun i => nd H i (ℓ + 1)) hs x

theorem Inv.snoc_new (hI : Inv node H is ℓ pre seen) (i : Nat) :
    Inv node H is ℓ (pre ++ [i])
      ((nd H i ℓ / 2, node (nd H i ℓ / 2)) :: (sib H i ℓ, node (sib H i ℓ)) :: seen) := by
  refine ⟨List.forall_mem_cons.2 ⟨rfl, List.forall_mem_cons.2 ⟨rfl, hI.1⟩⟩, fun x => ?_⟩
  rw [List.map_cons, List.map_cons, List.mem_cons, List.mem_cons, hI.2 x, ← nd_succ]
  exact inv_step_new (A := fun x => ∃ i' ∈ is, ∃ j' ≤ ℓ, x = nd H i' j')
    (B := fun x => ∃ i' ∈ is, ∃ j' < ℓ, x = sib H i' j')
    (S := fun i => sib H i ℓ) (N := fun i => nd H i (ℓ + 1)) x

end

theorem seen0_eq (h : Hasher L D) (H : Nat) (leafAt : Nat → L) :
    ∀ (l : List Nat) (init : List (Nat × D)),
      (l.zip (l.map leafAt)).foldl (fun s (iv : Nat × L) => (iv.1 + 2 ^ H, h.hashLeaf iv.2) :: s) init
        = (l.map fun i => (i + 2 ^ H, h.hashLeaf (leafAt i))).reverse ++ init := by
  intro l
  induction l with
  | nil => intro init; rfl
  | cons i l ih =>
    intro init
    rw [List.map_cons, List.zip_cons_cons, List.foldl_cons, ih]
    simp

theorem Inv_init (h : Hasher L D) (H : Nat) (leafAt : Nat → L) (node : Nat → D)
    (hleaf : ∀ i, i < 2 ^ H → node (i + 2 ^ H) = h.hashLeaf (leafAt i))
    (is : List Nat) (his : ∀ i ∈ is, i < 2 ^ H) :
    Inv node H is 0 []
      ((is.zip (is.map leafAt)).foldl (fun s (iv : Nat × L) => (iv.1 + 2 ^ H, h.hashLeaf iv.2) :: s) []) := by
  rw [seen0_eq]
  refine ⟨?_, ?_⟩
  · intro p hp
    simp only [List.append_nil, List.mem_reverse, List.mem_map] at hp
    obtain ⟨i, hi, rfl⟩ := hp
    exact (hleaf i (his i hi)).symm
  · intro x
    simp only [List.append_nil, List.map_reverse, List.map_map, List.mem_reverse,
      List.mem_map, Function.comp]
    constructor
    · rintro ⟨i, hi, rfl⟩
      exact Or.inl ⟨i, hi, 0, Nat.le_refl _, (nd_zero H i).symm⟩
    · rintro (⟨i', hi', j', hj', e⟩ | ⟨i', hi', j', hj', e⟩ | ⟨i', hi', _⟩)
      · have : j' = 0 := by omega
        subst this
        exact ⟨i', hi', by rw [e, nd_zero]⟩
      · omega
      · simp at hi'

end P2.Lemmas.PathCompression

/-! ### decompression of first-wins compressed proofs

In a compressed FRI proof a query whose index (or coset) was reached before carries the compressed
path of the first such query instead of its own (empty) one; `fillLayer` never reads it. -/
namespace P2.Lemmas.C16
open P2.Merkle P2.PathCompression P2.Lemmas.PathCompression
open P2.Lemmas.Merkle (mapM_option_map)

variable {L D : Type}

/-- like `spec`, but a proof whose index occurred before carries an arbitrary stream `w` -/
def specW (node : Nat → D) (H n : Nat) (is : List Nat) :
    List Nat → List (Nat × List D) → Nat → List (List D)
  | _, [], _ => []
  | pre, (i, w) :: suf, ℓ =>
    (if i ∈ pre then w else strm node H i (kp H is pre i) (n - ℓ) ℓ) ::
      specW node H n is (pre ++ [i]) suf ℓ

theorem kp_false_of_mem (H : Nat) (is pre : List Nat) (i j : Nat) (h : i ∈ pre) :
    kp H is pre i j = false := by
  cases hk : kp H is pre i j with
  | false => rfl
  | true => exact absurd rfl (((kp_iff H is pre i j).1 hk).2 i h)

/-- `fillLayer` on a proof whose sibling at this layer is known: nothing is consumed -/
theorem fillLayer_known (h : Hasher L D) (ℓ H : Nat) (seen : List (Nat × D)) (i : Nat) (p : List D)
    (rest : List (Nat × List D)) (cur v : D) (hc : lookup seen (nd H i ℓ) = some cur)
    (hs : lookup seen (sib H i ℓ) = some v) :
    fillLayer h ℓ H seen ((i, p) :: rest) =
      (fillLayer h ℓ H ((nd H i ℓ / 2,
        if nd H i ℓ % 2 = 0 then h.two cur v else h.two v cur) :: seen) rest).map
          fun r => (r.1, p :: r.2) := by
  rw [fillLayer]
  simp only [show (i + 2 ^ H) / 2 ^ ℓ = nd H i ℓ from rfl, show nd H i ℓ ^^^ 1 = sib H i ℓ from rfl,
    hc, hs, Option.bind_eq_bind, Option.bind_some]
  cases fillLayer h ℓ H _ rest <;> rfl

/-- `fillLayer` on a proof whose sibling at this layer is not known: it is the head of the stream -/
theorem fillLayer_new (h : Hasher L D) (ℓ H : Nat) (seen : List (Nat × D)) (i : Nat) (s : D)
    (p : List D) (rest : List (Nat × List D)) (cur : D) (hc : lookup seen (nd H i ℓ) = some cur)
    (hs : lookup seen (sib H i ℓ) = none) :
    fillLayer h ℓ H seen ((i, s :: p) :: rest) =
      (fillLayer h ℓ H ((nd H i ℓ / 2,
        if nd H i ℓ % 2 = 0 then h.two cur s else h.two s cur) :: (sib H i ℓ, s) :: seen) rest).map
          fun r => (r.1, p :: r.2) := by
  rw [fillLayer]
  simp only [show (i + 2 ^ H) / 2 ^ ℓ = nd H i ℓ from rfl, show nd H i ℓ ^^^ 1 = sib H i ℓ from rfl,
    hc, hs, Option.bind_eq_bind, Option.bind_some]
  cases fillLayer h ℓ H _ rest <;> rfl

/-- one `fillLayer` pass at any split `is = pre ++ suf`: the streams move from layer `ℓ` to `ℓ + 1`,
`seen` from the state after `pre` to the state after all of `is` -/
theorem fillLayer_specW (h : Hasher L D) (node : Nat → D) (H c : Nat)
    (hnode : ∀ x, 1 ≤ x → x < 2 ^ H → node x = h.two (node (2 * x)) (node (2 * x + 1)))
    (is : List Nat) (his : ∀ i ∈ is, i < 2 ^ H) (ℓ : Nat) (hℓ : ℓ < H - c) :
    ∀ (suf : List (Nat × List D)) (pre : List Nat) (seen : List (Nat × D)),
      pre ++ suf.map (·.1) = is → Inv node H is ℓ pre seen →
      ∃ seen', fillLayer h ℓ H seen ((suf.map (·.1)).zip (specW node H (H - c) is pre suf ℓ))
          = some (seen', specW node H (H - c) is pre suf (ℓ + 1)) ∧
        Inv node H is ℓ is seen' := by
  intro suf
  induction suf with
  | nil =>
    intro pre seen hs hI
    rw [List.map_nil, List.append_nil] at hs
    subst hs
    exact ⟨seen, rfl, hI⟩
  | cons iw suf ih =>
    intro pre seen hs hI
    rcases iw with ⟨i, w⟩
    have hiis : i ∈ is := hs ▸ List.mem_append_right _ List.mem_cons_self
    have hi : i < 2 ^ H := his i hiis
    have hℓH : ℓ < H := Nat.lt_of_lt_of_le hℓ (Nat.sub_le H c)
    have hcur := hI.lookup_nd hiis
    have hkey := hI.sib_mem_iff his (fun i' h => hs ▸ List.mem_append_left _ h) hi hℓH
    have hs' : (pre ++ [i]) ++ suf.map (·.1) = is := by rw [List.append_assoc]; exact hs
    rw [specW, List.map_cons, List.zip_cons_cons]
    cases hk : kp H is pre i ℓ
    · -- the sibling is known: the stream (arbitrary if the index is repeated) is not read
      have hks := hkey.2 hk
      obtain ⟨seen', e1, e2⟩ := ih (pre ++ [i]) _ hs' (hI.snoc_known hks)
      refine ⟨seen', ?_, e2⟩
      rw [fillLayer_known h ℓ H seen i _ _ _ _ hcur (lookup_of_true hI.1 hks),
        node_parent h hnode hi hℓH, e1, specW, strm_step hℓ, hk]
      rfl
    · have hip : i ∉ pre := fun hip => by rw [kp_false_of_mem H is pre i ℓ hip] at hk; cases hk
      have hs0 : lookup seen (sib H i ℓ) = none :=
        (lookup_eq_none_iff _ _).2 fun hm => by rw [hkey.1 hm] at hk; cases hk
      obtain ⟨seen', e1, e2⟩ := ih (pre ++ [i]) _ hs' (hI.snoc_new i)
      refine ⟨seen', ?_, e2⟩
      rw [if_neg hip, strm_step hℓ, hk, if_pos rfl, fillLayer_new h ℓ H seen i _ _ _ _ hcur hs0,
        node_parent h hnode hi hℓH, e1, specW, if_neg hip]
      rfl

theorem loop_specW (h : Hasher L D) (node : Nat → D) (H c : Nat)
    (hnode : ∀ x, 1 ≤ x → x < 2 ^ H → node x = h.two (node (2 * x)) (node (2 * x + 1)))
    (is : List Nat) (his : ∀ i ∈ is, i < 2 ^ H) (iws : List (Nat × List D))
    (hiws : iws.map (·.1) = is)
    (body : List (Nat × D) × List (List D) → Nat → Option (List (Nat × D) × List (List D)))
    (hbody : ∀ s ps layer r, fillLayer h layer H s (is.zip ps) = some r → body (s, ps) layer = some r) :
    ∀ (m ℓ : Nat) (seen : List (Nat × D)), ℓ + m = H - c → Inv node H is ℓ [] seen →
      ∃ seen', (List.range' ℓ m).foldlM body (seen, specW node H (H - c) is [] iws ℓ)
          = some (seen', specW node H (H - c) is [] iws (H - c)) ∧
        Inv node H is (H - c) [] seen' := by
  intro m
  induction m with
  | zero =>
    intro ℓ seen hm hI
    have : ℓ = H - c := by omega
    subst this
    exact ⟨seen, rfl, hI⟩
  | succ m ih =>
    intro ℓ seen hm hI
    obtain ⟨seen1, e1, hI1⟩ := fillLayer_specW h node H c hnode is his ℓ (by omega) iws [] seen hiws hI
    rw [hiws] at e1
    obtain ⟨seen', e2, hI2⟩ := ih (ℓ + 1) seen1 (by omega) (Inv_next hI1)
    refine ⟨seen', ?_, hI2⟩
    rw [List.range'_succ, List.foldlM_cons, hbody _ _ _ _ e1]
    exact e2

/-- streams that agree with `spec` wherever the index is new are `specW` of themselves -/
theorem specW_self (node : Nat → D) (H n : Nat) (is : List Nat) :
    ∀ (sufI : List Nat) (sufW : List (List D)) (pre : List Nat), sufW.length = sufI.length →
      (∀ a (h1 : a < sufI.length), sufI[a] ∉ pre ++ sufI.take a →
        sufW[a]? = (spec node H n is pre sufI 0)[a]?) →
      specW node H n is pre (sufI.zip sufW) 0 = sufW := by
  intro sufI
  induction sufI with
  | nil => intro sufW pre hl _; cases sufW <;> simp_all [specW]
  | cons i sufI ih =>
    intro sufW pre hl hw
    cases sufW with
    | nil => simp at hl
    | cons w sufW =>
      rw [List.zip_cons_cons, specW]
      congr 1
      · by_cases hip : i ∈ pre
        · rw [if_pos hip]
        · rw [if_neg hip]
          have := hw 0 (by simp) (by simpa using hip)
          simp only [spec, List.getElem?_cons_zero, Option.some.injEq] at this
          exact this.symm
      · apply ih sufW (pre ++ [i]) (by simpa using hl)
        intro a h1 hnot
        have := hw (a + 1) (Nat.succ_lt_succ h1) (by
          simpa only [List.getElem_cons_succ, List.take_succ_cons, List.append_assoc,
            List.singleton_append] using hnot)
        simpa [spec] using this

/-- **Round trip on first-wins compressed proofs**: `ws` are compressed proofs that agree with
`compress_merkle_proofs` at every position whose index has not occurred earlier (the others are
arbitrary); decompressing them gives the honest proofs. -/
theorem roundtrip_firstwins (h : Hasher L D) (H c : Nat)
    (leafAt : Nat → L) (node : Nat → D)
    (hleaf : ∀ i, i < 2 ^ H → node (i + 2 ^ H) = h.hashLeaf (leafAt i))
    (hnode : ∀ x, 1 ≤ x → x < 2 ^ H → node x = h.two (node (2 * x)) (node (2 * x + 1)))
    (is : List Nat) (his : ∀ i ∈ is, i < 2 ^ H) (ws : List (List D)) (hl : ws.length = is.length)
    (hws : ∀ a (h1 : a < is.length), is[a] ∉ is.take a →
      ws[a]? = (compress H c is (is.map (honest node H c)))[a]?) :
    decompress h (is.map leafAt) is ws H c = some (is.map (honest node H c)) := by
  rw [compress_spec node H c is his] at hws
  have hself : specW node H (H - c) is [] (is.zip ws) 0 = ws :=
    specW_self node H (H - c) is is ws [] hl (fun a h1 hn => hws a h1 (by simpa using hn))
  have hiws : (is.zip ws).map (·.1) = is := by
    rw [List.map_fst_zip]; omega
  unfold decompress
  simp only []
  have hI0 := Inv_init h H leafAt node hleaf is his
  obtain ⟨seen', e, hI⟩ := loop_specW h node H c hnode is his (is.zip ws) hiws
    (fun acc layer => do
      let __x ← fillLayer h layer H acc.fst (is.zip acc.snd)
      pure (__x.fst, __x.snd))
    (by intro s ps layer r e; simp [e]) (H - c) 0 _ (by omega) hI0
  rw [hself] at e
  rw [List.range_eq_range', e]
  simp only [Option.bind_eq_bind, Option.bind_some]
  apply mapM_option_map
  intro i hi
  rw [honest, List.range_eq_range']
  apply mapM_option_map
  intro j hj
  have hj' : j < H - c := by simpa using hj
  exact lookup_of_true hI.1 ((hI.2 _).2 (Or.inr (Or.inl ⟨i, hi, j, hj', rfl⟩)))

end P2.Lemmas.C16
