/-
Helper lemmas for C18b: a pure (loop-free) restatement `validateShapeP` of `Fri.validateShape`,
proved equal to the model function, the specification of its verdicts (`validateShape_spec`: what
an accepting shape validation establishes, and when it can panic), and the panic-freedom of every
later stage of `Fri.verify` under those facts.
-/
import P2.Lemmas.Merkle
import P2.Props.C18
namespace P2.Lemmas.FriShape
open P2 P2.Fri P2.Merkle

/-- the check on one commit-phase cap -/
def capV (capHeight : Nat) (cap : List Digest) : Option Verdict :=
  if cap.length ≠ 2 ^ capHeight then some (.reject "shape") else none

/-- the checks on one `(leaf, merkle proof)` of the initial trees proof against its oracle -/
def initV (p : FriParams) (x : (List GL × List Digest) × OracleInfo) : Option Verdict :=
  if x.1.1.length ≠ x.2.numPolys + saltSize (x.2.blinding && p.isHiding) then some (.reject "shape")
  else if x.1.2.length + p.config.capHeight ≠ p.ldeBits then some (.reject "shape")
  else none

/-- the loop over `steps.zip arityBits` with the running `codeword_len_bits` -/
def stepsV (p : FriParams) : List QueryStep → List Nat → Nat → Option Verdict
  | st :: rest, ab :: abs, bits =>
    if bits < ab then some (.panic "codeword_len_bits underflow")
    else if st.evals.length ≠ 2 ^ ab then some (.reject "shape")
    else if st.merkleProof.length + p.config.capHeight ≠ bits - ab then some (.reject "shape")
    else stepsV p rest abs (bits - ab)
  | [], _, _ => none
  | _ :: _, [], _ => none

/-- the checks on one query round -/
def queryV (inst : Instance) (p : FriParams) (q : QueryRound) : Option Verdict :=
  if q.initial.length ≠ inst.oracles.length then some (.reject "shape") else
  match (q.initial.zip inst.oracles).findSome? (initV p) with
  | some r => some r
  | none =>
    if q.steps.length ≠ p.arityBits.length then some (.reject "shape") else
    stepsV p q.steps p.arityBits p.ldeBits

/-- `Fri.validateShape` without `for` loops (same checks, same order, same verdicts) -/
def validateShapeP (proof : Proof) (inst : Instance) (p : FriParams) : Verdict :=
  if proof.commitCaps.length ≠ p.arityBits.length then .reject "shape" else
  match proof.commitCaps.findSome? (capV p.config.capHeight) with
  | some r => r
  | none =>
    match proof.queries.findSome? (queryV inst p) with
    | some r => r
    | none =>
      if p.degreeBits < p.totalArities then .panic "final_poly_bits underflow"
      else if proof.finalPoly.length ≠ 2 ^ (p.degreeBits - p.totalArities) then .reject "shape"
      else .accept

/-- how a `for` loop without state goes on after a check: leave with its verdict, or continue -/
def exitOn {β : Type} : Option β → ForInStep (Option β × PUnit)
  | some r => .done (some r, ())
  | none => .yield (none, ())

/-- a stateless early-exit `for` loop in `Id` is `findSome?` -/
theorem forIn_first {α β : Type} (g : α → Option β) (l : List α)
    (f : α → Option β × PUnit → Id (ForInStep (Option β × PUnit))) (hf : ∀ a s, f a s = exitOn (g a)) :
    (forIn (m := Id) l ((none, ()) : Option β × PUnit) f).fst = l.findSome? g := by
  induction l with
  | nil => rfl
  | cons a rest ih =>
    rw [List.forIn_cons, List.findSome?_cons, hf]
    cases g a with
    | some r => rfl
    | none => exact ih

/-- the step loop of `validateShape` (over `steps.zip arityBits`) is `stepsV`. The body `f` is a variable
with the equation `hf`, which the elaborated body satisfies by `rfl` (see `validateShape_eq`) -/
theorem steps_loop (p : FriParams)
    (f : QueryStep × Nat → Option Verdict × Nat → Id (ForInStep (Option Verdict × Nat)))
    (hf : ∀ st ab bits, f (st, ab) (none, bits) =
      if bits < ab then ForInStep.done (some (Verdict.panic "codeword_len_bits underflow"), bits)
      else if st.evals.length ≠ 2 ^ ab then ForInStep.done (some (Verdict.reject "shape"), bits - ab)
      else if st.merkleProof.length + p.config.capHeight ≠ bits - ab then
        ForInStep.done (some (Verdict.reject "shape"), bits - ab)
      else ForInStep.yield (none, bits - ab))
    (steps : List QueryStep) (abs : List Nat) (bits : Nat) :
    (forIn (m := Id) (steps.zip abs) ((none, bits) : Option Verdict × Nat) f).fst = stepsV p steps abs bits := by
  induction steps generalizing abs bits with
  | nil => rfl
  | cons st rest ih =>
    cases abs with
    | nil => rfl
    | cons ab abs =>
      rw [List.zip_cons_cons, List.forIn_cons, hf, stepsV]
      by_cases h1 : bits < ab
      · rw [if_pos h1, if_pos h1]; rfl
      rw [if_neg h1, if_neg h1]
      by_cases h2 : st.evals.length ≠ 2 ^ ab
      · rw [if_pos h2, if_pos h2]; rfl
      rw [if_neg h2, if_neg h2]
      by_cases h3 : st.merkleProof.length + p.config.capHeight ≠ bits - ab
      · rw [if_pos h3, if_pos h3]; rfl
      rw [if_neg h3, if_neg h3]
      exact ih abs (bits - ab)

theorem validateShape_eq (proof : Proof) (inst : Instance) (p : FriParams) :
    validateShape proof inst p = validateShapeP proof inst p := by
  unfold validateShape validateShapeP
  dsimp only [Id.run, bind, pure]
  rw [forIn_first (capV p.config.capHeight) _ _ ?hc, forIn_first (queryV inst p) _ _ ?hq]
  case hc =>
    intro cap s
    rw [capV, apply_ite exitOn]
    rfl
  case hq =>
    intro q s
    rw [forIn_first (initV p) _ _ ?hi, steps_loop p _ (fun _ _ _ => rfl), queryV, apply_ite exitOn]
    case hi =>
      intro x s
      rw [initV, apply_ite exitOn, apply_ite exitOn]
      rfl
    cases List.findSome? (initV p) (q.initial.zip inst.oracles) with
    | some r => rfl
    | none =>
      dsimp only
      rw [apply_ite exitOn]
      rfl
  -- the two sides use different (definitionally equal) matchers, which `rfl` sees through only on constructors
  cases List.findSome? (capV p.config.capHeight) proof.commitCaps with
  | some r => rfl
  | none => cases List.findSome? (queryV inst p) proof.queries <;> rfl

/-- `v` is `accept` only if `acc`, a panic only if `pan` -/
def OnlyIf (acc pan : Prop) : Verdict → Prop
  | .accept => acc
  | .reject _ => True
  | .panic _ => pan

theorem OnlyIf.mono {acc acc' pan pan' : Prop} (ha : acc → acc') (hp : pan → pan') :
    ∀ {v}, OnlyIf acc pan v → OnlyIf acc' pan' v
  | .accept, h => ha h
  | .reject _, _ => trivial
  | .panic _, h => hp h

/-- a check passes (`none`) only if `ok`; it never fails with `accept`, and with a panic only if `pan` -/
def CheckSpec (ok pan : Prop) : Option Verdict → Prop
  | some v => OnlyIf False pan v
  | none => ok

theorem CheckSpec.some {ok pan : Prop} {o : Option Verdict} {v : Verdict} (h : CheckSpec ok pan o)
    (e : o = some v) : OnlyIf False pan v := by
  subst e; exact h

theorem CheckSpec.none {ok pan : Prop} {o : Option Verdict} (h : CheckSpec ok pan o) (e : o = none) : ok := by
  subst e; exact h

theorem CheckSpec.findSome? {α : Type} {g : α → Option Verdict} {ok : α → Prop} {pan : Prop}
    (hg : ∀ a, CheckSpec (ok a) pan (g a)) (l : List α) :
    CheckSpec (∀ a ∈ l, ok a) pan (l.findSome? g) := by
  cases h : l.findSome? g with
  | some v =>
    obtain ⟨a, _, ha⟩ := List.exists_of_findSome?_eq_some h
    exact (hg a).some ha
  | none => exact fun a ha => (hg a).none (List.findSome?_eq_none_iff.mp h a ha)

theorem capV_spec (capHeight : Nat) (cap : List Digest) :
    CheckSpec (cap.length = 2 ^ capHeight) False (capV capHeight cap) := by
  rw [capV]
  by_cases h : cap.length ≠ 2 ^ capHeight
  · rw [if_pos h]; trivial
  · rw [if_neg h]; exact (Decidable.of_not_not h : cap.length = _)

theorem initV_spec (p : FriParams) (x : (List GL × List Digest) × OracleInfo) :
    CheckSpec (x.1.1.length = x.2.numPolys + saltSize (x.2.blinding && p.isHiding) ∧
        x.1.2.length + p.config.capHeight = p.ldeBits) False (initV p x) := by
  rw [initV]
  by_cases h1 : x.1.1.length ≠ x.2.numPolys + saltSize (x.2.blinding && p.isHiding)
  · rw [if_pos h1]; trivial
  rw [if_neg h1]
  by_cases h2 : x.1.2.length + p.config.capHeight ≠ p.ldeBits
  · rw [if_pos h2]; trivial
  · rw [if_neg h2]; exact And.intro (Decidable.of_not_not h1) (Decidable.of_not_not h2)

/-- the step loop never accepts, and underflows only if the arities exceed the codeword length -/
theorem stepsV_some (p : FriParams) (steps : List QueryStep) (abs : List Nat) (bits : Nat) (v : Verdict)
    (h : stepsV p steps abs bits = some v) : OnlyIf False (bits < abs.foldl (· + ·) 0) v := by
  induction steps generalizing abs bits with
  | nil => cases h
  | cons st rest ih =>
    cases abs with
    | nil => cases h
    | cons ab abs =>
      rw [List.foldl_cons, Props.C05.foldl_add, Nat.zero_add]
      rw [stepsV] at h
      by_cases h1 : bits < ab
      · rw [if_pos h1] at h; cases h; exact Nat.lt_of_lt_of_le h1 (Nat.le_add_right _ _)
      rw [if_neg h1] at h
      by_cases h2 : st.evals.length ≠ 2 ^ ab
      · rw [if_pos h2] at h; cases h; trivial
      rw [if_neg h2] at h
      by_cases h3 : st.merkleProof.length + p.config.capHeight ≠ bits - ab
      · rw [if_pos h3] at h; cases h; trivial
      rw [if_neg h3] at h
      exact (ih abs (bits - ab) h).mono id (fun hlt => by omega)

theorem stepsV_cons_none (p : FriParams) (st : QueryStep) (rest : List QueryStep) (ab : Nat) (abs : List Nat)
    (bits : Nat) (h : stepsV p (st :: rest) (ab :: abs) bits = none) :
    ab ≤ bits ∧ st.evals.length = 2 ^ ab ∧ st.merkleProof.length + p.config.capHeight = bits - ab ∧
      stepsV p rest abs (bits - ab) = none := by
  rw [stepsV] at h
  by_cases h1 : bits < ab
  · rw [if_pos h1] at h; cases h
  rw [if_neg h1] at h
  by_cases h2 : st.evals.length ≠ 2 ^ ab
  · rw [if_pos h2] at h; cases h
  rw [if_neg h2] at h
  by_cases h3 : st.merkleProof.length + p.config.capHeight ≠ bits - ab
  · rw [if_pos h3] at h; cases h
  rw [if_neg h3] at h
  exact ⟨Nat.le_of_not_lt h1, Decidable.of_not_not h2, Decidable.of_not_not h3, h⟩

structure QueryOK (inst : Instance) (p : FriParams) (q : QueryRound) : Prop where
  initLen : q.initial.length = inst.oracles.length
  init : ∀ x ∈ q.initial.zip inst.oracles,
    x.1.1.length = x.2.numPolys + saltSize (x.2.blinding && p.isHiding) ∧
    x.1.2.length + p.config.capHeight = p.ldeBits
  stepsLen : q.steps.length = p.arityBits.length
  steps : stepsV p q.steps p.arityBits p.ldeBits = none

theorem queryV_spec (inst : Instance) (p : FriParams) (q : QueryRound) :
    CheckSpec (QueryOK inst p q) (p.degreeBits < p.totalArities) (queryV inst p q) := by
  rw [queryV]
  by_cases h1 : q.initial.length ≠ inst.oracles.length
  · rw [if_pos h1]; trivial
  rw [if_neg h1]
  have hinit := CheckSpec.findSome? (initV_spec p) (q.initial.zip inst.oracles)
  cases hi : (q.initial.zip inst.oracles).findSome? (initV p) with
  | some r => exact (hinit.some hi).mono id False.elim
  | none =>
    by_cases h2 : q.steps.length ≠ p.arityBits.length
    · rw [if_pos h2]; trivial
    rw [if_neg h2]
    cases hs : stepsV p q.steps p.arityBits p.ldeBits with
    | some r =>
      exact (stepsV_some _ _ _ _ _ hs).mono id fun hlt => Nat.lt_of_le_of_lt (Nat.le_add_right _ _) hlt
    | none =>
      exact ⟨Decidable.of_not_not h1, hinit.none hi, Decidable.of_not_not h2, hs⟩

/-- **the verdicts of `validate_fri_proof_shape`**: it accepts only proofs of the right shape, and it
panics only if the reduction arities exceed the degree -/
theorem validateShape_spec (proof : Proof) (inst : Instance) (p : FriParams) :
    OnlyIf (proof.commitCaps.length = p.arityBits.length ∧
        (∀ cap ∈ proof.commitCaps, cap.length = 2 ^ p.config.capHeight) ∧
        ∀ q ∈ proof.queries, QueryOK inst p q)
      (p.degreeBits < p.totalArities) (validateShape proof inst p) := by
  rw [validateShape_eq, validateShapeP]
  by_cases h1 : proof.commitCaps.length ≠ p.arityBits.length
  · rw [if_pos h1]; trivial
  rw [if_neg h1]
  have hcaps := CheckSpec.findSome? (capV_spec p.config.capHeight) proof.commitCaps
  have hqs := CheckSpec.findSome? (queryV_spec inst p) proof.queries
  cases hc : proof.commitCaps.findSome? (capV p.config.capHeight) with
  | some r => exact (hcaps.some hc).mono False.elim False.elim
  | none =>
    cases hq : proof.queries.findSome? (queryV inst p) with
    | some r => exact (hqs.some hq).mono False.elim id
    | none =>
      by_cases h2 : p.degreeBits < p.totalArities
      · rw [if_pos h2]; exact h2
      rw [if_neg h2]
      by_cases h3 : proof.finalPoly.length ≠ 2 ^ (p.degreeBits - p.totalArities)
      · rw [if_pos h3]; trivial
      rw [if_neg h3]
      exact ⟨Decidable.of_not_not h1, hcaps.none hc, hqs.none hq⟩

theorem div_pow_lt (x a b : Nat) (h : x < 2 ^ (a + b)) : x / 2 ^ a < 2 ^ b := by
  rw [Nat.div_lt_iff_lt_mul (Nat.two_pow_pos a), ← Nat.pow_add, Nat.add_comm]
  exact h

/-- a path of `bits - capHeight` siblings leads an index below `2^bits` into a cap of `2^capHeight` digests -/
theorem verifyToCap_no_panic {L D : Type} [DecidableEq D] (h : Hasher L D) (leaf : L) (index : Nat)
    (cap pf : List D) (capHeight bits : Nat) (hcap : cap.length = 2 ^ capHeight)
    (hpf : pf.length + capHeight = bits) (hidx : index < 2 ^ bits) :
    verifyToCap h leaf index cap pf ≠ .panic := by
  have hlt : index / 2 ^ pf.length < cap.length := by
    rw [hcap]
    apply div_pow_lt
    rw [hpf]; exact hidx
  rw [verifyToCap, ← Prod.eta (foldPath _ _ _ _), Lemmas.Merkle.foldPath_snd]
  dsimp only
  rw [List.getElem?_eq_getElem hlt]
  dsimp only
  split <;> exact Outcome.noConfusion

theorem zip_mem_left {α β : Type} (l₁ : List α) (l₂ : List β) (hlen : l₁.length = l₂.length)
    (a : α) (ha : a ∈ l₁) : ∃ b, (a, b) ∈ l₁.zip l₂ := by
  rw [← List.map_fst_zip (Nat.le_of_eq hlen)] at ha
  obtain ⟨⟨_, b⟩, hm, rfl⟩ := List.mem_map.mp ha
  exact ⟨b, hm⟩

theorem initialChecks_no_panic (p : FriParams) (initial : List (List GL × List Digest))
    (oracles : List OracleInfo) (initialCaps : List (List Digest)) (xi : Nat)
    (hlen : initial.length = oracles.length)
    (hinit : ∀ x ∈ initial.zip oracles, x.1.2.length + p.config.capHeight = p.ldeBits)
    (hicaps : ∀ cap ∈ initialCaps, cap.length = 2 ^ p.config.capHeight)
    (hxi : xi < 2 ^ p.ldeBits) :
    ∀ v ∈ initialChecks initial initialCaps xi, ∀ s, v ≠ .panic s := by
  intro v hv s
  obtain ⟨⟨⟨leaf, mp⟩, cap⟩, hmem, rfl⟩ := List.mem_map.mp hv
  obtain ⟨hl, hc⟩ := List.of_mem_zip hmem
  obtain ⟨o, ho⟩ := zip_mem_left initial oracles hlen _ hl
  dsimp only
  split
  · exact Verdict.noConfusion
  · exact Verdict.noConfusion
  · rename_i hvc
    exact absurd hvc (verifyToCap_no_panic _ _ _ _ _ _ _ (hicaps cap hc) (hinit _ ho) hxi)

/-- decidable well-formedness of a FRI instance: every polynomial of every batch refers to an
existing oracle and to a polynomial index inside that oracle -/
def InstanceWF (inst : Instance) : Bool :=
  inst.batches.all fun b => b.polys.all fun pi =>
    match inst.oracles[pi.oracle]? with
    | some o => decide (pi.poly < o.numPolys)
    | none => false

theorem instanceWF_iff (inst : Instance) : InstanceWF inst = true ↔
    ∀ b ∈ inst.batches, ∀ pi ∈ b.polys, ∃ o, inst.oracles[pi.oracle]? = some o ∧ pi.poly < o.numPolys := by
  unfold InstanceWF
  simp only [List.all_eq_true]
  constructor
  · intro h b hb pi hpi
    have := h b hb pi hpi
    split at this
    · rename_i o ho; exact ⟨o, ho, of_decide_eq_true this⟩
    · cases this
  · intro h b hb pi hpi
    obtain ⟨o, ho, hlt⟩ := h b hb pi hpi
    rw [ho]; exact decide_eq_true hlt

theorem forIn_option_inv {α β : Type} (P : β → Prop) (l : List α) (f : α → β → Option (ForInStep β))
    (b : β) (hb : P b) (hf : ∀ x ∈ l, ∀ b, P b → ∃ r, f x b = some r ∧ P r.value) :
    ∃ r, forIn l b f = some r ∧ P r := by
  induction l generalizing b with
  | nil => exact ⟨b, rfl, hb⟩
  | cons x t ih =>
    obtain ⟨r, h1, h2⟩ := hf x List.mem_cons_self b hb
    rw [List.forIn_cons, h1]
    cases r with
    | done b' => exact ⟨b', rfl, h2⟩
    | yield b' => exact ih b' h2 fun y hy => hf y (List.mem_cons_of_mem _ hy)

/-- `forIn_option_inv` for one `>>=`: `x` returns with `P`, and `f` takes `P` to a result with `Q` -/
theorem bind_option_inv {α β : Type} {x : Option α} {f : α → Option β} {P : α → Prop} {Q : β → Prop}
    (hx : ∃ a, x = some a ∧ P a) (hf : ∀ a, P a → ∃ b, f a = some b ∧ Q b) : ∃ b, x >>= f = some b ∧ Q b := by
  obtain ⟨a, rfl, h⟩ := hx
  exact hf a h

theorem combineInitial_some (inst : Instance) (initial : List (List GL × List Digest))
    (alpha : GL2) (x : GL) (ro : List GL2) (p : FriParams)
    (hinst : InstanceWF inst = true)
    (hlen : initial.length = inst.oracles.length)
    (hleaf : ∀ y ∈ initial.zip inst.oracles,
      y.1.1.length = y.2.numPolys + saltSize (y.2.blinding && p.isHiding)) :
    ∃ r, combineInitial inst initial alpha x ro p = some r := by
  rw [instanceWF_iff] at hinst
  unfold combineInitial
  dsimp only [bind, pure]
  refine (bind_option_inv (Q := fun _ => True) (forIn_option_inv (fun _ => True) _ _ _ trivial fun bx hbx sum _ =>
    bind_option_inv (forIn_option_inv (fun _ => True) _ _ _ trivial fun pi hpi evals _ => ?_)
      fun _ _ => ⟨_, rfl, trivial⟩) fun _ _ => ⟨_, rfl, trivial⟩).imp fun _ => And.left
  obtain ⟨o, ho, hlt⟩ := hinst _ (List.of_mem_zip hbx).1 pi hpi
  have hii : pi.oracle < initial.length := hlen ▸ (List.getElem?_eq_some_iff.mp ho).1
  have hl := hleaf (initial[pi.oracle], o)
    (List.mem_of_getElem? (List.getElem?_zip_eq_some.mpr ⟨List.getElem?_eq_getElem hii, ho⟩))
  have hlt' : pi.poly < (List.take (initial[pi.oracle].fst.length - saltSize (p.isHiding && o.blinding))
      initial[pi.oracle].fst).length := by
    rw [List.length_take, Bool.and_comm, hl, Nat.add_sub_cancel, Nat.min_eq_left (Nat.le_add_right _ _)]
    exact hlt
  rw [ho, List.getElem?_eq_getElem hii, Option.bind_some, Option.bind_some, List.getElem?_eq_getElem hlt']
  exact ⟨_, rfl, trivial⟩

theorem stepsFrom_no_panic (proof : Proof) (ch : Challenges) (q : QueryRound) (p : FriParams) (n : Nat)
    (hcaps : ∀ cap ∈ proof.commitCaps, cap.length = 2 ^ p.config.capHeight)
    (hs : n ≤ q.steps.length) (hb : n ≤ ch.betas.length) (hc : n ≤ proof.commitCaps.length) :
    ∀ (abs : List Nat) (i xIndex bits : Nat) (x : GL) (oldEval : GL2),
      stepsV p (q.steps.drop i) abs bits = none → i + abs.length ≤ n → xIndex < 2 ^ bits →
      ∀ s, (stepsFrom proof ch q abs i xIndex x oldEval).1 ≠ .panic s := by
  intro abs
  induction abs with
  | nil => intro i xIndex bits x oldEval _ _ _ s; exact Verdict.noConfusion
  | cons ab rest ih =>
    intro i xIndex bits x oldEval hV hn hx s
    have hin : i < n := Nat.lt_of_lt_of_le (Nat.lt_add_of_pos_right (Nat.succ_pos _)) hn
    have hi := Nat.lt_of_lt_of_le hin hs
    have hic := Nat.lt_of_lt_of_le hin hc
    rw [List.drop_eq_getElem_cons hi] at hV
    obtain ⟨hle, hev, hmp, hV⟩ := stepsV_cons_none _ _ _ _ _ _ hV
    have hw : xIndex % 2 ^ ab < q.steps[i].evals.length := by
      rw [hev]; exact Nat.mod_lt _ (Nat.two_pow_pos ab)
    have hcos : xIndex / 2 ^ ab < 2 ^ (bits - ab) := by
      apply div_pow_lt
      rw [Nat.add_sub_cancel' hle]; exact hx
    -- every index of this layer is in range: the four lookups of `stepsFrom` succeed
    simp only [stepsFrom, List.getElem?_eq_getElem hi, List.getElem?_eq_getElem hw,
      List.getElem?_eq_getElem (Nat.lt_of_lt_of_le hin hb), List.getElem?_eq_getElem hic]
    split
    · exact Verdict.noConfusion
    · split
      · exact Verdict.noConfusion
      · rename_i hvc
        exact absurd hvc (verifyToCap_no_panic _ _ _ _ _ _ _ (hcaps _ (List.getElem_mem hic)) hmp hcos)
      · exact ih (i + 1) _ (bits - ab) _ _ hV (by rw [List.length_cons] at hn; omega) hcos s

theorem queryRound_no_panic (inst : Instance) (ch : Challenges) (reduced : List GL2)
    (initialCaps : List (List Digest)) (proof : Proof) (xi : Nat) (q : QueryRound) (p : FriParams)
    (hq : QueryOK inst p q)
    (hcl : proof.commitCaps.length = p.arityBits.length)
    (hcaps : ∀ cap ∈ proof.commitCaps, cap.length = 2 ^ p.config.capHeight)
    (hbetas : ch.betas.length = proof.commitCaps.length)
    (hxi : xi < 2 ^ p.ldeBits)
    (hicaps : ∀ cap ∈ initialCaps, cap.length = 2 ^ p.config.capHeight)
    (hinst : InstanceWF inst = true) :
    ∀ s, queryRound inst ch reduced initialCaps proof xi q p ≠ .panic s := by
  intro s
  unfold queryRound
  have hfb := Props.C18.firstBad_not_panic _ (initialChecks_no_panic p q.initial inst.oracles initialCaps xi
    hq.initLen (fun y hy => (hq.init y hy).2) hicaps hxi)
  cases hf : firstBad (initialChecks q.initial initialCaps xi) with
  | reject t => exact Verdict.noConfusion
  | panic t => exact absurd hf (hfb t)
  | accept =>
    dsimp only
    generalize GL.multGen * GL.pow (GL.primitiveRoot p.ldeBits) (BitRev.bitrev p.ldeBits xi) = x0
    obtain ⟨old0, hco⟩ := combineInitial_some inst q.initial ch.alpha x0 reduced p hinst
      hq.initLen (fun y hy => (hq.init y hy).1)
    rw [hco]
    dsimp only
    have hsf := stepsFrom_no_panic proof ch q p p.arityBits.length hcaps (Nat.le_of_eq hq.stepsLen.symm)
      (Nat.le_of_eq (hbetas.trans hcl).symm) (Nat.le_of_eq hcl.symm) p.arityBits 0 xi p.ldeBits x0 old0
      hq.steps (Nat.le_of_eq (Nat.zero_add _)) hxi s
    generalize stepsFrom proof ch q p.arityBits 0 xi x0 old0 = r at hsf
    obtain ⟨v, le, xf⟩ := r
    cases v with
    | accept => dsimp only; split <;> exact Verdict.noConfusion
    | reject t => exact Verdict.noConfusion
    | panic t => exact hsf

end P2.Lemmas.FriShape
