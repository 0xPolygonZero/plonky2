/-
Structure of the list `Plonk.checkLookupConstraints` builds (core only, no Mathlib): which term
stands at which position, with the pieces named. Used by `P2.Props.C08c` to tie the row-level
constraint system of `P2.Lemmas.LookupTrace` to what the verifier model evaluates.
-/
import P2.Model.Plonk

namespace P2.Lemmas.LookupStructure
open P2 P2.Plonk

section pieces
variable (c : CommonData) (wires localZs nextZs sels : List GL2) (deltas : List GL)

/-- `num_sldc_polys = local_lookup_zs.len() − 1` -/
def numSldc : Nat := localZs.length - 1
/-- `lookup_selectors[i]` -/
def sel (i : Nat) : GL2 := sels.getD i FOps.zero
/-- `z_re = local_lookup_zs[0]` -/
def zRe : GL2 := localZs.getD 0 FOps.zero
/-- `next_z_re` -/
def nextZRe : GL2 := nextZs.getD 0 FOps.zero
/-- `z_x_lookup_sldcs[i] = local_lookup_zs[i + 1]` -/
def zx (i : Nat) : GL2 := localZs.getD (i + 1) FOps.zero
/-- `z_gx_lookup_sldcs[i] = next_lookup_zs[i + 1]` -/
def zgx (i : Nat) : GL2 := nextZs.getD (i + 1) FOps.zero

/-- `prev`: the previous poly of the current row, or the LAST poly of the next row -/
def sldcPrev (poly : Nat) : GL2 :=
  if poly = 0 then zgx nextZs (numSldc localZs - 1) else zx localZs (poly - 1)

def wire (i : Nat) : GL2 := wires.getD i FOps.zero
def numLuSlots : Nat := c.config.numRoutedWires / 2
def numLutSlots : Nat := c.config.numRoutedWires / 3
def luDegree : Nat := c.quotientDegreeFactor - 1
def lutDegree : Nat :=
  if numSldc localZs = 0 then 0 else (numLutSlots c + numSldc localZs - 1) / numSldc localZs
def dA : GL2 := GL2.ofBase (deltas.getD 0 0)
def dB : GL2 := GL2.ofBase (deltas.getD 1 0)
def dAlpha : GL2 := GL2.ofBase (deltas.getD 2 0)
def dDelta : GL2 := GL2.ofBase (deltas.getD 3 0)
/-- `current_looked_combos[s]` -/
def looked (s : Nat) : GL2 := wire wires (3 * s) + dA deltas * wire wires (3 * s + 1)
/-- `current_looking_combos[s]` -/
def looking (s : Nat) : GL2 := wire wires (2 * s) + dA deltas * wire wires (2 * s + 1)
/-- `current_lookup_combos[s]` -/
def lookupCombo (s : Nat) : GL2 := wire wires (3 * s) + dB deltas * wire wires (3 * s + 1)

/-- slot range of poly `poly` for the Sum -/
def lutRange (poly : Nat) : List Nat :=
  (List.range (min ((poly + 1) * lutDegree c localZs) (numLutSlots c) - poly * lutDegree c localZs)).map
    (· + poly * lutDegree c localZs)
/-- slot range of poly `poly` for the LDC -/
def luRange (poly : Nat) : List Nat :=
  (List.range (min ((poly + 1) * luDegree c) (numLuSlots c) - poly * luDegree c)).map
    (· + poly * luDegree c)

/-- `lut_prod` -/
def lutProd (poly : Nat) : GL2 :=
  (lutRange c localZs poly).foldl (fun acc i => acc * (dAlpha deltas - looked wires deltas i)) FOps.one
/-- `lu_prod` -/
def luProd (poly : Nat) : GL2 :=
  (luRange c poly).foldl (fun acc i => acc * (dAlpha deltas - looking wires deltas i)) FOps.one
/-- `lut_prod_i(i)` -/
def lutProdI (poly i : Nat) : GL2 :=
  (lutRange c localZs poly).foldl
    (fun acc j => if j ≠ i then acc * (dAlpha deltas - looked wires deltas j) else acc) FOps.one
/-- `lu_prod_i(i)` -/
def luProdI (poly i : Nat) : GL2 :=
  (luRange c poly).foldl
    (fun acc j => if j ≠ i then acc * (dAlpha deltas - looking wires deltas j) else acc) FOps.one
/-- `lu_sum_prods` -/
def luSumProds (poly : Nat) : GL2 :=
  (luRange c poly).foldl (fun acc i => acc + luProdI c wires deltas poly i) FOps.zero
/-- `lut_sum_prods_with_mul` -/
def lutSumProdsMul (poly : Nat) : GL2 :=
  (lutRange c localZs poly).foldl
    (fun acc i => acc + wire wires (3 * i + 2) * lutProdI c wires localZs deltas poly i) FOps.zero

/-- `unfiltered_sum_transition = lut_prod * (z[poly] − prev) − lut_sum_prods_with_mul` -/
def sumTransition (poly : Nat) : GL2 :=
  lutProd c wires localZs deltas poly * (zx localZs poly - sldcPrev localZs nextZs poly)
    - lutSumProdsMul c wires localZs deltas poly
/-- `unfiltered_ldc_transition = lu_prod * (z[poly] − prev) + lu_sum_prods` -/
def ldcTransition (poly : Nat) : GL2 :=
  luProd c wires deltas poly * (zx localZs poly - sldcPrev localZs nextZs poly)
    + luSumProds c wires deltas poly

/-- the final RE constraints, one per table -/
def endsTerms : List GL2 :=
  (List.range (c.numLookupSelectors - 4)).map fun t =>
    let lut := c.luts.getD t []
    let rows := (lut.length + numLutSlots c - 1) / numLutSlots c
    let ev := lutPolyEval lut (numLutSlots c) (numLutSlots c * rows) (deltas.getD 1 0) (deltas.getD 3 0)
    sel sels (4 + t) * (zRe localZs - GL2.ofBase ev)

/-- the RE row transition -/
def reTransition : GL2 :=
  zRe localZs - (List.range (numLutSlots c)).foldl
    (fun acc s => acc * dDelta deltas + lookupCombo wires deltas s) (nextZRe nextZs)

/-- the two transition terms of poly `poly` -/
def polyTerms (poly : Nat) : List GL2 :=
  [ sel sels 0 * sumTransition c wires localZs nextZs deltas poly,
    sel sels 1 * ldcTransition c wires localZs nextZs deltas poly ]

/-- **the list, in the order of the code**: LastLdc, InitSre (on the LAST SLDC poly: the repair of
F-C08-1), InitSre on RE, the table ends, the RE transition, then per poly the Sum and the LDC
transition -/
theorem checkLookupConstraints_eq :
    checkLookupConstraints c wires localZs nextZs sels deltas =
      [ sel sels 3 * zx localZs (numSldc localZs - 1),
        sel sels 2 * zx localZs (numSldc localZs - 1),
        sel sels 2 * zRe localZs ]
      ++ endsTerms c localZs sels deltas
      ++ [sel sels 0 * reTransition c wires localZs nextZs deltas]
      ++ (List.range (numSldc localZs)).flatMap (polyTerms c wires localZs nextZs sels deltas) :=
  rfl

end pieces

/-- after a prefix of length `n`, the pairs `[f p, g p]` for `p < s` stand at `n + 2·p`, `n + 2·p + 1` -/
theorem getElem?_append_flatMap_pair {β : Type} (pre : List β) (n s : Nat) (f g : Nat → β)
    (hn : pre.length = n) (i : Nat) (hi : i < s) :
    (pre ++ (List.range s).flatMap fun p => [f p, g p])[n + 2 * i]? = some (f i) ∧
    (pre ++ (List.range s).flatMap fun p => [f p, g p])[n + 2 * i + 1]? = some (g i) := by
  have key : ∀ (l : List Nat) (j : Nat),
      (l.flatMap fun p => [f p, g p])[2 * j]? = l[j]?.map f ∧
      (l.flatMap fun p => [f p, g p])[2 * j + 1]? = l[j]?.map g := by
    -- every case computes: `2 * (j + 1)` is `2 * j + 2`, past the two entries of the head
    intro l
    induction l with
    | nil => exact fun _ => ⟨rfl, rfl⟩
    | cons a t ih =>
      intro j
      cases j with
      | zero => exact ⟨rfl, rfl⟩
      | succ j => exact ih j
  subst hn
  rw [Nat.add_assoc, List.getElem?_append_right (Nat.le_add_right _ _),
    List.getElem?_append_right (Nat.le_add_right _ _), Nat.add_sub_cancel_left,
    Nat.add_sub_cancel_left, (key _ i).1, (key _ i).2, List.getElem?_range hi]
  exact ⟨rfl, rfl⟩

/-- **positions of the SLDC terms** in `checkLookupConstraints`: `0` LastLdc on `z_{s−1}`,
`1` InitSre on `z_{s−1}`, `2` InitSre on RE, and for `poly < s` at `off + 2·poly` the Sum
transition, at `off + 2·poly + 1` the LDC transition, `off = 4 + #tables` -/
theorem checkLookupConstraints_positions (c : CommonData) (wires localZs nextZs sels : List GL2)
    (deltas : List GL) :
    let l := checkLookupConstraints c wires localZs nextZs sels deltas
    let off := 4 + (c.numLookupSelectors - 4)
    l[0]? = some (sel sels 3 * zx localZs (numSldc localZs - 1)) ∧
    l[1]? = some (sel sels 2 * zx localZs (numSldc localZs - 1)) ∧
    l[2]? = some (sel sels 2 * zRe localZs) ∧
    ∀ poly, poly < numSldc localZs →
      l[off + 2 * poly]? = some (sel sels 0 * sumTransition c wires localZs nextZs deltas poly) ∧
      l[off + 2 * poly + 1]? = some (sel sels 1 * ldcTransition c wires localZs nextZs deltas poly) := by
  refine ⟨rfl, rfl, rfl, fun poly hpoly => ?_⟩
  rw [checkLookupConstraints_eq]
  refine getElem?_append_flatMap_pair _ _ _ _ _ ?_ poly hpoly
  simp only [endsTerms, List.length_append, List.length_cons, List.length_nil, List.length_map,
    List.length_range]
  omega

end P2.Lemmas.LookupStructure
