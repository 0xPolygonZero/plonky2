/-
Helpers for C15b: coefficient lists as Mathlib polynomials, `trim`/`degreePlusOne`, the pointwise
operations `add`/`sub`, one round of long division; the pure forms of the driver's transform requests
with their equations; the fold of `barycentric_weights` as a product.
-/
import Mathlib.Algebra.Polynomial.Div
import Mathlib.Algebra.Polynomial.FieldDivision
import Mathlib.LinearAlgebra.Lagrange
import P2.Lemmas.Alg2
import P2.Props.C15
set_option linter.unusedSectionVars false
namespace P2.Lemmas.C15Poly
open P2 Polynomial P2.Lemmas.Alg2

section
variable {K : Type} [Field K]

local notation "dpo" => @Poly.degreePlusOne _ (FOps.ofField _)
local notation "trimK" => @Poly.trim _ (FOps.ofField _)

/-- the polynomial with coefficient list `c` (low degree first) -/
noncomputable def toPoly (c : List K) : K[X] := ∑ i : Fin c.length, C c[i] * X ^ (i : Nat)

theorem toPoly_coeff (c : List K) (k : Nat) : (toPoly c).coeff k = c.getD k 0 := by
  have : toPoly c = ∑ i ∈ Finset.range c.length, C (c.getD i 0) * X ^ i :=
    (Finset.sum_congr rfl fun i _ => by rw [Fin.getElem_fin, List.getElem_eq_getD 0]).trans
      (Fin.sum_univ_eq_sum_range (fun i => C (c.getD i 0) * X ^ i) c.length)
  rw [this, finsetSum_coeff]
  simp only [coeff_C_mul_X_pow]
  rw [Finset.sum_ite_eq]
  split
  · rfl
  · next h => exact (List.getD_eq_default _ _ (Nat.le_of_not_lt (h ∘ Finset.mem_range.2))).symm

theorem toPoly_ext {a b : List K} (h : ∀ k, a.getD k 0 = b.getD k 0) : toPoly a = toPoly b :=
  Polynomial.ext fun k => by rw [toPoly_coeff, toPoly_coeff, h k]

theorem toPoly_nil : toPoly ([] : List K) = 0 := rfl

theorem toPoly_replicate_zero (n : Nat) : toPoly (List.replicate n (0 : K)) = 0 := by
  ext k
  rw [toPoly_coeff, List.getD_eq_getElem?_getD, List.getElem?_getD_replicate_default_eq, coeff_zero]

theorem toPoly_eq_ofList (c : List K) : toPoly c = ofList c :=
  Polynomial.ext fun k => by rw [toPoly_coeff, ofList_coeff]

variable [DecidableEq K]

theorem toPoly_eval (c : List K) (x : K) :
    (toPoly c).eval x = @Poly.eval K (FOps.ofField K) c x := by
  rw [toPoly_eq_ofList, ofList_eval]

theorem dpo_nil : dpo ([] : List K) = 0 := rfl

theorem dpo_append_singleton (c : List K) (a : K) :
    dpo (c ++ [a]) = if a = 0 then dpo c else c.length + 1 := by
  unfold Poly.degreePlusOne
  rw [List.zipIdx_append, List.reverse_append]
  simp only [List.zipIdx_cons, List.zipIdx_nil, List.reverse_cons, List.reverse_nil, List.nil_append,
    List.singleton_append, List.find?_cons]
  have hz : (@BEq.beq K (FOps.ofField K).toBEq a (@FOps.zero K (FOps.ofField K))) = decide (a = 0) := rfl
  rw [hz]
  by_cases h : a = 0
  · simp [h]
  · simp [h]

omit [DecidableEq K] in
theorem getD_append_singleton (c : List K) (a : K) (i : Nat) :
    (c ++ [a]).getD i 0 = if i < c.length then c.getD i 0 else if i = c.length then a else 0 := by
  split
  · next h => exact List.getD_append _ _ _ _ h
  · next h =>
    rw [List.getD_append_right _ _ _ _ (Nat.le_of_not_lt h)]
    split
    · next e => rw [e, Nat.sub_self]; rfl
    · exact List.getD_eq_default _ _ (Nat.sub_pos_of_lt (by omega))

theorem dpo_le_length (c : List K) : dpo c ≤ c.length := by
  induction c using List.reverseRecOn with
  | nil => exact Nat.le_refl 0
  | append_singleton c a ih =>
    rw [dpo_append_singleton, List.length_append]
    split
    · exact Nat.le_add_right_of_le ih
    · exact Nat.le_refl _

theorem getD_eq_zero_of_dpo_le (c : List K) (i : Nat) (h : dpo c ≤ i) : c.getD i 0 = 0 := by
  induction c using List.reverseRecOn with
  | nil => rfl
  | append_singleton c a ih =>
    rw [dpo_append_singleton] at h
    rw [getD_append_singleton]
    split at h
    · next ha =>
      split
      · exact ih h
      · split
        · exact ha
        · rfl
    · rw [if_neg (by omega), if_neg (by omega)]

theorem getD_dpo_pred_ne_zero (c : List K) (h : dpo c ≠ 0) : c.getD (dpo c - 1) 0 ≠ 0 := by
  induction c using List.reverseRecOn with
  | nil => exact absurd rfl h
  | append_singleton c a ih =>
    rw [dpo_append_singleton] at h ⊢
    rw [getD_append_singleton]
    split
    · next ha =>
      rw [if_pos ha] at h
      rw [if_pos (Nat.lt_of_lt_of_le (Nat.sub_one_lt h) (dpo_le_length c))]
      exact ih h
    · next ha => rw [Nat.add_sub_cancel, if_neg (Nat.lt_irrefl _), if_pos rfl]; exact ha

theorem dpo_le_iff (c : List K) (n : Nat) : dpo c ≤ n ↔ ∀ i, n ≤ i → c.getD i 0 = 0 :=
  ⟨fun h i hi => getD_eq_zero_of_dpo_le c i (Nat.le_trans h hi), fun h => by
    by_contra hlt
    exact getD_dpo_pred_ne_zero c (by omega) (h _ (by omega))⟩

theorem dpo_le_iff_degree_lt (c : List K) (n : Nat) : dpo c ≤ n ↔ (toPoly c).degree < n := by
  rw [dpo_le_iff, degree_lt_iff_coeff_zero]
  simp only [toPoly_coeff]

theorem dpo_eq_zero_iff (c : List K) : dpo c = 0 ↔ toPoly c = 0 := by
  rw [← Nat.le_zero, dpo_le_iff_degree_lt, Nat.cast_zero]
  exact Nat.WithBot.lt_zero_iff.trans degree_eq_bot

theorem dpo_eq_natDegree_succ (c : List K) (h : toPoly c ≠ 0) :
    dpo c = (toPoly c).natDegree + 1 := by
  have key : ∀ n, dpo c ≤ n ↔ (toPoly c).natDegree + 1 ≤ n := fun n => by
    rw [dpo_le_iff_degree_lt, ← natDegree_lt_iff_degree_lt h]; rfl
  exact Nat.le_antisymm ((key _).2 (Nat.le_refl _)) ((key _).1 (Nat.le_refl _))

theorem degree_lt_of_dpo_lt {r b : List K} (h : dpo r < dpo b) :
    (toPoly r).degree < (toPoly b).degree := by
  have hb : toPoly b ≠ 0 := fun e => by rw [(dpo_eq_zero_iff b).2 e] at h; exact Nat.not_lt_zero _ h
  rw [degree_eq_natDegree hb, ← dpo_le_iff_degree_lt]
  exact Nat.le_of_lt_succ (lt_of_lt_of_eq h (dpo_eq_natDegree_succ b hb))

theorem dpo_lt_of_degree_lt {r b : List K} (hb : toPoly b ≠ 0)
    (h : (toPoly r).degree < (toPoly b).degree) : dpo r < dpo b := by
  rw [degree_eq_natDegree hb, ← dpo_le_iff_degree_lt] at h
  exact lt_of_lt_of_eq (Nat.lt_succ_of_le h) (dpo_eq_natDegree_succ b hb).symm

theorem dpo_congr {a b : List K} (h : toPoly a = toPoly b) : dpo a = dpo b :=
  Nat.le_antisymm ((dpo_le_iff_degree_lt a _).2 (h ▸ (dpo_le_iff_degree_lt b _).1 (Nat.le_refl _)))
    ((dpo_le_iff_degree_lt b _).2 (h ▸ (dpo_le_iff_degree_lt a _).1 (Nat.le_refl _)))

theorem toPoly_trim (c : List K) : toPoly (trimK c) = toPoly c := by
  refine toPoly_ext fun k => ?_
  unfold Poly.trim
  rw [List.getD_eq_getElem?_getD, List.getElem?_take]
  split
  · exact (List.getD_eq_getElem?_getD ..).symm
  · next h => exact (getD_eq_zero_of_dpo_le c k (Nat.le_of_not_lt h)).symm

theorem length_trim (c : List K) : (trimK c).length = dpo c :=
  (List.length_take ..).trans (Nat.min_eq_left (dpo_le_length c))

theorem dpo_trim (c : List K) : dpo (trimK c) = dpo c := dpo_congr (toPoly_trim c)

def Trimmed (c : List K) : Prop := c.getLast? ≠ some 0

theorem trimmed_iff_dpo (c : List K) : Trimmed c ↔ dpo c = c.length := by
  unfold Trimmed
  induction c using List.reverseRecOn with
  | nil => simp [dpo_nil]
  | append_singleton c a _ =>
    rw [dpo_append_singleton]
    have := dpo_le_length c
    by_cases ha : a = 0
    · simp [ha]; omega
    · simp [ha]

theorem trim_eq_self_iff (c : List K) : trimK c = c ↔ Trimmed c := by
  rw [trimmed_iff_dpo]
  exact ⟨fun h => by rw [← length_trim, h], fun h => by unfold Poly.trim; rw [h, List.take_length]⟩

theorem trim_congr {a b : List K} (h : toPoly a = toPoly b) : trimK a = trimK b := by
  refine List.ext_getElem ((length_trim a).trans ((dpo_congr h).trans (length_trim b).symm))
    fun i h1 h2 => ?_
  rw [List.getElem_eq_getD 0, List.getElem_eq_getD 0, ← toPoly_coeff, ← toPoly_coeff, toPoly_trim,
    toPoly_trim, h]

theorem trimmed_eq_of_toPoly_eq {a b : List K} (ha : Trimmed a) (hb : Trimmed b)
    (h : toPoly a = toPoly b) : a = b := by
  rw [← (trim_eq_self_iff a).2 ha, ← (trim_eq_self_iff b).2 hb]
  exact trim_congr h

omit [DecidableEq K] in
theorem getD_map_range (n : Nat) (f : Nat → K) (i : Nat) :
    ((List.range n).map f).getD i 0 = if i < n then f i else 0 := by
  split
  · next h => rw [List.getD_eq_getElem?_getD, List.getElem?_map, List.getElem?_range h]; rfl
  · next h => exact List.getD_eq_default _ _ (by rw [List.length_map, List.length_range]; exact Nat.le_of_not_lt h)

omit [DecidableEq K] in
/-- `add` and `sub`: a pointwise operation with `op 0 0 = 0` on the zero-extended lists -/
theorem getD_pointwise (op : K → K → K) (h0 : op 0 0 = 0) (a b : List K) (i : Nat) :
    ((List.range (max a.length b.length)).map fun i => op (a.getD i 0) (b.getD i 0)).getD i 0
      = op (a.getD i 0) (b.getD i 0) := by
  rw [getD_map_range]
  split
  · rfl
  · next h => rw [List.getD_eq_default a 0 (by omega), List.getD_eq_default b 0 (by omega), h0]

/-- the remainder update of one round of `divRem.go`: subtract `coef·X^deg·bt` on the window
`deg ≤ i < deg + db` -/
def stepR (bt : List K) (db : Nat) (coef : K) (deg : Nat) (r : List K) : List K :=
  r.zipIdx.map fun p : K × Nat =>
    if deg ≤ p.2 ∧ p.2 < deg + db then p.1 - coef * bt.getD (p.2 - deg) 0 else p.1

theorem go_succ (bt : List K) (db : Nat) (leadInv : K) (fuel : Nat) (q : Array K) (r : List K) :
    @Poly.divRem.go K (FOps.ofField K) bt db leadInv (fuel + 1) q r
      = if dpo r < db then (q, r) else
        @Poly.divRem.go K (FOps.ofField K) bt db leadInv fuel
          (q.set! (dpo r - db) (r.getD (dpo r - 1) 0 * leadInv))
          (trimK (stepR bt db (r.getD (dpo r - 1) 0 * leadInv) (dpo r - db) r)) := rfl

omit [DecidableEq K] in
theorem toPoly_stepR (bt r : List K) (coef : K) (deg : Nat) (hlen : deg + bt.length ≤ r.length) :
    toPoly (stepR bt bt.length coef deg r) = toPoly r - C coef * (X ^ deg * toPoly bt) := by
  ext i
  rw [coeff_sub, coeff_C_mul, coeff_X_pow_mul', toPoly_coeff, toPoly_coeff, toPoly_coeff, stepR]
  by_cases hi : i < r.length
  · rw [List.getD_eq_getElem?_getD, List.getElem?_map, List.getElem?_zipIdx,
      List.getElem?_eq_getElem hi, Option.map_some, Option.map_some, Option.getD_some,
      Nat.zero_add, show r[i] = r.getD i 0 from List.getElem_eq_getD 0]
    by_cases h1 : deg ≤ i
    · by_cases h2 : i < deg + bt.length
      · rw [if_pos ⟨h1, h2⟩, if_pos h1]
      · rw [if_neg (fun h => h2 h.2), if_pos h1,
          List.getD_eq_default _ _ (Nat.le_sub_of_add_le' (Nat.le_of_not_lt h2)), mul_zero, sub_zero]
    · rw [if_neg (fun h => h1 h.1), if_neg h1, mul_zero, sub_zero]
  · have hi := Nat.le_of_not_lt hi
    rw [List.getD_eq_default _ _ hi,
      List.getD_eq_default _ _ (by rw [List.length_map, List.length_zipIdx]; exact hi)]
    split
    · rw [List.getD_eq_default _ _ (Nat.le_sub_of_add_le' (Nat.le_trans hlen hi)), mul_zero, sub_zero]
    · rw [mul_zero, sub_zero]

/-- cancelling the leading coefficient lowers `degreePlusOne` -/
theorem dpo_step_le {bt r r' : List K} {coef : K} {deg : Nat}
    (hr' : toPoly r' = toPoly r - C coef * (X ^ deg * toPoly bt)) (hn : 0 < bt.length)
    (hd : dpo r = deg + bt.length)
    (hcoef : coef * bt.getD (bt.length - 1) 0 = r.getD (dpo r - 1) 0) : dpo r' ≤ dpo r - 1 := by
  rw [dpo_le_iff]
  intro i hi
  rw [← toPoly_coeff, hr', coeff_sub, coeff_C_mul, coeff_X_pow_mul', toPoly_coeff, toPoly_coeff]
  rcases Nat.eq_or_lt_of_le hi with h | h
  · subst h
    have e : dpo r - 1 = deg + (bt.length - 1) := by rw [hd, Nat.add_sub_assoc hn]
    rw [if_pos (e ▸ Nat.le_add_right _ _), ← hcoef, e, Nat.add_sub_cancel_left, sub_self]
  · have hdi : dpo r ≤ i := Nat.le_of_pred_lt h
    rw [getD_eq_zero_of_dpo_le r i hdi, if_pos (Nat.le_trans (hd ▸ Nat.le_add_right _ _) hdi),
      List.getD_eq_default _ _ (Nat.le_sub_of_add_le' (hd ▸ hdi)), mul_zero, sub_zero]

omit [DecidableEq K] in
theorem getD_set (q : Array K) (deg : Nat) (coef : K) (hd : deg < q.size) (j : Nat) :
    (q.set! deg coef).toList.getD j 0 = if deg = j then coef else q.toList.getD j 0 := by
  show (q.setIfInBounds deg coef).toList.getD j 0 = _
  rw [Array.toList_setIfInBounds, List.getD_eq_getElem?_getD, List.getElem?_set, Array.length_toList,
    List.getD_eq_getElem?_getD]
  split
  · rfl
  · rfl

omit [DecidableEq K] in
/-- the quotient update of one round: a zero entry is overwritten -/
theorem toPoly_set (q : Array K) (deg : Nat) (coef : K) (hd : deg < q.size)
    (h0 : q.toList.getD deg 0 = 0) :
    toPoly (q.set! deg coef).toList = toPoly q.toList + C coef * X ^ deg := by
  ext i
  rw [coeff_add, coeff_C_mul, coeff_X_pow, toPoly_coeff, toPoly_coeff, getD_set q deg coef hd]
  by_cases hi : deg = i
  · rw [if_pos hi, if_pos hi.symm, ← hi, h0, zero_add, mul_one]
  · rw [if_neg hi, if_neg (Ne.symm hi), mul_zero, add_zero]

omit [DecidableEq K] in
theorem lead_of_trimmed (bt : List K) (hbt : Trimmed bt) (hb0 : bt ≠ []) :
    bt.getLast?.getD 1 = bt.getD (bt.length - 1) 0 ∧ bt.getD (bt.length - 1) 0 ≠ 0 := by
  have hl : bt.length - 1 < bt.length := Nat.sub_one_lt (mt List.length_eq_zero_iff.1 hb0)
  unfold Trimmed at hbt
  rw [List.getLast?_eq_getElem?, List.getElem?_eq_getElem hl] at hbt ⊢
  rw [List.getD_eq_getElem?_getD, List.getElem?_eq_getElem hl]
  exact ⟨rfl, fun h => hbt (congrArg some h)⟩

end
end P2.Lemmas.C15Poly

/-! pure forms of the transform requests of the driver `P2/Drv/C15.lean` -/
namespace P2.C15b
open P2 P2.Fft
section
variable {K : Type} [FOps K] [Inhabited K]

/-- `fft`: `fft_classic` with `r = 0` over `fft_root_table` (driver: `fwd c lgN 0 lgN`) -/
def fft (pr : Nat → K) (lgN : Nat) (c : Array K) : FftOut K :=
  fftClassic c lgN 0 (rootTable pr lgN)

/-- `n⁻¹` as the driver computes it: `inv (2^lgN)` -/
def nInv (lgN : Nat) : K := FOps.inv (FOps.pow (FOps.ofNat 2) lgN)

def FftOut.map (f : Array K → Array K) : FftOut K → FftOut K
  | .ok v => .ok (f v)
  | .panic => .panic

def FftOut.bind (x : FftOut K) (f : Array K → FftOut K) : FftOut K :=
  match x with
  | .ok v => f v
  | .panic => .panic

/-- `ifft`: forward transform, then `ifftPost` with `n⁻¹` -/
def ifft (pr : Nat → K) (lgN : Nat) (v : Array K) : FftOut K :=
  FftOut.map (fun w => ifftPost w (nInv lgN)) (fft pr lgN v)

/-- `coset_fft(shift)`: scale coefficient `i` by `shift^i`, then `fft` -/
def cosetFft (pr : Nat → K) (lgN : Nat) (shift : K) (c : Array K) : FftOut K :=
  fft pr lgN (c.mapIdx fun i x => FOps.pow shift i * x)

/-- `coset_ifft(shift)`: `ifft`, then scale coefficient `i` by `shift⁻¹^i` -/
def cosetIfft (pr : Nat → K) (lgN : Nat) (shift : K) (v : Array K) : FftOut K :=
  FftOut.map (fun co => co.mapIdx fun i x => x * FOps.pow (FOps.inv shift) i) (ifft pr lgN v)

def padTo (c : Array K) (n : Nat) : Array K := c ++ Array.replicate (n - c.size) FOps.zero

/-- `lde` on coefficients: zero-pad to `2^(lgN+rate)`, then `fft` on the larger domain -/
def ldeCoeffs (pr : Nat → K) (lgN rate : Nat) (c : Array K) : FftOut K :=
  fft pr (lgN + rate) (padTo c (2 ^ (lgN + rate)))

/-- the driver's `lde` request: values on the subgroup of size `2^lgN` → `ifft` → `ldeCoeffs` -/
def lde (pr : Nat → K) (lgN rate : Nat) (v : Array K) : FftOut K :=
  FftOut.bind (ifft pr lgN v) (ldeCoeffs pr lgN rate)

/-- `Z_H(g·w^i) = (g·w^i)^n − 1`, `n = 2^nLog` (driver request `zpoly`) -/
def zpolyAt (g w : K) (nLog i : Nat) : K := FOps.pow (g * FOps.pow w i) (2 ^ nLog) - FOps.one

/-- `ZeroPolyOnCoset::new`: `evals[k] = g^n · v^k − 1`, `k < 2^rate`, `v = primitive_root(rate)` -/
def zeroPolyOnCosetEvals (g v : K) (nLog rate : Nat) : List K :=
  (List.range (2 ^ rate)).map fun k => FOps.pow g (2 ^ nLog) * FOps.pow v k - FOps.one

/-- `ZeroPolyOnCoset::eval(i) = evals[i % rate]` -/
def zeroPolyOnCosetEval (g v : K) (nLog rate i : Nat) : K :=
  (zeroPolyOnCosetEvals g v nLog rate).getD (i % 2 ^ rate) FOps.zero

end
end P2.C15b


namespace P2.Lemmas.C15Poly
open P2 Polynomial P2.Lemmas.Alg2 P2.Lemmas.C15 P2.Fft P2.C15b

section
variable {K : Type} [Field K] [DecidableEq K] [Inhabited K]

theorem nInv_eq (lgN : Nat) : @C15b.nInv K (FOps.ofField K) lgN = (((2 ^ lgN : Nat) : K))⁻¹ := by
  unfold C15b.nInv
  show (@FOps.pow K (FOps.ofField K) ((2 : Nat) : K) lgN)⁻¹ = _
  rw [pow_eq]; push_cast; rfl

theorem eval_toPoly_array (c : Array K) (x : K) :
    (toPoly c.toList).eval x = ∑ j ∈ Finset.range c.size, c[j]! * x ^ j := by
  rw [toPoly_eval, C15.eval_eq_sum_range, Array.length_toList]
  exact Finset.sum_congr rfl fun j hj => by rw [toList_getD c j (Finset.mem_range.1 hj)]

/-- the transform evaluates the coefficient polynomial at the powers of `ω` -/
theorem dft_getElem!_eval (ω : K) (c : Array K) (i : Nat) (hi : i < c.size) :
    (@Fft.dft K (FOps.ofField K) ω c)[i]! = (toPoly c.toList).eval (ω ^ i) := by
  rw [dft_getElem! ω c i hi, eval_toPoly_array]
  exact Finset.sum_congr rfl fun j _ => by rw [pow_mul]

theorem mapIdx_getElem! (c : Array K) (f : Nat → K → K) (j : Nat) (hj : j < c.size) :
    (c.mapIdx f)[j]! = f j c[j]! := by
  simp [hj]

/-- scaling coefficient `i` by `s^i` substitutes `s·X` -/
theorem eval_scale (s : K) (c : Array K) (y : K) :
    (toPoly (c.mapIdx fun i x => s ^ i * x).toList).eval y = (toPoly c.toList).eval (s * y) := by
  rw [eval_toPoly_array, eval_toPoly_array, Array.size_mapIdx]
  refine Finset.sum_congr rfl fun j hj => ?_
  rw [mapIdx_getElem! c _ j (Finset.mem_range.1 hj), mul_pow, mul_comm (s ^ j), mul_assoc]

theorem mapIdx_mapIdx_cancel (c : Array K) (f g : Nat → K → K) (h : ∀ i x, g i (f i x) = x) :
    (c.mapIdx f).mapIdx g = c := by
  refine Array.ext (by rw [Array.size_mapIdx, Array.size_mapIdx]) fun i _ _ => ?_
  rw [Array.getElem_mapIdx, Array.getElem_mapIdx, h]

theorem ifft_eq (pr : Nat → K) {lgN : Nat} (hω : IsPrimitiveRoot (pr lgN) (2 ^ lgN))
    (v : Array K) (hs : v.size = 2 ^ lgN) :
    @C15b.ifft K (FOps.ofField K) _ pr lgN v
      = .ok (@ifftPost K (FOps.ofField K) _ (@Fft.dft K (FOps.ofField K) (pr lgN) v)
          (((2 ^ lgN : Nat) : K))⁻¹) := by
  unfold C15b.ifft C15b.fft
  rw [Props.C15.fftClassic_eq_dft_rootTable pr hω v hs, nInv_eq]
  rfl

theorem cosetFft_eq (pr : Nat → K) {lgN : Nat} (hω : IsPrimitiveRoot (pr lgN) (2 ^ lgN))
    (shift : K) (c : Array K) (hs : c.size = 2 ^ lgN) :
    @C15b.cosetFft K (FOps.ofField K) _ pr lgN shift c
      = .ok (@Fft.dft K (FOps.ofField K) (pr lgN) (c.mapIdx fun i x => shift ^ i * x)) := by
  unfold C15b.cosetFft
  simp only [pow_eq]
  exact Props.C15.fftClassic_eq_dft_rootTable pr hω _ ((Array.size_mapIdx ..).trans hs)

theorem cosetIfft_eq (pr : Nat → K) {lgN : Nat} (hω : IsPrimitiveRoot (pr lgN) (2 ^ lgN))
    (shift : K) (v : Array K) (hs : v.size = 2 ^ lgN) :
    @C15b.cosetIfft K (FOps.ofField K) _ pr lgN shift v
      = .ok ((@ifftPost K (FOps.ofField K) _ (@Fft.dft K (FOps.ofField K) (pr lgN) v)
          (((2 ^ lgN : Nat) : K))⁻¹).mapIdx fun i x => x * (shift⁻¹) ^ i) := by
  unfold C15b.cosetIfft
  rw [ifft_eq pr hω v hs]
  simp only [pow_eq]
  rfl

theorem toPoly_padTo (c : Array K) (n : Nat) :
    toPoly (@C15b.padTo K (FOps.ofField K) c n).toList = toPoly c.toList := by
  refine toPoly_ext fun k => ?_
  show (c ++ Array.replicate (n - c.size) (0 : K)).toList.getD k 0 = _
  rw [Array.toList_append, Array.toList_replicate]
  simp only [List.getD_eq_getElem?_getD, List.getElem?_append, List.getElem?_replicate]
  split
  · rfl
  · next h =>
    rw [List.getElem?_eq_none (Nat.le_of_not_lt h)]
    split <;> rfl

theorem size_padTo (c : Array K) (n : Nat) (h : c.size ≤ n) :
    (@C15b.padTo K (FOps.ofField K) c n).size = n :=
  (Array.size_append ..).trans (by rw [Array.size_replicate]; exact Nat.add_sub_cancel' h)

end
end P2.Lemmas.C15Poly

namespace P2.C15b
open P2
section
variable {K : Type} [FOps K]

/-- `interpolate(points, x, barycentric_weights)` of `field/src/interpolation.rs`: the value of a
listed point if `x` is one of the nodes (first match), else `l(x) · Σ_i w_i / (x − x_i) · y_i` -/
def baryInterpolate (pts : List (K × K)) (x : K) (ws : List K) : K :=
  match pts.find? (fun p => p.1 == x) with
  | some p => p.2
  | none =>
    FOps.prod (pts.map fun p => x - p.1)
      * FOps.sum (pts.zipIdx.map fun (p, i) => ws.getD i FOps.zero * FOps.inv (x - p.1) * p.2)

end
end P2.C15b
