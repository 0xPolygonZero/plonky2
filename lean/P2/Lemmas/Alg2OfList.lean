/-
Coefficient lists (low degree first) as Mathlib polynomials: `ofList c` has the coefficients `c`,
degree `< c.length`, and its evaluation is the model's Horner evaluation `Poly.eval`.
-/
import Mathlib.Algebra.Polynomial.Roots
import Mathlib.Data.List.GetD
import P2.Lemmas.C15
namespace P2.Lemmas.Alg2
open P2 Polynomial

variable {K : Type} [Field K]

/-- the polynomial with coefficient list `c` (low degree first) -/
noncomputable def ofList : List K → K[X]
  | [] => 0
  | a :: c => C a + X * ofList c

theorem ofList_coeff (c : List K) (i : Nat) : (ofList c).coeff i = c.getD i 0 := by
  induction c generalizing i with
  | nil => exact coeff_zero i
  | cons a c ih =>
    cases i with
    | zero => rw [ofList, coeff_add, coeff_C_zero, coeff_X_mul_zero, add_zero]; rfl
    | succ i => rw [ofList, coeff_add, coeff_C_succ, coeff_X_mul, zero_add, ih]; rfl

theorem ofList_degree_lt (c : List K) : (ofList c).degree < c.length :=
  (degree_lt_iff_coeff_zero _ _).2 fun m hm => by
    rw [ofList_coeff, List.getD_eq_default _ _ hm]

theorem ofList_ne_zero {c : List K} (h : ∃ t ∈ c, t ≠ 0) : ofList c ≠ 0 := by
  obtain ⟨t, ht, hne⟩ := h
  obtain ⟨i, hi, rfl⟩ := List.getElem_of_mem ht
  intro h0
  have := ofList_coeff c i
  rw [h0, coeff_zero, List.getD_eq_getElem _ _ hi] at this
  exact hne this.symm

theorem ofList_natDegree_lt {c : List K} (h : ∃ t ∈ c, t ≠ 0) : (ofList c).natDegree < c.length :=
  (natDegree_lt_iff_degree_lt (ofList_ne_zero h)).2 (ofList_degree_lt c)

theorem ofList_injective_of_length {c c' : List K} (hl : c.length = c'.length)
    (h : ofList c = ofList c') : c = c' := by
  apply List.ext_getElem hl
  intro i h1 h2
  have := ofList_coeff c i
  rwa [h, ofList_coeff, List.getD_eq_getElem _ _ h1, List.getD_eq_getElem _ _ h2, eq_comm] at this

theorem ofList_eval [DecidableEq K] (c : List K) (x : K) :
    (ofList c).eval x = @Poly.eval K (FOps.ofField K) c x := by
  induction c with
  | nil => exact eval_zero
  | cons a c ih => rw [ofList, eval_add, eval_C, eval_mul, eval_X, ih, C15.eval_cons, add_comm, mul_comm]

end P2.Lemmas.Alg2
