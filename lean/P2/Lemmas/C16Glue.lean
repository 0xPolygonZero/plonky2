/-
C16, glue over the query list: from `compress π idx p = some cp`, the decidable shape predicate
`WF` and the consistency of every query round, `get_inferred_elements` succeeds on `cp` and the first
loop of `decompress` rebuilds, for every query, the evaluation vectors of `π`.
-/
import P2.Lemmas.C16Chain
import P2.Lemmas.C16Compress
namespace P2.Lemmas.C16
open P2 P2.Fri P2.Merkle P2.Compress P2.Decompress

/-- `fri_combine_initial` reads only the leaf parts of the initial-tree openings -/
theorem combineInitial_congr (inst : Instance) (initial initial' : List (List GL × List Digest))
    (alpha : GL2) (x : GL) (red : List GL2) (p : FriParams)
    (h : initial.map Prod.fst = initial'.map Prod.fst) :
    combineInitial inst initial alpha x red p = combineInitial inst initial' alpha x red p := by
  have key : ∀ k : Nat, (initial[k]?).map Prod.fst = (initial'[k]?).map Prod.fst := by
    intro k
    rw [← List.getElem?_map, ← List.getElem?_map, h]
  clear h
  unfold combineInitial
  simp only []
  have hb : ∀ {β : Type} (k : Nat) (K : List GL → Option β),
      (initial[k]?).bind (fun x => K x.fst) = (initial'[k]?).bind (fun x => K x.fst) := by
    intro β k K
    have e : ∀ o : Option (List GL × List Digest),
        o.bind (fun x => K x.fst) = (o.map Prod.fst).bind K := fun o => by cases o <;> rfl
    rw [e, e, key k]
  -- `combineInitial` is a `forIn` over the batches around a `forIn` over the polynomials of a batch;
  -- `initial` occurs only as `initial[pi.oracle]?.bind …` in the inner body. Descend to it (final
  -- `bind`, outer body, inner body, the `bind` on `inst.oracles`); `hb` then applies with the rest
  -- of the inner body as `K`
  congr 1
  congr 1
  funext x1 s1
  congr 1
  congr 1
  funext pi s2
  congr 1
  funext o
  exact hb pi.oracle (fun l => do
    let v ← (List.take (l.length - saltSize (p.isHiding && o.blinding)) l)[pi.poly]?
    pure (ForInStep.yield (s2 ++ [GL2.ofBase v])))

/-- the leaf index of a query at `x` when it enters layer `j` (`index >>= bits` applied `j` times) -/
def idxAt (abs : List Nat) (x : Nat) : Nat → Nat
  | 0 => x
  | j + 1 => idxAt abs x j / 2 ^ abs.getD j 0

theorem layerIndex_eq (abs : List Nat) (x j : Nat) :
    layerIndex abs x j = (idxAt abs x (j + 1), idxAt abs x j % 2 ^ abs.getD j 0) := by
  induction j with
  | zero => simp [layerIndex, idxAt]
  | succ j ih =>
    rw [layerIndex]
    simp only [ih]
    rfl

/-- queries that meet in a coset stay together in all later layers -/
theorem idxAt_add (abs : List Nat) {a x k : Nat} (h : idxAt abs a k = idxAt abs x k) :
    ∀ d, idxAt abs a (k + d) = idxAt abs x (k + d)
  | 0 => h
  | d + 1 => congrArg (· / 2 ^ abs.getD (k + d) 0) (idxAt_add abs h d)

/-- **the shape predicate of the round trip** (decidable): one query per index; every query round
has one step per reduction layer, the same number of initial trees, coset vectors of length
`2^arity`; queries with the same index carry the same initial leaves; queries that meet in a coset
of some layer carry the same evaluation vector there. (Merkle paths are not constrained here.) -/
def WF (π : Fri.Proof) (idx : List Nat) (p : FriParams) : Prop :=
  idx.length = π.queries.length ∧
  (∀ q ∈ π.queries, q.steps.length = p.arityBits.length) ∧
  (∀ q ∈ π.queries, ∀ q' ∈ π.queries, q.initial.length = q'.initial.length) ∧
  (∀ q ∈ π.queries, ∀ j, j < p.arityBits.length →
    (q.steps.getD j default).evals.length = 2 ^ p.arityBits.getD j 0) ∧
  (∀ a ∈ idx.zip π.queries, ∀ b ∈ idx.zip π.queries, a.1 = b.1 →
    a.2.initial.map Prod.fst = b.2.initial.map Prod.fst) ∧
  (∀ a ∈ idx.zip π.queries, ∀ b ∈ idx.zip π.queries, ∀ j, j < p.arityBits.length →
    idxAt p.arityBits a.1 (j + 1) = idxAt p.arityBits b.1 (j + 1) →
    (a.2.steps.getD j default).evals = (b.2.steps.getD j default).evals)

instance (π : Fri.Proof) (idx : List Nat) (p : FriParams) : Decidable (WF π idx p) := by
  unfold WF; infer_instance

/-- the evaluation vector of coset `c` at layer `j`: that of the first query reaching it -/
def Etrue (π : Fri.Proof) (idx : List Nat) (p : FriParams) (j c : Nat) : List GL2 :=
  (((idx.zip π.queries).find? (fun xq => idxAt p.arityBits xq.1 (j + 1) == c)).map
    (fun xq => (xq.2.steps.getD j default).evals)).getD []

/-- the compressed Merkle path stored for coset `c` at layer `j` -/
def Mstored (π : Fri.Proof) (idx : List Nat) (p : FriParams) (j c : Nat) : List Digest :=
  ((lookupKey (stepKVs π idx p j) c).map (·.merkleProof)).getD []

theorem WF.map_fst {π : Fri.Proof} {idx : List Nat} {p : FriParams} (hwf : WF π idx p) :
    (idx.zip π.queries).map (·.1) = idx :=
  List.map_fst_zip (Nat.le_of_eq hwf.1)

theorem Etrue_eq {π : Fri.Proof} {idx : List Nat} {p : FriParams} (hwf : WF π idx p)
    {x : Nat} {q : QueryRound} (hm : (x, q) ∈ idx.zip π.queries) {j : Nat} (hj : j < p.arityBits.length) :
    Etrue π idx p j (idxAt p.arityBits x (j + 1)) = (q.steps.getD j default).evals := by
  unfold Etrue
  cases hf : (idx.zip π.queries).find? (fun xq => idxAt p.arityBits xq.1 (j + 1) == idxAt p.arityBits x (j + 1)) with
  | none =>
    have := List.find?_eq_none.1 hf (x, q) hm
    simp at this
  | some a =>
    have h1 := List.mem_of_find?_eq_some hf
    have h2 := List.find?_some hf
    simp only [beq_iff_eq] at h2
    simp only [Option.map_some, Option.getD_some]
    exact hwf.2.2.2.2.2 a h1 (x, q) hm j hj h2

/-- the state of `seen_indices_by_depth` after the queries `pre` -/
def SeenIs (abs : List Nat) (pre : List (Nat × QueryRound)) (seen : List (List Nat)) : Prop :=
  seen.length = abs.length ∧
  ∀ j, j < abs.length → ∀ c, c ∈ seen.getD j [] ↔ ∃ a ∈ pre, idxAt abs a.1 (j + 1) = c

theorem drop_cons_facts {abs : List Nat} {i ab : Nat} {rest : List Nat} (h : abs.drop i = ab :: rest) :
    i < abs.length ∧ abs.getD i 0 = ab ∧ abs.drop (i + 1) = rest ∧
      ∀ x, idxAt abs x i / 2 ^ ab = idxAt abs x (i + 1) := by
  have hi : i < abs.length := by
    rcases Nat.lt_or_ge i abs.length with h' | h'
    · exact h'
    · rw [List.drop_eq_nil_of_le h'] at h; cases h
  rw [List.drop_eq_getElem_cons hi] at h
  injection h with h1 h2
  have hget : abs.getD i 0 = ab := by
    rw [List.getD_eq_getElem?_getD, List.getElem?_eq_getElem hi]; exact h1
  exact ⟨hi, hget, h2, fun x => by rw [← hget]; rfl⟩

/-- closed form of `expectedFrom` along the coset indices `idxAt` of one query -/
theorem expectedFrom_eq (E : Nat → Nat → List GL2) (M : Nat → Nat → List Digest) (abs : List Nat) (x : Nat) :
    ∀ (suffix : List Nat) (i : Nat), abs.drop i = suffix →
      expectedFrom E M suffix i (idxAt abs x i) = (List.range' i (abs.length - i)).map fun j =>
        (idxAt abs x (j + 1), E j (idxAt abs x (j + 1)), M j (idxAt abs x (j + 1))) := by
  intro suffix
  induction suffix with
  | nil =>
    intro i hd
    rw [Nat.sub_eq_zero_of_le (List.drop_eq_nil_iff.1 hd)]; rfl
  | cons ab rest ih =>
    intro i hd
    obtain ⟨hi, _, hd', hstep⟩ := drop_cons_facts hd
    rw [expectedFrom, hstep x, ih (i + 1) hd', ← Nat.sub_add_cancel (Nat.sub_pos_of_lt hi),
      ← Nat.sub_add_eq, List.range'_succ, List.map_cons]

def stepKey (p : FriParams) (i : Nat) (a : Nat × QueryRound) : Nat := (layerIndex p.arityBits a.1 i).1
def stepVal (π : Fri.Proof) (idx : List Nat) (p : FriParams) (i : Nat) (a : Nat × QueryRound) (qi : Nat) :
    QueryStep :=
  ⟨removeAt (a.2.steps.getD i default).evals (layerIndex p.arityBits a.1 i).2,
    (stepsCompressed π idx p i).getD qi []⟩

theorem stepKVs_eq (π : Fri.Proof) (idx : List Nat) (p : FriParams) (i : Nat) :
    stepKVs π idx p i = ((idx.zip π.queries).zipIdx).map fun ai =>
      (stepKey p i ai.1, stepVal π idx p i ai.1 ai.2) := by
  unfold stepKVs
  apply List.map_congr_left
  intro ai _
  rcases ai with ⟨⟨a1, a2⟩, qi⟩
  rfl

/-- the hypotheses of the one-query alignment hold for every query of a compressed proof -/
theorem layersOK_of (π : Fri.Proof) (idx : List Nat) (p : FriParams) (cp : CompressedFriProof)
    (hc : Compress.compress π idx p = some cp) (hwf : WF π idx p) (betas : List GL2)
    (pre suf : List (Nat × QueryRound)) (x : Nat) (q : QueryRound)
    (hz : idx.zip π.queries = pre ++ (x, q) :: suf) (seen : List (List Nat))
    (hs : SeenIs p.arityBits pre seen) :
    ∀ (suffix : List Nat) (i : Nat) (xpt : GL) (old : GL2), p.arityBits.drop i = suffix →
      ConsistentFrom betas q suffix i (idxAt p.arityBits x i) xpt old →
      LayersOK cp.rounds.steps betas (Etrue π idx p) (Mstored π idx p) q seen suffix i
        (idxAt p.arityBits x i) xpt old := by
  have hmem : (x, q) ∈ idx.zip π.queries := by rw [hz]; simp
  have hqmem : q ∈ π.queries := (List.of_mem_zip hmem).2
  intro suffix
  induction suffix with
  | nil => intros; trivial
  | cons ab rest ih =>
    intro i xpt old hdrop hcons
    obtain ⟨hi, hget, hdrop', hstep⟩ := drop_cons_facts hdrop
    have hc1 := hstep x
    obtain ⟨st, beta, hst, hb, hw, hrest⟩ := hcons
    have hstD : q.steps.getD i default = st := by
      rw [List.getD_eq_getElem?_getD, hst]; rfl
    obtain ⟨m, hm, hlook⟩ := compress_step_lookup π idx p cp hc i hi
    -- the stored entry for the coset
    have hkv := stepKVs_eq π idx p i
    obtain ⟨e, he⟩ : ∃ e, lookupKey (stepKVs π idx p i) (idxAt p.arityBits x (i + 1)) = some e := by
      rw [hkv]
      exact lookupKey_zipIdx_some (stepKey p i) (stepVal π idx p i) _ _ 0
        ⟨(x, q), hmem, by simp [stepKey, layerIndex_eq]⟩
    have hM : Mstored π idx p i (idxAt p.arityBits x (i + 1)) = e.merkleProof := by
      simp [Mstored, he]
    refine ⟨st, beta, m, e.evals, hst, hb, hw, ?_, ?_, hm, ?_, ?_, ?_, ?_⟩
    · rw [← hstD, ← hget]; exact hwf.2.2.2.1 q hqmem i hi
    · rw [hc1, ← hstD]; exact Etrue_eq hwf hmem hi
    · rw [hc1, hlook, he, hM]
    · rw [hc1]
      intro hns
      have hpre : ∀ b ∈ pre, stepKey p i b ≠ idxAt p.arityBits x (i + 1) := by
        intro b hb heq
        apply hns
        rw [hs.2 i hi]
        exact ⟨b, hb, by simpa [stepKey, layerIndex_eq] using heq⟩
      have := lookupKey_zipIdx_first (stepKey p i) (stepVal π idx p i)
        (idxAt p.arityBits x (i + 1)) pre (x, q) suf hpre (by simp [stepKey, layerIndex_eq])
      rw [← hz, ← hkv, he] at this
      have he' := Option.some.inj this
      rw [he']
      simp only [stepVal, layerIndex_eq]
      rw [hstD, hget]
    · rw [hc1]
      intro hsn
      cases rest with
      | nil => trivial
      | cons ab' rest' =>
        obtain ⟨hi', hget', _, _⟩ := drop_cons_facts hdrop'
        obtain ⟨a, ha, hac⟩ := (hs.2 i hi _).1 hsn
        show idxAt p.arityBits x (i + 1) / 2 ^ ab' ∈ seen.getD (i + 1) []
        rw [hs.2 (i + 1) hi']
        refine ⟨a, ha, ?_⟩
        show idxAt p.arityBits a.1 (i + 1) / 2 ^ p.arityBits.getD (i + 1) 0 = _
        rw [hget', hac]
    · rw [hc1]
      exact ih (i + 1) _ _ hdrop' (hc1 ▸ hrest)

/-- the state of `seen_indices_by_depth` after one more query: started at layer `i` in a state that
holds the cosets of the queries `pre` and those of the layers below `i` of the query at `x`, the loop
of `get_inferred_elements` ends in the state for `pre` and this query. (When it stops early at a seen
coset, an earlier query has met this one there, so the later cosets are in the state already.) -/
theorem inferLayers_seen (steps : List (List (Nat × QueryStep))) (betas : List GL2)
    (abs0 : List Nat) (pre : List (Nat × QueryRound)) (x : Nat) (q : QueryRound) :
    ∀ (suffix : List Nat) (i : Nat) (xpt : GL) (old : GL2) (seenCur : List (List Nat))
      (out : List GL2) (seen' : List (List Nat)) (out' : List GL2),
      abs0.drop i = suffix →
      inferLayers steps betas suffix i (idxAt abs0 x i) xpt old seenCur out = some (seen', out') →
      seenCur.length = abs0.length →
      (∀ j, j < abs0.length → ∀ c, c ∈ seenCur.getD j [] ↔
        (∃ a ∈ pre, idxAt abs0 a.1 (j + 1) = c) ∨ (j < i ∧ idxAt abs0 x (j + 1) = c)) →
      SeenIs abs0 (pre ++ [(x, q)]) seen' := by
  have hsnoc : ∀ j c, (∃ a ∈ pre ++ [(x, q)], idxAt abs0 a.1 (j + 1) = c) ↔
      (∃ a ∈ pre, idxAt abs0 a.1 (j + 1) = c) ∨ idxAt abs0 x (j + 1) = c := by
    intro j c
    simp only [List.mem_append, List.mem_singleton, or_and_right, exists_or, exists_eq_left]
  intro suffix
  induction suffix with
  | nil =>
    intro i xpt old seenCur out seen' out' hdrop h hlen hcur
    have hi : abs0.length ≤ i := List.drop_eq_nil_iff.1 hdrop
    obtain ⟨rfl, _⟩ := Prod.mk.inj (Option.some.inj h)
    refine ⟨hlen, fun j hj c => ?_⟩
    rw [hcur j hj c, hsnoc, and_iff_right (Nat.lt_of_lt_of_le hj hi)]
  | cons ab rest ih =>
    intro i xpt old seenCur out seen' out' hdrop h hlen hcur
    obtain ⟨hi, _, hdrop', hstep⟩ := drop_cons_facts hdrop
    rw [inferLayers, hstep x] at h
    by_cases hcont : (seenCur.getD i []).contains (idxAt abs0 x (i + 1)) = true
    · rw [if_pos hcont] at h
      obtain ⟨rfl, _⟩ := Prod.mk.inj (Option.some.inj h)
      obtain ⟨a, ha, hax⟩ : ∃ a ∈ pre, idxAt abs0 a.1 (i + 1) = idxAt abs0 x (i + 1) :=
        ((hcur i hi _).1 (List.contains_iff_mem.1 hcont)).resolve_right
          (fun h => Nat.lt_irrefl i h.1)
      refine ⟨hlen, fun j hj c => ?_⟩
      rw [hcur j hj c, hsnoc]
      refine ⟨Or.imp_right And.right, fun h => h.elim Or.inl fun hc => ?_⟩
      by_cases hij : j < i
      · exact Or.inr ⟨hij, hc⟩
      · obtain ⟨d, rfl⟩ := Nat.exists_eq_add_of_le (Nat.le_of_not_lt hij)
        rw [Nat.add_right_comm] at hc
        exact Or.inl ⟨a, ha, by rw [Nat.add_right_comm, idxAt_add abs0 hax d, hc]⟩
    · rw [if_neg hcont] at h
      simp only [Option.bind_eq_bind] at h
      obtain ⟨m, hm, h⟩ := Option.bind_eq_some_iff.1 h
      obtain ⟨st, hst, h⟩ := Option.bind_eq_some_iff.1 h
      obtain ⟨ev, hev, h⟩ := Option.bind_eq_some_iff.1 h
      split at h
      · cases h
      obtain ⟨beta, hbeta, h⟩ := Option.bind_eq_some_iff.1 h
      refine ih (i + 1) _ _ _ _ _ _ hdrop' h (by rw [List.length_set]; exact hlen) fun j hj c => ?_
      by_cases hji : j = i
      · subst hji
        rw [getD_set_self _ _ _ _ (hlen ▸ hj), List.mem_cons, hcur j hj c, or_left_comm]
        refine or_congr_right ⟨?_, ?_⟩
        · rintro (rfl | h)
          · exact ⟨Nat.lt_succ_self j, rfl⟩
          · exact absurd h.1 (Nat.lt_irrefl j)
        · exact fun h => Or.inl h.2.symm
      · rw [getD_set_ne _ _ _ _ _ (fun e => hji e.symm), hcur j hj c]
        exact or_congr_right (and_congr_left' ⟨Nat.lt_succ_of_lt,
          fun h => Nat.lt_of_le_of_ne (Nat.le_of_lt_succ h) hji⟩)

def iniVal (π : Fri.Proof) (idx : List Nat) (p : FriParams) (numInitial : Nat) (a : Nat × QueryRound)
    (qi : Nat) : List (List GL × List Digest) :=
  (List.range numInitial).map fun t =>
    ((a.2.initial.getD t ([], [])).1, (initialCompressed π idx p t).getD qi [])

theorem initKVs_eq (π : Fri.Proof) (idx : List Nat) (p : FriParams) (numInitial : Nat) :
    initKVs π idx p numInitial = ((idx.zip π.queries).zipIdx).map fun ai =>
      ((fun (a : Nat × QueryRound) => a.1) ai.1, iniVal π idx p numInitial ai.1 ai.2) := by
  unfold initKVs
  apply List.map_congr_left
  intro ai _
  rcases ai with ⟨⟨a1, a2⟩, qi⟩
  rfl

theorem iniVal_fst (π : Fri.Proof) (idx : List Nat) (p : FriParams) (a : Nat × QueryRound) (qi : Nat) :
    (iniVal π idx p a.2.initial.length a qi).map Prod.fst = a.2.initial.map Prod.fst := by
  apply List.ext_getElem
  · simp [iniVal]
  · intro t h1 h2
    simp only [iniVal, List.length_map, List.length_range] at h1
    simp [iniVal, List.getD_eq_getElem?_getD, List.getElem?_eq_getElem h1]

/-- the initial-tree entry stored for the index of any query has the leaves of that query -/
theorem initial_entry (π : Fri.Proof) (idx : List Nat) (p : FriParams) (cp : CompressedFriProof)
    (hc : Compress.compress π idx p = some cp) (hwf : WF π idx p)
    (x : Nat) (q : QueryRound) (hmem : (x, q) ∈ idx.zip π.queries) :
    ∃ e, lookupKey cp.rounds.initial x = some e ∧ e.length = q.initial.length ∧
      e.map Prod.fst = q.initial.map Prod.fst := by
  obtain ⟨q0, hq0, hl⟩ := compress_initial_lookup π idx p cp hc
  have hq0m : q0 ∈ π.queries := List.mem_of_getElem? hq0
  have hqm : q ∈ π.queries := (List.of_mem_zip hmem).2
  have hn : q0.initial.length = q.initial.length := hwf.2.2.1 q0 hq0m q hqm
  obtain ⟨e, he⟩ := lookupKey_zipIdx_some (fun (a : Nat × QueryRound) => a.1)
    (iniVal π idx p q0.initial.length) x (idx.zip π.queries) 0 ⟨(x, q), hmem, rfl⟩
  obtain ⟨a, ha, i, hk, hev⟩ := mem_of_lookupKey_zipIdx _ _ _ _ _ he
  have ham : a.2 ∈ π.queries := (List.of_mem_zip (show (a.1, a.2) ∈ idx.zip π.queries from ha)).2
  have hna : q0.initial.length = a.2.initial.length := hwf.2.2.1 q0 hq0m a.2 ham
  refine ⟨e, ?_, ?_, ?_⟩
  · rw [hl, initKVs_eq]; exact he
  · rw [hev]; simp [iniVal, hn]
  · rw [hev, hna, iniVal_fst]
    exact hwf.2.2.2.2.1 a ha (x, q) hmem hk

/-- what the first loop of `decompress` returns for one query -/
def rebuiltOf (π : Fri.Proof) (idx : List Nat) (p : FriParams) (cp : CompressedFriProof)
    (xq : Nat × QueryRound) : Rebuilt :=
  ⟨(lookupKey cp.rounds.initial xq.1).getD [],
    expectedFrom (Etrue π idx p) (Mstored π idx p) p.arityBits 0 xq.1⟩

/-- at any split `idx.zip π.queries = pre ++ suf`: `get_inferred_elements` succeeds on the queries
`suf`, emitting `vals`, and the first loop of `decompress`, fed `vals`, returns `rebuiltOf` for each
of them -/
theorem glue_queries (π : Fri.Proof) (idx : List Nat) (p : FriParams) (cp : CompressedFriProof)
    (hc : Compress.compress π idx p = some cp) (hwf : WF π idx p)
    (inst : Instance) (ch : Challenges) (reduced : List GL2) (numInitial : Nat)
    (hnum : ∀ q ∈ π.queries, q.initial.length = numInitial)
    (hcons : ∀ xq ∈ idx.zip π.queries, Consistent inst ch reduced p xq.1 xq.2) :
    ∀ (suf pre : List (Nat × QueryRound)) (seen : List (List Nat))
      (byDepth : List (List (Nat × List GL2))) (out : List GL2),
      idx.zip π.queries = pre ++ suf → SeenIs p.arityBits pre seen →
      StateInv (Etrue π idx p) seen byDepth →
      ∃ vals sfin,
        (suf.map (·.1)).foldlM (inferQuery cp ch reduced inst p) (seen, out) = some (sfin, out ++ vals) ∧
        ∀ more, rebuildAll cp p numInitial (suf.map (·.1)) byDepth (vals ++ more)
          = some (suf.map (rebuiltOf π idx p cp)) := by
  intro suf
  induction suf with
  | nil =>
    intro pre seen byDepth out _ _ _
    exact ⟨[], seen, by simp, fun more => rfl⟩
  | cons xq suf ih =>
    intro pre seen byDepth out hz hs hinv
    rcases xq with ⟨x, q⟩
    have hmem : (x, q) ∈ idx.zip π.queries := by rw [hz]; simp
    have hqm : q ∈ π.queries := (List.of_mem_zip hmem).2
    obtain ⟨old0, hci, hcf⟩ := hcons (x, q) hmem
    obtain ⟨e, hel, helen, hefst⟩ := initial_entry π idx p cp hc hwf x q hmem
    have hci' : combineInitial inst e ch.alpha (subgroupX p x) reduced p = some old0 := by
      rw [combineInitial_congr inst e q.initial _ _ _ _ hefst]; exact hci
    have hok := layersOK_of π idx p cp hc hwf ch.betas pre suf x q hz seen hs p.arityBits 0
      (subgroupX p x) old0 rfl hcf
    obtain ⟨vals1, seen', byDepth', e1, e2, e3⟩ := align_layers cp.rounds.steps ch.betas
      (Etrue π idx p) (Mstored π idx p) q seen p.arityBits 0 x (subgroupX p x) old0 seen byDepth out
      hok hinv (fun _ _ => rfl)
    have hs' := inferLayers_seen cp.rounds.steps ch.betas p.arityBits pre x q p.arityBits 0 _ _ _ _ _ _
      rfl e1 hs.1 (fun j hj c => by
        rw [hs.2 j hj c]; exact (or_iff_left (fun h => Nat.not_lt_zero j h.1)).symm)
    obtain ⟨vals2, sfin, f1, f2⟩ := ih (pre ++ [(x, q)]) seen' byDepth' (out ++ vals1)
      (by rw [hz]; simp) hs' e3
    refine ⟨vals1 ++ vals2, sfin, ?_, ?_⟩
    · rw [List.map_cons, List.foldlM_cons]
      have : inferQuery cp ch reduced inst p (seen, out) x = some (seen', out ++ vals1) := by
        simp only [inferQuery, hel, hci', Option.bind_eq_bind, Option.bind_some]
        exact e1
      rw [this]
      simp only [Option.bind_eq_bind, Option.bind_some]
      rw [f1, List.append_assoc]
    · intro more
      rw [List.map_cons]
      have hlen : e.length = numInitial := by rw [helen]; exact hnum q hqm
      simp only [rebuildAll, hel, hlen, ne_eq, not_true_eq_false, if_false, Option.bind_eq_bind,
        Option.bind_some, List.append_assoc, e2 (vals2 ++ more), f2 more, List.map_cons,
        Option.pure_def, rebuiltOf, Option.getD_some]

end P2.Lemmas.C16
