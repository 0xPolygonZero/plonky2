/-
C07 for the two reducing gates `GateKind.reducing n` (`reducing.rs`) and `GateKind.reducingExt n`
(`reducing_extension.rs`).

Both evaluators are the same fold, parameterised by the wire position `a i` of accumulator `i` and
by the coefficient `cf i` (an algebra element): constraint pair `i` is the two components of
`prev_i * alpha + cf i − acc_i` with `prev_0 = old_acc` (wires 4,5), `prev_i = acc_{i-1}`,
`alpha` = wires 2,3.  Everything is proved once for the common form (`redEval`, `redCon`) from two
facts about the parameters — `RedLayout a n B` (where the accumulators sit) and `RedCoeff cf n B`
(the coefficients are read from wires `[6, B)`) — and then instantiated.
-/
import P2.Lemmas.C07On
import Mathlib.Algebra.QuadraticAlgebra.Defs
set_option linter.unusedSectionVars false
namespace P2.Lemmas.C07
open P2 P2.Gates

/-! ## the fold carrying `(previous accumulator, constraints so far)` is a `flatMap` -/

/-- `x` is the sequence of first components: `x 0` the initial one, `x (i+1)` the one step `i`
leaves behind -/
theorem red_foldl_pair_flatMap {A β : Type} (x : Nat → A) (g : A → Nat → List β) (n : Nat) :
    (List.range n).foldl (fun (st : A × List β) i => (x (i + 1), st.2 ++ g st.1 i)) (x 0, []) =
      (x n, (List.range n).flatMap fun i => g (x i) i) := by
  induction n with
  | zero => rfl
  | succ n ih =>
    rw [List.range_succ, List.foldl_append, ih, List.flatMap_append, List.flatMap_singleton]
    rfl

/-- wire index of (the first component of) `prev_i`: `old_acc` at 4 for `i = 0`, else accumulator
`i − 1` -/
def redPrevAt (a : Nat → Nat) (i : Nat) : Nat := if i = 0 then 4 else a (i - 1)

/-! ## the wire layout -/

/-- The wire layout the two gates share, `a i` being the first wire of accumulator `i < n`: the
last accumulator is the output at wires 0, 1; wires 2 … 5 hold `alpha` and `old_acc`; the
coefficients occupy `[6, B)`; the other accumulators follow from `B` on, two wires each, without
overlap, inside a row of `B + 2·(n − 1)` wires. -/
structure RedLayout (a : Nat → Nat) (n B : Nat) : Prop where
  six_le : 6 ≤ B
  last : a (n - 1) = 0
  range : ∀ i, i < n → a i = 0 ∨ B ≤ a i ∧ a i + 4 ≤ B + 2 * n
  inj : ∀ i m r s, i < n → m < n → r < 2 → s < 2 → a i + s = a m + r → i = m ∧ s = r

/-- `wires_accs` of both gates has this shape, with `B = 6 + n` resp. `6 + 2n` -/
theorem redLayout (B n : Nat) (hB : 6 ≤ B) :
    RedLayout (fun i => if i = n - 1 then 0 else B + 2 * i) n B where
  six_le := hB
  last := if_pos rfl
  range i hi := by split_ifs <;> omega
  inj i m r s hi hm hr hs := by split_ifs <;> omega

theorem redWiresAccs_layout (n : Nat) : RedLayout (redWiresAccs n) n (6 + n) :=
  redLayout (6 + n) n (by omega)

theorem redExtWiresAccs_layout (n : Nat) : RedLayout (redExtWiresAccs n) n (6 + 2 * n) :=
  redLayout (6 + 2 * n) n (by omega)

theorem redLayout_prev (B n i : Nat) (hi : i < n) :
    redPrevAt (fun i => if i = n - 1 then 0 else B + 2 * i) i =
      if i = 0 then 4 else B + 2 * (i - 1) := by
  unfold redPrevAt
  split_ifs with h0
  · rfl
  · exact if_neg (by omega)

namespace RedLayout
variable {a : Nat → Nat} {n B : Nat}

/-- wires `2 … B − 1` (`alpha`, `old_acc`, the coefficients) are not accumulator wires -/
theorem low_ne (L : RedLayout a n B) (m r j : Nat) (hm : m < n) (hr : r < 2) (h2 : 2 ≤ j)
    (hB : j < B) : j ≠ a m + r := by
  have := L.range m hm
  omega

theorem acc_ne (L : RedLayout a n B) (i m r s : Nat) (hi : i < n) (hm : m < n) (hr : r < 2)
    (hs : s < 2) (h : i ≠ m ∨ s ≠ r) : a i + s ≠ a m + r := fun e =>
  h.elim (fun h => h (L.inj i m r s hi hm hr hs e).1) (fun h => h (L.inj i m r s hi hm hr hs e).2)

/-- the wires `prev_i`, `prev_i + 1` read by pair `i` are not wires of accumulator `m`, unless
`i = m + 1` -/
theorem prev_ne (L : RedLayout a n B) (i m r s : Nat) (hi : i < n) (hm : m < n) (hr : r < 2)
    (hs : s < 2) (him : i ≠ m + 1) : redPrevAt a i + s ≠ a m + r := by
  have h6 := L.six_le
  unfold redPrevAt
  split_ifs with h0
  · exact L.low_ne m r (4 + s) hm hr (by omega) (by omega)
  · exact L.acc_ne (i - 1) m r s (by omega) hm hr hs (Or.inl (by omega))

end RedLayout

section Ops
variable {K : Type} [FOps K] [Inhabited K]

/-- the common evaluator of the two reducing gates, over any operations record -/
def redEval (a : Nat → Nat) (cf : Nat → Alg K) (n : Nat) (v : EvalVars K) : List K :=
  ((List.range n).foldl (fun (st : Alg K × List K) i =>
    (v.alg (a i), st.2 ++ (st.1 * v.alg 2 + cf i - v.alg (a i)).comps)) (v.alg 4, [])).2

theorem evalReducing_eq_redEval (n : Nat) (v : EvalVars K) :
    evalReducing n v = redEval (redWiresAccs n) (fun i => Alg.ofK (v.w (6 + i))) n v := rfl

theorem evalReducingExt_eq_redEval (n : Nat) (v : EvalVars K) :
    evalReducingExt n v = redEval (redExtWiresAccs n) (fun i => v.alg (6 + 2 * i)) n v := rfl

/-- `redPrevAt a (i+1)` reduces to `a i`, so the fold's state sequence is `v.alg (redPrevAt a ·)` -/
theorem redEval_eq_flatMap (a : Nat → Nat) (cf : Nat → Alg K) (n : Nat) (v : EvalVars K) :
    redEval a cf n v = (List.range n).flatMap fun i =>
      (v.alg (redPrevAt a i) * v.alg 2 + cf i - v.alg (a i)).comps :=
  congrArg Prod.snd (red_foldl_pair_flatMap (fun i => v.alg (redPrevAt a i))
    (fun p i => (p * v.alg 2 + cf i - v.alg (a i)).comps) n)

end Ops

/-! ## field notation -/

section Field
variable {K : Type} [Field K] [DecidableEq K] [Inhabited K]

/-- `prev_i · alpha + cf i` in wire notation: the value the constraints force on accumulator `i` -/
def redNext (a : Nat → Nat) (cf : Nat → K × K) (v : EvalVars K) (i : Nat) : K × K :=
  (v.wires[redPrevAt a i]! * v.wires[2]! + 7 * (v.wires[redPrevAt a i + 1]! * v.wires[3]!)
      + (cf i).1,
   v.wires[redPrevAt a i]! * v.wires[3]! + v.wires[redPrevAt a i + 1]! * v.wires[2]!
      + (cf i).2)

/-- component `r < 2` of constraint pair `i` -/
def redC (a : Nat → Nat) (cf : Nat → K × K) (v : EvalVars K) (i r : Nat) : K :=
  compAt (redNext a cf v i) r - v.wires[a i + r]!

/-- constraint `j` of the common form -/
def redCon (a : Nat → Nat) (cf : Nat → K × K) (n : Nat) (v : EvalVars K) (j : Nat) : K :=
  ((List.range n).flatMap fun i => [redC a cf v i 0, redC a cf v i 1]).getD j 0

theorem redEval_field (a : Nat → Nat) (cf : Nat → K × K) (n : Nat) (v : EvalVars K) :
    @redEval K (FOps.ofField K) _ a cf n v =
      (List.range n).flatMap fun i => [redC a cf v i 0, redC a cf v i 1] := by
  rw [@redEval_eq_flatMap K (FOps.ofField K) _ a cf n v]
  rfl

theorem redCon_pair (a : Nat → Nat) (cf : Nat → K × K) (n : Nat) (v : EvalVars K) (i r : Nat)
    (hi : i < n) (hr : r < 2) : redCon a cf n v (2 * i + r) = redC a cf v i r := by
  unfold redCon
  rw [List.getD_eq_getElem?_getD, getElem?_flatMap_range n 2 _ (fun _ => rfl) i r hi hr]
  obtain rfl | rfl : r = 0 ∨ r = 1 := by omega
  · rfl
  · rfl

theorem redCon_ge (a : Nat → Nat) (cf : Nat → K × K) (n : Nat) (v : EvalVars K) (j : Nat)
    (hj : 2 * n ≤ j) : redCon a cf n v j = 0 := by
  unfold redCon
  rw [List.getD_eq_getElem?_getD, getElem?_flatMap_range_of_ge n 2 _ (fun _ => rfl) j hj]
  rfl

theorem redCon_cases {P : Nat → Prop} (n : Nat) (hlt : ∀ i r, i < n → r < 2 → P (2 * i + r))
    (hge : ∀ j, 2 * n ≤ j → P j) (j : Nat) : P j := by
  by_cases hj : 2 * n ≤ j
  · exact hge j hj
  · have := hlt (j / 2) (j % 2) (by omega) (Nat.mod_lt _ (by omega))
    rwa [Nat.div_add_mod] at this

theorem redCon_zero_iff (a : Nat → Nat) (cf : Nat → K × K) (n : Nat) (v : EvalVars K) :
    (∀ j, redCon a cf n v j = 0) ↔ ∀ i, i < n →
      v.wires[a i]! = (redNext a cf v i).1 ∧ v.wires[a i + 1]! = (redNext a cf v i).2 := by
  constructor
  · intro h i hi
    have h0 := (redCon_pair a cf n v i 0 hi (by omega)).symm.trans (h _)
    have h1 := (redCon_pair a cf n v i 1 hi (by omega)).symm.trans (h _)
    exact ⟨(sub_eq_zero.1 h0).symm, (sub_eq_zero.1 h1).symm⟩
  · intro h
    refine redCon_cases n (fun i r hi hr => ?_) (redCon_ge a cf n v)
    rw [redCon_pair a cf n v i r hi hr]
    obtain rfl | rfl : r = 0 ∨ r = 1 := by omega
    · exact sub_eq_zero.2 (h i hi).1.symm
    · exact sub_eq_zero.2 (h i hi).2.symm

/-! ### the coefficients -/

/-- a coefficient shape: `cf ws i` (`i < n`) is read from wires `[6, B)` of the row `ws` -/
def RedCoeff (cf : Array K → Nat → K × K) (n B : Nat) : Prop :=
  ∀ ws ws' : Array K, (∀ j, 6 ≤ j → j < B → ws'[j]! = ws[j]!) → ∀ i, i < n → cf ws' i = cf ws i

/-- the coefficient of the reducing gate: base-field wire `6+i`, embedded as `(c, 0)` -/
abbrev redCf (ws : Array K) (i : Nat) : K × K := (ws[6 + i]!, 0)
/-- the coefficient of the reducing-extension gate: algebra wires `6+2i, 6+2i+1` -/
abbrev redExtCf (ws : Array K) (i : Nat) : K × K := (ws[6 + 2 * i]!, ws[6 + 2 * i + 1]!)

theorem redCf_coeff (n : Nat) : RedCoeff (redCf (K := K)) n (6 + n) := fun ws ws' h i hi => by
  unfold redCf
  rw [h (6 + i) (by omega) (by omega)]

theorem redExtCf_coeff (n : Nat) : RedCoeff (redExtCf (K := K)) n (6 + 2 * n) :=
  fun ws ws' h i hi => by
    unfold redExtCf
    rw [h (6 + 2 * i) (by omega) (by omega), h (6 + 2 * i + 1) (by omega) (by omega)]

/-! ### replacement of one accumulator wire, common form -/

section Replace
variable {a : Nat → Nat} {n B : Nat} {cf : Array K → Nat → K × K}

/-- replacing component `r` of accumulator `m` leaves `prev_i · alpha + cf i` unchanged, unless
`i = m + 1` (whose `prev` is accumulator `m`) -/
theorem redNext_congr (L : RedLayout a n B) (hcf : RedCoeff cf n B) (v v' : EvalVars K)
    (i m r : Nat) (hi : i < n) (hm : m < n) (hr : r < 2) (hd : DiffersOnlyAt v v' (a m + r))
    (him : i ≠ m + 1) : redNext a (cf v'.wires) v' i = redNext a (cf v.wires) v i := by
  have h0 : redPrevAt a i ≠ a m + r := L.prev_ne i m r 0 hi hm hr Nat.zero_lt_two him
  have h1 := L.prev_ne i m r 1 hi hm hr Nat.one_lt_two him
  have h6 := L.six_le
  have hlow : ∀ j, 2 ≤ j → j < B → v'.wires[j]! = v.wires[j]! :=
    fun j h2 hB => hd.same j (L.low_ne m r j hm hr h2 hB)
  unfold redNext
  rw [hd.same _ h0, hd.same _ h1, hlow 2 (by omega) (by omega), hlow 3 (by omega) (by omega),
    hcf v.wires v'.wires (fun j h6 hB => hlow j (by omega) hB) i hi]

/-- changing component `r` of accumulator `m` on a row where constraint `2m + r` vanishes
makes it non-zero -/
theorem redCon_pinned (L : RedLayout a n B) (hcf : RedCoeff cf n B) (v v' : EvalVars K)
    (m r : Nat) (hm : m < n) (hr : r < 2) (hd : DiffersOnlyAt v v' (a m + r))
    (h0 : redCon a (cf v.wires) n v (2 * m + r) = 0) :
    redCon a (cf v'.wires) n v' (2 * m + r) ≠ 0 := by
  rw [redCon_pair a _ n _ m r hm hr] at h0 ⊢
  unfold redC at h0 ⊢
  rw [redNext_congr L hcf v v' m m r hm hm hr hd (by omega)]
  intro h
  apply hd.diff
  rw [sub_eq_zero] at h h0
  rw [← h, ← h0]

/-- wire `a m + r` is read by constraint `2m + r` (as the accumulator) and by constraints
`2(m+1)`, `2(m+1)+1` (as `prev_{m+1}`, both components read both wires) and by no other
constraint: every other constraint — including the other component of its own pair — is
unchanged -/
theorem redCon_others (L : RedLayout a n B) (hcf : RedCoeff cf n B) (v v' : EvalVars K)
    (m r : Nat) (hm : m < n) (hr : r < 2) (hd : DiffersOnlyAt v v' (a m + r)) (j : Nat)
    (h1 : j ≠ 2 * m + r) (h2 : j ≠ 2 * (m + 1)) (h3 : j ≠ 2 * (m + 1) + 1) :
    redCon a (cf v'.wires) n v' j = redCon a (cf v.wires) n v j := by
  induction j using redCon_cases (n := n) with
  | hlt i s hi hs =>
    rw [redCon_pair a _ n v' i s hi hs, redCon_pair a _ n v i s hi hs]
    unfold redC
    rw [redNext_congr L hcf v v' i m r hi hm hr hd (by omega),
      hd.same _ (L.acc_ne i m r s hi hm hr hs (by omega))]
  | hge j hj => rw [redCon_ge a _ n v' j hj, redCon_ge a _ n v j hj]

end Replace

/-! ## the two gates -/

/-- wire index of `prev_i` for the reducing gate (for `1 ≤ i < n` it is `6 + n + 2·(i−1)`) -/
abbrev redPrev (n i : Nat) : Nat := redPrevAt (redWiresAccs n) i
/-- wire index of `prev_i` for the reducing-extension gate -/
abbrev redExtPrev (n i : Nat) : Nat := redPrevAt (redExtWiresAccs n) i

theorem redPrev_eq (n i : Nat) (hi : i < n) :
    redPrev n i = if i = 0 then 4 else 6 + n + 2 * (i - 1) :=
  redLayout_prev (6 + n) n i hi

theorem redExtPrev_eq (n i : Nat) (hi : i < n) :
    redExtPrev n i = if i = 0 then 4 else 6 + 2 * n + 2 * (i - 1) :=
  redLayout_prev (6 + 2 * n) n i hi

theorem reducing_con_eq (n : Nat) (v : EvalVars K) (j : Nat) :
    con (.reducing n) v j = redCon (redWiresAccs n) (redCf v.wires) n v j := by
  unfold con redCon
  rw [← redEval_field]
  rfl

theorem reducingExt_con_eq (n : Nat) (v : EvalVars K) (j : Nat) :
    con (.reducingExt n) v j = redCon (redExtWiresAccs n) (redExtCf v.wires) n v j := by
  unfold con redCon
  rw [← redEval_field]
  rfl

/-- constraints `2i`, `2i+1` (`i < n`) of the reducing gate in wire notation:
the two components of `prev_i · alpha + (c_i, 0) − acc_i` -/
theorem reducing_con (n : Nat) (v : EvalVars K) (i : Nat) (hi : i < n) :
    con (.reducing n) v (2 * i) =
      v.wires[redPrev n i]! * v.wires[2]! + 7 * (v.wires[redPrev n i + 1]! * v.wires[3]!)
        + v.wires[6 + i]! - v.wires[redWiresAccs n i]! ∧
    con (.reducing n) v (2 * i + 1) =
      v.wires[redPrev n i]! * v.wires[3]! + v.wires[redPrev n i + 1]! * v.wires[2]!
        + 0 - v.wires[redWiresAccs n i + 1]! := by
  rw [reducing_con_eq, reducing_con_eq]
  exact ⟨redCon_pair _ _ n v i 0 hi (by omega), redCon_pair _ _ n v i 1 hi (by omega)⟩

theorem reducing_con_ge (n : Nat) (v : EvalVars K) (j : Nat) (hj : 2 * n ≤ j) :
    con (.reducing n) v j = 0 := by
  rw [reducing_con_eq]; exact redCon_ge _ _ n v j hj

theorem reducingExt_con (n : Nat) (v : EvalVars K) (i : Nat) (hi : i < n) :
    con (.reducingExt n) v (2 * i) =
      v.wires[redExtPrev n i]! * v.wires[2]! + 7 * (v.wires[redExtPrev n i + 1]! * v.wires[3]!)
        + v.wires[6 + 2 * i]! - v.wires[redExtWiresAccs n i]! ∧
    con (.reducingExt n) v (2 * i + 1) =
      v.wires[redExtPrev n i]! * v.wires[3]! + v.wires[redExtPrev n i + 1]! * v.wires[2]!
        + v.wires[6 + 2 * i + 1]! - v.wires[redExtWiresAccs n i + 1]! := by
  rw [reducingExt_con_eq, reducingExt_con_eq]
  exact ⟨redCon_pair _ _ n v i 0 hi (by omega), redCon_pair _ _ n v i 1 hi (by omega)⟩

theorem reducingExt_con_ge (n : Nat) (v : EvalVars K) (j : Nat) (hj : 2 * n ≤ j) :
    con (.reducingExt n) v j = 0 := by
  rw [reducingExt_con_eq]; exact redCon_ge _ _ n v j hj

/-! ### satisfaction -/

theorem reducing_sat_red (n : Nat) (v : EvalVars K) :
    Sat (.reducing n) v ↔ ∀ j, redCon (redWiresAccs n) (redCf v.wires) n v j = 0 :=
  (sat_iff_con _ v).trans (forall_congr' fun j => by rw [reducing_con_eq])

theorem reducingExt_sat_red (n : Nat) (v : EvalVars K) :
    Sat (.reducingExt n) v ↔ ∀ j, redCon (redExtWiresAccs n) (redExtCf v.wires) n v j = 0 :=
  (sat_iff_con _ v).trans (forall_congr' fun j => by rw [reducingExt_con_eq])

/-! ### the generator-written wires are exactly the accumulator component wires -/

theorem redLayout_generatedWires (B n k : Nat) :
    k ∈ (if n = 0 then [] else [0, 1] ++ (List.range (2 * (n - 1))).map fun m => B + m) ↔
      ∃ i comp, i < n ∧ comp < 2 ∧ k = (if i = n - 1 then 0 else B + 2 * i) + comp := by
  cases n with
  | zero => simp
  | succ n =>
    simp only [if_neg (Nat.succ_ne_zero n), Nat.add_sub_cancel, List.mem_append, List.mem_cons,
      List.not_mem_nil, or_false, List.mem_map, List.mem_range]
    constructor
    · rintro ((rfl | rfl) | ⟨m, hm, rfl⟩)
      · exact ⟨n, 0, Nat.lt_succ_self n, Nat.zero_lt_two, by rw [if_pos rfl]⟩
      · exact ⟨n, 1, Nat.lt_succ_self n, Nat.one_lt_two, by rw [if_pos rfl]⟩
      · exact ⟨m / 2, m % 2, by omega, by omega, by rw [if_neg (by omega)]; omega⟩
    · rintro ⟨i, comp, hi, hc, rfl⟩
      split_ifs with h
      · left; omega
      · right; exact ⟨2 * i + comp, by omega, by omega⟩

theorem reducing_generatedWires_mem (n k : Nat) :
    k ∈ (GateKind.reducing n).generatedWires ↔
      ∃ i comp, i < n ∧ comp < 2 ∧ k = redWiresAccs n i + comp :=
  redLayout_generatedWires (6 + n) n k

theorem reducingExt_generatedWires_mem (n k : Nat) :
    k ∈ (GateKind.reducingExt n).generatedWires ↔
      ∃ i comp, i < n ∧ comp < 2 ∧ k = redExtWiresAccs n i + comp :=
  redLayout_generatedWires (6 + 2 * n) n k

/-! ### semantic corollary: the output is the Horner value in `K[X]/(X² − 7)` -/

/-- wires `i, i+1` as an element of `K[X]/(X² − 7)` (`QuadraticAlgebra K 7 0`, a commutative ring
whose multiplication is `Alg.mul`) -/
def redQ (v : EvalVars K) (i : Nat) : QuadraticAlgebra K 7 0 := ⟨v.wires[i]!, v.wires[i + 1]!⟩

/-- Horner value after `k` steps -/
def redHorner {R : Type} [Semiring R] (old α : R) (c : Nat → R) : Nat → R
  | 0 => old
  | k + 1 => redHorner old α c k * α + c k

/-- … in closed form: `old·α^k + Σ_{m<k} c_m·α^(k−1−m)` -/
theorem redHorner_eq {R : Type} [Semiring R] (old α : R) (c : Nat → R) (k : Nat) :
    redHorner old α c k = old * α ^ k + ∑ m ∈ Finset.range k, c m * α ^ (k - 1 - m) := by
  induction k with
  | zero => rw [redHorner, pow_zero, mul_one, Finset.sum_range_zero, add_zero]
  | succ k ih =>
    have hs : ∀ m ∈ Finset.range k, c m * α ^ (k + 1 - 1 - m) = c m * α ^ (k - 1 - m) * α := by
      intro m hm
      rw [Finset.mem_range] at hm
      rw [mul_assoc, ← pow_succ]
      congr 2
      omega
    rw [redHorner, ih, Finset.sum_range_succ, Finset.sum_congr rfl hs, ← Finset.sum_mul,
      show k + 1 - 1 - k = 0 by omega, pow_zero, mul_one, pow_succ, add_mul, mul_assoc, add_assoc]

theorem redQ_step (a : Nat → Nat) (cf : Nat → K × K) (v : EvalVars K) (i : Nat)
    (h : v.wires[a i]! = (redNext a cf v i).1 ∧ v.wires[a i + 1]! = (redNext a cf v i).2) :
    redQ v (a i) = redQ v (redPrevAt a i) * redQ v 2 + ⟨(cf i).1, (cf i).2⟩ := by
  apply QuadraticAlgebra.ext
  · simp only [redQ, QuadraticAlgebra.re_add, QuadraticAlgebra.re_mul]
    rw [h.1]; dsimp only [redNext]; ring
  · simp only [redQ, QuadraticAlgebra.im_add, QuadraticAlgebra.im_mul]
    rw [h.2]; dsimp only [redNext]; ring

/-- under the accumulator equations `prev_i` is the Horner value after `i` steps (`prev_{i+1}`
is accumulator `i`) -/
theorem red_horner (a : Nat → Nat) (cf : Nat → K × K) (v : EvalVars K) (n : Nat)
    (h : ∀ i, i < n →
      v.wires[a i]! = (redNext a cf v i).1 ∧ v.wires[a i + 1]! = (redNext a cf v i).2)
    (i : Nat) (hi : i ≤ n) :
    redQ v (redPrevAt a i) =
      redHorner (redQ v 4) (redQ v 2) (fun m => ⟨(cf m).1, (cf m).2⟩) i := by
  induction i with
  | zero => rfl
  | succ i ih =>
    refine (redQ_step a cf v i (h i hi)).trans ?_
    rw [ih (by omega)]
    rfl

/-- for `n ≥ 1`, `prev_n` is the last accumulator, which `L.last` puts at wires 0, 1; by `red_horner`
it holds the Horner value after `n` steps -/
theorem redCon_output_horner {a : Nat → Nat} {n B : Nat} (L : RedLayout a n B) (hn : 0 < n)
    (cf : Nat → K × K) (v : EvalVars K) (hs : ∀ j, redCon a cf n v j = 0) :
    redQ v 0 = redQ v 4 * redQ v 2 ^ n
      + ∑ i ∈ Finset.range n, ⟨(cf i).1, (cf i).2⟩ * redQ v 2 ^ (n - 1 - i) := by
  rw [← redHorner_eq, ← red_horner a cf v n ((redCon_zero_iff a cf n v).1 hs) n (le_refl n),
    redPrevAt, if_neg hn.ne', L.last]

/-- on a satisfying row with `n ≥ 1`, the output (wires 0,1) is
`old_acc·alpha^n + Σ_{i<n} coeff_i·alpha^(n−1−i)` in `K[X]/(X² − 7)` -/
theorem reducing_output_horner (n : Nat) (hn : 0 < n) (v : EvalVars K) (hs : Sat (.reducing n) v) :
    (⟨v.wires[0]!, v.wires[1]!⟩ : QuadraticAlgebra K 7 0) =
      ⟨v.wires[4]!, v.wires[5]!⟩ * (⟨v.wires[2]!, v.wires[3]!⟩ : QuadraticAlgebra K 7 0) ^ n
        + ∑ i ∈ Finset.range n, ⟨v.wires[6 + i]!, 0⟩ *
            (⟨v.wires[2]!, v.wires[3]!⟩ : QuadraticAlgebra K 7 0) ^ (n - 1 - i) := by
  have h := redCon_output_horner (redWiresAccs_layout n) hn (redCf v.wires) v
    ((reducing_sat_red n v).1 hs)
  exact h

theorem reducingExt_output_horner (n : Nat) (hn : 0 < n) (v : EvalVars K)
    (hs : Sat (.reducingExt n) v) :
    (⟨v.wires[0]!, v.wires[1]!⟩ : QuadraticAlgebra K 7 0) =
      ⟨v.wires[4]!, v.wires[5]!⟩ * (⟨v.wires[2]!, v.wires[3]!⟩ : QuadraticAlgebra K 7 0) ^ n
        + ∑ i ∈ Finset.range n, ⟨v.wires[6 + 2 * i]!, v.wires[6 + 2 * i + 1]!⟩ *
            (⟨v.wires[2]!, v.wires[3]!⟩ : QuadraticAlgebra K 7 0) ^ (n - 1 - i) := by
  have h := redCon_output_horner (redExtWiresAccs_layout n) hn (redExtCf v.wires) v
    ((reducingExt_sat_red n v).1 hs)
  exact h

end Field

/-! ## the generator's row satisfies the gate (over `P2.GL`) -/

section GLGen
attribute [local instance] glField

/-- the common generator loop: state `(running accumulator, row)` -/
def redGenFold (a : Nat → Nat) (step : Alg P2.GL → Nat → Alg P2.GL) (x0 : Alg P2.GL)
    (ws : Array P2.GL) (k : Nat) : Alg P2.GL × Array P2.GL :=
  (List.range k).foldl (fun (st : Alg P2.GL × Array P2.GL) i =>
    (step st.1 i, setAlg st.2 (a i) (step st.1 i))) (x0, ws)

theorem redGenFold_succ (a : Nat → Nat) (step : Alg P2.GL → Nat → Alg P2.GL) (x0 : Alg P2.GL)
    (ws : Array P2.GL) (k : Nat) :
    redGenFold a step x0 ws (k + 1) =
      (step (redGenFold a step x0 ws k).1 k,
       setAlg (redGenFold a step x0 ws k).2 (a k) (step (redGenFold a step x0 ws k).1 k)) := by
  unfold redGenFold
  rw [List.range_succ, List.foldl_append]
  rfl

theorem getAlg_setAlg_ne (ws : Array P2.GL) (k j : Nat) (x : Alg P2.GL)
    (h : ∀ s r, s < 2 → r < 2 → j + s ≠ k + r) : getAlg (setAlg ws k x) j = getAlg ws j := by
  unfold getAlg
  rw [getElem!_setAlg_ne _ k j _ (not_or.2 ⟨h 0 0 Nat.zero_lt_two Nat.zero_lt_two,
      h 0 1 Nat.zero_lt_two Nat.one_lt_two⟩),
    getElem!_setAlg_ne _ k (j + 1) _ (not_or.2 ⟨h 1 0 Nat.one_lt_two Nat.zero_lt_two,
      h 1 1 Nat.one_lt_two Nat.one_lt_two⟩)]

variable {a : Nat → Nat} {n B : Nat}

/-- loop invariant after `k ≤ n` steps: the row has its size; wires outside the accumulators
written so far are untouched; `prev_i` (`i ≤ k`: `old_acc`, or accumulator `i − 1`) holds the
running accumulator of step `i`, which for `i = k` is the fold's first component -/
theorem redGenFold_inv (L : RedLayout a n B) (step : Alg P2.GL → Nat → Alg P2.GL)
    (ws : Array P2.GL) (hsz : B + 2 * n ≤ ws.size + 2) (k : Nat) (hk : k ≤ n) :
    (redGenFold a step (getAlg ws 4) ws k).2.size = ws.size ∧
    (∀ j, (∀ i, i < k → j ≠ a i ∧ j ≠ a i + 1) →
      (redGenFold a step (getAlg ws 4) ws k).2[j]! = ws[j]!) ∧
    (redGenFold a step (getAlg ws 4) ws k).1 =
      getAlg (redGenFold a step (getAlg ws 4) ws k).2 (redPrevAt a k) ∧
    (∀ i, i < k → getAlg (redGenFold a step (getAlg ws 4) ws k).2 (a i) =
      step (getAlg (redGenFold a step (getAlg ws 4) ws k).2 (redPrevAt a i)) i) := by
  induction k with
  | zero => exact ⟨rfl, fun j _ => rfl, rfl, fun i hi => absurd hi (by omega)⟩
  | succ k ih =>
    obtain ⟨ih1, ih2, ih3, ih4⟩ := ih (by omega)
    rw [redGenFold_succ]
    generalize redGenFold a step (getAlg ws 4) ws k = st at ih1 ih2 ih3 ih4 ⊢
    dsimp only
    have hak : a k + 1 < st.2.size := by
      have := L.range k hk
      have := L.six_le
      omega
    refine ⟨by rw [size_setAlg, ih1], fun j hj => ?_, (getAlg_setAlg_self _ _ _ hak).symm,
      fun i hi => ?_⟩
    · show (setAlg _ _ _)[j]! = _
      rw [getElem!_setAlg_ne _ _ _ _ (not_or.2 (hj k (by omega)))]
      exact ih2 j fun i hi => hj i (by omega)
    · show getAlg (setAlg _ _ _) (a i) = step (getAlg (setAlg _ _ _) _) i
      -- writing accumulator `k` does not disturb `prev_i`, `i ≤ k`, nor accumulator `i < k`
      rw [getAlg_setAlg_ne _ _ (redPrevAt a i) _ fun s r hs hr =>
        L.prev_ne i k r s (by omega) hk hr hs (by omega)]
      rcases Nat.lt_succ_iff_lt_or_eq.1 hi with hik | rfl
      · rw [getAlg_setAlg_ne _ _ (a i) _ fun s r hs hr =>
          L.acc_ne i k r s (by omega) hk hr hs (Or.inl hik.ne)]
        exact ih4 i hik
      · rw [getAlg_setAlg_self _ _ _ hak, ih3]

variable {cf : Array P2.GL → Nat → Alg P2.GL}

/-- the row `ReducingGenerator::run_once` produces from `ws`, common form: it has the size of
`ws` and all constraints vanish on it -/
theorem redGen_sat (L : RedLayout a n B) (hcf : RedCoeff cf n B) (consts ws pih : Array P2.GL)
    (hsz : B + 2 * n ≤ ws.size + 2) :
    let fin := (redGenFold a (fun x i => x * getAlg ws 2 + cf ws i) (getAlg ws 4) ws n).2
    fin.size = ws.size ∧ ∀ j, redCon a (cf fin) n ⟨consts, fin, pih⟩ j = 0 := by
  intro fin
  obtain ⟨h1, h2, -, h4⟩ := redGenFold_inv L (fun x i => x * getAlg ws 2 + cf ws i) ws hsz n
    (le_refl n)
  have h6 := L.six_le
  have hlow : ∀ j, 2 ≤ j → j < B → fin[j]! = ws[j]! := fun j hj hB =>
    h2 j fun m hm => ⟨L.low_ne m 0 j hm (by omega) hj hB, L.low_ne m 1 j hm (by omega) hj hB⟩
  refine ⟨h1, (redCon_zero_iff a (cf fin) n ⟨consts, fin, pih⟩).2 fun i hi => ?_⟩
  have hA : getAlg fin (a i) = getAlg fin (redPrevAt a i) * getAlg ws 2 + cf ws i := h4 i hi
  rw [hcf fin ws (fun j h6 hB => (hlow j (by omega) hB).symm) i hi] at hA
  have h2' : getAlg ws 2 = getAlg fin 2 := by
    unfold getAlg
    rw [hlow 2 (by omega) (by omega), hlow 3 (by omega) (by omega)]
  rw [h2'] at hA
  -- the components of `hA`, an equation between `Alg P2.GL` products and sums of the executable
  -- instance, unfold definitionally to the two equations of `redNext` over `glField`
  exact ⟨congrArg Prod.fst hA, congrArg Prod.snd hA⟩

theorem reducing_generate_eq (n : Nat) (consts wires : Array P2.GL) :
    (GateKind.reducing n).generate consts wires =
      let ws := wires ++ Array.replicate ((GateKind.reducing n).numWires - wires.size) 0
      (redGenFold (redWiresAccs n) (fun x i => x * getAlg ws 2 + Alg.ofK ws[6 + i]!)
        (getAlg ws 4) ws n).2 := rfl

theorem reducingExt_generate_eq (n : Nat) (consts wires : Array P2.GL) :
    (GateKind.reducingExt n).generate consts wires =
      let ws := wires ++ Array.replicate ((GateKind.reducingExt n).numWires - wires.size) 0
      (redGenFold (redExtWiresAccs n) (fun x i => x * getAlg ws 2 + getAlg ws (6 + 2 * i))
        (getAlg ws 4) ws n).2 := rfl

/-- the generated row of the reducing gate has all its columns and satisfies the gate -/
theorem reducing_gen (n : Nat) (consts wires pih : Array P2.GL) :
    (GateKind.reducing n).numWires ≤ ((GateKind.reducing n).generate consts wires).size ∧
    Sat (.reducing n) (genRow (.reducing n) consts wires pih) := by
  have hpad := size_pad_ge wires (GateKind.reducing n).numWires
  have hnw : (GateKind.reducing n).numWires = 2 * 2 + n * (2 + 1) := rfl
  obtain ⟨h1, h2⟩ := redGen_sat (redWiresAccs_layout n) (redCf_coeff n) consts
    (wires ++ Array.replicate ((GateKind.reducing n).numWires - wires.size) 0) pih (by omega)
  exact ⟨hpad.trans_eq h1.symm, (reducing_sat_red n _).2 h2⟩

theorem reducingExt_gen (n : Nat) (consts wires pih : Array P2.GL) :
    (GateKind.reducingExt n).numWires ≤ ((GateKind.reducingExt n).generate consts wires).size ∧
    Sat (.reducingExt n) (genRow (.reducingExt n) consts wires pih) := by
  have hpad := size_pad_ge wires (GateKind.reducingExt n).numWires
  have hnw : (GateKind.reducingExt n).numWires = 2 * 2 + 2 * 2 * n := rfl
  obtain ⟨h1, h2⟩ := redGen_sat (redExtWiresAccs_layout n) (redExtCf_coeff n) consts
    (wires ++ Array.replicate ((GateKind.reducingExt n).numWires - wires.size) 0) pih (by omega)
  exact ⟨hpad.trans_eq h1.symm, (reducingExt_sat_red n _).2 h2⟩

end GLGen
end P2.Lemmas.C07
