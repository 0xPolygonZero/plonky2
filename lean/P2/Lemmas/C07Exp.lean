/-
C07, exponentiation gate (`GateKind.exponentiation n`, `evalExponentiation`, ExponentiationGenerator).
Wires: 0 = base, 1+i (i<n) = power bits (LE), 1+n = output, 2+n+i (i<n) = intermediates.
Constraint i<n: `prev_i·(bit_{n-1-i}·base + (1 − bit_{n-1-i})) − intermediate_i`, constraint n:
`output − intermediate_{n-1}`, where `prev_0 = 1` and `prev_i = intermediate_{i-1}²` (`expPrev`).
Over a field: the constraints in closed form, the satisfying rows, and that on them the output is
`base ^ exponent`; over `GL`: the row the model's generator writes satisfies the gate.
-/
import P2.Lemmas.C07On
import Mathlib.Tactic.NormNum
import Mathlib.Algebra.Field.Rat
set_option linter.unusedSectionVars false
namespace P2.Lemmas.C07
open P2 P2.Gates

/-! ## binary value of the top bits -/

/-- value of the top `k` bits of the `n`-bit little-endian number with bits `f 0 … f (n-1)`,
read from the most significant bit downwards (what the gate's square-and-multiply chain computes) -/
def expTop (f : Nat → Nat) (n : Nat) : Nat → Nat
  | 0 => 0
  | k + 1 => 2 * expTop f n k + f (n - k - 1)

theorem expTop_shift (f : Nat → Nat) (n k : Nat) (hk : k ≤ n) :
    expTop f (n + 1) k = expTop (fun j => f (j + 1)) n k := by
  induction k with
  | zero => rfl
  | succ k ih =>
    simp only [expTop]
    rw [ih (by omega)]
    have : n + 1 - k - 1 = n - k - 1 + 1 := by omega
    rw [this]

theorem expTop_full (f : Nat → Nat) (n : Nat) :
    expTop f n n = ∑ j ∈ Finset.range n, f j * 2 ^ j := by
  induction n generalizing f with
  | zero => rfl
  | succ n ih =>
    rw [Finset.sum_range_succ']
    simp only [expTop]
    rw [expTop_shift f n n (le_refl _), ih]
    have : n + 1 - n - 1 = 0 := by omega
    rw [this, Finset.mul_sum]
    simp only [pow_succ, pow_zero, mul_one, Nat.add_left_inj]
    apply Finset.sum_congr rfl
    intro j _
    ring

section
variable {K : Type} [Field K] [DecidableEq K] [Inhabited K]

/-- `prev_i` of the exponentiation gate: `1` for `i = 0`, else the square of intermediate `i-1` -/
def expPrev (n : Nat) (v : EvalVars K) (i : Nat) : K :=
  if i = 0 then 1 else v.wires[2 + n + (i - 1)]! * v.wires[2 + n + (i - 1)]!

theorem expPrev_zero (n : Nat) (v : EvalVars K) : expPrev n v 0 = 1 := rfl
theorem expPrev_succ (n : Nat) (v : EvalVars K) (i : Nat) :
    expPrev n v (i + 1) = v.wires[2 + n + i]! * v.wires[2 + n + i]! := by
  simp [expPrev]

theorem expPrev_congr (n : Nat) (v v' : EvalVars K) (i : Nat)
    (h : i ≠ 0 → v'.wires[2 + n + (i - 1)]! = v.wires[2 + n + (i - 1)]!) :
    expPrev n v' i = expPrev n v i := by
  unfold expPrev
  split
  · rfl
  · next h0 => rw [h h0]

theorem exponentiation_con (n : Nat) (v : EvalVars K) (i : Nat) :
    con (.exponentiation n) v i =
      if i < n then
        expPrev n v i * (v.wires[1 + (n - i - 1)]! * v.wires[0]! + (1 - v.wires[1 + (n - i - 1)]!))
          - v.wires[2 + n + i]!
      else if i = n then v.wires[1 + n]! - v.wires[2 + n + (n - 1)]! else 0 := by
  show ((List.range n).map _ ++ [_] : List K).getD i 0 = _
  rw [List.getD_eq_getElem?_getD, List.getElem?_append, List.length_map, List.length_range,
    getElem?_map_range]
  by_cases h1 : i < n
  · rw [if_pos h1, if_pos h1, if_pos h1]
    rfl
  · rw [if_neg h1, if_neg h1]
    by_cases h2 : i = n
    · rw [if_pos h2, h2, Nat.sub_self]
      rfl
    · rw [if_neg h2, List.getElem?_eq_none (by simp only [List.length_singleton]; omega)]
      rfl

theorem exponentiation_sat_iff (n : Nat) (v : EvalVars K) :
    Sat (.exponentiation n) v ↔
      (∀ i, i < n → v.wires[2 + n + i]! =
        expPrev n v i * (v.wires[1 + (n - i - 1)]! * v.wires[0]! + (1 - v.wires[1 + (n - i - 1)]!)))
      ∧ v.wires[1 + n]! = v.wires[2 + n + (n - 1)]! := by
  rw [sat_iff_con]
  constructor
  · intro h
    refine ⟨fun i hi => ?_, ?_⟩
    · have := h i
      rw [exponentiation_con, if_pos hi, sub_eq_zero] at this
      exact this.symm
    · have := h n
      rw [exponentiation_con, if_neg (lt_irrefl n), if_pos rfl, sub_eq_zero] at this
      exact this
  · rintro ⟨h1, h2⟩ i
    rw [exponentiation_con]
    split
    · next hi => rw [sub_eq_zero]; exact (h1 i hi).symm
    · split
      · rw [sub_eq_zero]; exact h2
      · rfl

/-- for a boolean bit, the constraint's multiplier `bit·base + (1 − bit)` is the generator's
`if bit = 1 then base else 1` -/
theorem exp_bit_mul (b base p : K) (hb : b = 0 ∨ b = 1) :
    p * (b * base + (1 - b)) = if b = 1 then p * base else p := by
  rcases hb with rfl | rfl
  · rw [if_neg zero_ne_one, zero_mul, sub_zero, zero_add, mul_one]
  · rw [if_pos rfl, one_mul, sub_self, add_zero]

/-- the generator's equation for intermediate `i`: `prev_i · base` if power bit `n−1−i` is `1`,
else `prev_i` -/
def expEq (n : Nat) (v : EvalVars K) (i : Nat) : Prop :=
  v.wires[2 + n + i]! =
    if v.wires[1 + (n - i - 1)]! = 1 then expPrev n v i * v.wires[0]! else expPrev n v i

/-- under the boolean contract on the power bits, `Sat` is exactly "the intermediates and the
output are the generator's values" -/
theorem exponentiation_sat_iff_gen (n : Nat) (v : EvalVars K)
    (hb : ∀ i, i < n → v.wires[1 + i]! = 0 ∨ v.wires[1 + i]! = 1) :
    Sat (.exponentiation n) v ↔
      (∀ i, i < n → expEq n v i) ∧ v.wires[1 + n]! = v.wires[2 + n + (n - 1)]! := by
  rw [exponentiation_sat_iff]
  refine and_congr_left' (forall_congr' fun i => forall_congr' fun hi => ?_)
  rw [exp_bit_mul _ _ _ (hb (n - i - 1) (by omega))]
  rfl

/-- `expEq n · i` reads the base, the power bits and the intermediates up to `i` only -/
theorem expEq_congr (n : Nat) (v v' : EvalVars K) (i : Nat) (hi : i < n)
    (h : ∀ j, j ≤ n ∨ 2 + n ≤ j ∧ j ≤ 2 + n + i → v'.wires[j]! = v.wires[j]!) :
    expEq n v' i ↔ expEq n v i := by
  unfold expEq
  rw [expPrev_congr n v v' i (fun _ => h _ (Or.inr ⟨by omega, by omega⟩)),
    h (2 + n + i) (Or.inr ⟨by omega, le_refl _⟩), h (1 + (n - i - 1)) (Or.inl (by omega)),
    h 0 (Or.inl (Nat.zero_le n))]

/-- the natural-number value (0/1) of power bit `j` -/
def expBitVal (v : EvalVars K) (j : Nat) : Nat := if v.wires[1 + j]! = 1 then 1 else 0

/-- under the boolean contract, on a satisfying row intermediate `i` is `base ^ (top i+1 bits)` -/
theorem exponentiation_intermediate (n : Nat) (v : EvalVars K)
    (hb : ∀ i, i < n → v.wires[1 + i]! = 0 ∨ v.wires[1 + i]! = 1)
    (hs : Sat (.exponentiation n) v) (i : Nat) (hi : i < n) :
    v.wires[2 + n + i]! = v.wires[0]! ^ expTop (expBitVal v) n (i + 1) := by
  obtain ⟨h1, -⟩ := (exponentiation_sat_iff_gen n v hb).1 hs
  -- one step of square-and-multiply: `prev_i = base^(2e)` gives `intermediate_i = base^(2e + bit)`
  have hstep : ∀ i, i < n → ∀ e, expPrev n v i = v.wires[0]! ^ (2 * e) →
      v.wires[2 + n + i]! = v.wires[0]! ^ (2 * e + expBitVal v (n - i - 1)) := by
    intro i hi e he
    rw [h1 i hi, he, pow_add]
    unfold expBitVal
    split_ifs
    · rw [pow_one]
    · rw [pow_zero, mul_one]
  induction i with
  | zero => exact hstep 0 hi 0 ((expPrev_zero n v).trans (pow_zero _).symm)
  | succ i ih =>
    exact hstep (i + 1) hi _ (by rw [expPrev_succ, ih (by omega), ← pow_add, two_mul])

/-- the gate computes exponentiation: under the boolean contract, on a satisfying row the output
is `base ^ (Σ_j bit_j · 2^j)` -/
theorem exponentiation_semantics (n : Nat) (hn : 1 ≤ n) (v : EvalVars K)
    (hb : ∀ i, i < n → v.wires[1 + i]! = 0 ∨ v.wires[1 + i]! = 1)
    (hs : Sat (.exponentiation n) v) :
    v.wires[1 + n]! = v.wires[0]! ^ (∑ j ∈ Finset.range n, expBitVal v j * 2 ^ j) := by
  obtain ⟨-, h2⟩ := (exponentiation_sat_iff n v).1 hs
  rw [h2, exponentiation_intermediate n v hb hs (n - 1) (by omega), ← expTop_full]
  have : n - 1 + 1 = n := by omega
  rw [this]

/-! ### the generator-written wires; what a constraint reads -/

/-- every generator-written wire is the output `1+n` or an intermediate `2+n+i`, `i < n`: the wires
covered by `Props.C07.exponentiation_pinned_output` / `…_pinned_intermediate` -/
theorem exponentiation_generatedWires (n k : Nat) :
    k ∈ (GateKind.exponentiation n).generatedWires ↔ k = 1 + n ∨ ∃ i, i < n ∧ k = 2 + n + i := by
  simp only [GateKind.generatedWires, List.mem_map, List.mem_range]
  constructor
  · rintro ⟨i, hi, rfl⟩
    rcases Nat.eq_zero_or_pos i with rfl | h
    · exact Or.inl rfl
    · exact Or.inr ⟨i - 1, by omega, by omega⟩
  · rintro (rfl | ⟨i, hi, rfl⟩)
    · exact ⟨0, by omega, rfl⟩
    · exact ⟨i + 1, by omega, by omega⟩

/-- constraint `j < n` reads the base, power bit `n−1−j` and the intermediates `j−1`, `j` only -/
theorem exponentiation_con_congr_lt (n : Nat) (v v' : EvalVars K) (k j : Nat)
    (hd : DiffersOnlyAt v v' k) (hj : j < n) (hk : n < k) (h1 : k ≠ 2 + n + j)
    (h2 : k ≠ 2 + n + (j - 1)) : con (.exponentiation n) v' j = con (.exponentiation n) v j := by
  rw [exponentiation_con, exponentiation_con, if_pos hj, if_pos hj,
    expPrev_congr n v v' j (fun _ => hd.same _ h2.symm), hd.same (1 + (n - j - 1)) (by omega),
    hd.same 0 (by omega), hd.same (2 + n + j) h1.symm]

end

/-! ## the model's generator over `GL` -/

section GLGen
attribute [local instance] glField

/-- one step of `ExponentiationGenerator::run_once` (the body of the model's `foldl`) -/
def expStep (n : Nat) (base : P2.GL) (acc : Array P2.GL × P2.GL) (i : Nat) : Array P2.GL × P2.GL :=
  let cur := if acc.1[1 + (n - i - 1)]! = 1 then acc.2 * base else acc.2
  (acc.1.set! (2 + n + i) cur, cur * cur)

/-- the generator's loop after `k` steps, from the (zero-padded) row `ws0`: the row and the
carried value -/
def expLoop (n : Nat) (ws0 : Array P2.GL) (k : Nat) : Array P2.GL × P2.GL :=
  (List.range k).foldl (expStep n ws0[0]!) (ws0, 1)

/-- `ExponentiationGenerator::run_once` on the row `ws0`: the loop, then the output wire -/
def expGen (n : Nat) (ws0 : Array P2.GL) : Array P2.GL :=
  (expLoop n ws0 n).1.set! (1 + n) (expLoop n ws0 n).1[2 + n + (n - 1)]!

theorem generate_exponentiation (n : Nat) (consts wires : Array P2.GL) :
    GateKind.generate (.exponentiation n) consts wires =
      expGen n (wires ++ Array.replicate (2 + 2 * n - wires.size) (0 : P2.GL)) := rfl

theorem expLoop_succ (n : Nat) (ws0 : Array P2.GL) (k : Nat) :
    expLoop n ws0 (k + 1) = expStep n ws0[0]! (expLoop n ws0 k) k := by
  unfold expLoop
  rw [List.range_succ, List.foldl_append]
  rfl

/-- writing wire `1 + n` (the output) or a later intermediate does not disturb the generator's
equation for intermediate `i` -/
theorem expEq_set (n : Nat) (consts ws pih : Array P2.GL) (k : Nat) (x : P2.GL) (i : Nat)
    (hi : i < n) (hk : k = 1 + n ∨ 2 + n + i < k) :
    expEq n ⟨consts, ws.set! k x, pih⟩ i ↔ expEq n ⟨consts, ws, pih⟩ i :=
  expEq_congr n _ _ i hi fun j hj => getElem!_set!_ne _ _ _ _ (by omega)

/-- invariant of the generator's loop after `k ≤ n` steps: the first `k` intermediates satisfy
the generator's equation, nothing else has changed, and the carried value is `prev_k` -/
theorem expLoop_inv (n : Nat) (consts pih ws0 : Array P2.GL)
    (hsz : 2 + 2 * n ≤ ws0.size) (k : Nat) (hk : k ≤ n) :
    (expLoop n ws0 k).1.size = ws0.size ∧
    (∀ j, (j < 2 + n ∨ 2 + n + k ≤ j) → (expLoop n ws0 k).1[j]! = ws0[j]!) ∧
    (∀ j, j < k → expEq n ⟨consts, (expLoop n ws0 k).1, pih⟩ j) ∧
    (expLoop n ws0 k).2 = expPrev n ⟨consts, (expLoop n ws0 k).1, pih⟩ k := by
  induction k with
  | zero =>
    exact ⟨rfl, fun _ _ => rfl, fun j hj => absurd hj (Nat.not_lt_zero _), rfl⟩
  | succ k ih =>
    obtain ⟨h1, h2, h3, h4⟩ := ih (Nat.le_of_succ_le hk)
    rw [expLoop_succ]
    generalize expLoop n ws0 k = F at h1 h2 h3 h4 ⊢
    obtain ⟨ws, cur⟩ := F
    dsimp only [expStep] at h1 h2 h3 h4 ⊢
    have hin : 2 + n + k < ws.size := by omega
    have hprev : ∀ x, expPrev n ⟨consts, ws.set! (2 + n + k) x, pih⟩ k =
        expPrev n ⟨consts, ws, pih⟩ k :=
      fun x => expPrev_congr n _ _ k fun _ => getElem!_set!_ne _ _ _ _ (by omega)
    refine ⟨by rw [size_set!]; exact h1, fun j hj => ?_, fun j hj => ?_, ?_⟩
    · rw [getElem!_set!_ne _ _ _ _ (by omega)]
      exact h2 j (by omega)
    · rcases Nat.lt_succ_iff_lt_or_eq.1 hj with hjk | rfl
      · exact (expEq_set n consts ws pih _ _ j (hjk.trans hk) (Or.inr (by omega))).2 (h3 j hjk)
      · unfold expEq
        rw [hprev, ← h4]
        show (ws.set! _ _)[2 + n + j]! = if (ws.set! _ _)[1 + (n - j - 1)]! = 1 then
          cur * (ws.set! _ _)[0]! else cur
        rw [getElem!_set!_self _ _ _ hin, getElem!_set!_ne _ _ _ _ (by omega),
          getElem!_set!_ne _ _ _ _ (by omega), h2 0 (Or.inl (by omega))]
    · rw [expPrev_succ]
      show _ = (ws.set! _ _)[2 + n + k]! * (ws.set! _ _)[2 + n + k]!
      rw [getElem!_set!_self _ _ _ hin]

/-- what the generator leaves behind: a row of the same size whose input wires (base `0`, power
bits `1 … n`) are untouched, whose intermediates satisfy the generator's equations and whose
output is the last intermediate -/
theorem expGen_spec (n : Nat) (consts pih ws0 : Array P2.GL) (hsz : 2 + 2 * n ≤ ws0.size) :
    (expGen n ws0).size = ws0.size ∧ (∀ j, j < 1 + n → (expGen n ws0)[j]! = ws0[j]!) ∧
    (∀ i, i < n → expEq n ⟨consts, expGen n ws0, pih⟩ i) ∧
    (expGen n ws0)[1 + n]! = (expGen n ws0)[2 + n + (n - 1)]! := by
  obtain ⟨h1, h2, h3, -⟩ := expLoop_inv n consts pih ws0 hsz n (le_refl _)
  unfold expGen
  generalize (expLoop n ws0 n).1 = ws at h1 h2 h3 ⊢
  refine ⟨by rw [size_set!, h1], fun j hj => ?_,
    fun i hi => (expEq_set n consts ws pih _ _ i hi (Or.inl rfl)).2 (h3 i hi), ?_⟩
  · rw [getElem!_set!_ne _ _ _ _ (by omega), h2 j (Or.inl (by omega))]
  · rw [getElem!_set!_ne _ _ (2 + n + (n - 1)) _ (by omega), getElem!_set!_self _ _ _ (by omega)]

/-- … for the row `generate` starts from: the zero-padded input row -/
theorem exponentiation_genRow_spec (n : Nat) (consts wires pih : Array P2.GL) :
    2 + 2 * n ≤ (genRow (.exponentiation n) consts wires pih).wires.size ∧
    (∀ j, j < 1 + n → (genRow (.exponentiation n) consts wires pih).wires[j]! = wires[j]!) ∧
    (∀ i, i < n → expEq n (genRow (.exponentiation n) consts wires pih) i) ∧
    (genRow (.exponentiation n) consts wires pih).wires[1 + n]! =
      (genRow (.exponentiation n) consts wires pih).wires[2 + n + (n - 1)]! := by
  have hsz := size_pad_ge wires (2 + 2 * n)
  obtain ⟨h1, h2, h3, h4⟩ := expGen_spec n consts pih _ hsz
  rw [genRow, generate_exponentiation]
  exact ⟨hsz.trans_eq h1.symm, fun j hj => (h2 j hj).trans (pad_getElem! wires _ j), h3, h4⟩

theorem exponentiation_generate_inputs (n : Nat) (consts wires : Array P2.GL) (j : Nat)
    (hj : j < 1 + n) : (GateKind.generate (.exponentiation n) consts wires)[j]! = wires[j]! :=
  (exponentiation_genRow_spec n consts wires consts).2.1 j hj

/-- The row produced by the model's `ExponentiationGenerator` satisfies the gate, for
EVERY `n` (contract: the power-bit wires of the input row are boolean; `wires[1+i]!` of a too-short
input row is the padding value `0`).

`n = 0` is included and is not an exception in the MODEL: the row is padded to `numWires = 2`
wires, the loop does nothing, and the generator's last line reads `ws[2 + 0 + (0 - 1)]! = ws[2]!`
(Nat subtraction) — out of range when the input row has ≤ 2 wires, giving `default = 0` — and
writes it to the output wire `1`.  The gate's only constraint for `n = 0` is
`wire 1 − wire (2 + 0 + (0 − 1)) = wire 1 − wire 2`, which reads the SAME (possibly out-of-range)
wire, so it evaluates to `0`.  (In Rust `num_power_bits = 0` makes `wire_intermediate_value(n − 1)`
underflow: a panic with overflow checks — cf. `GateKind.numWiresChecked` — so that case is outside
the model's intended domain; nothing odd happens for `n ≥ 1`, where every read and write is within
the padded row.) -/
theorem exponentiation_generated_Sat (n : Nat) (consts wires pih : Array P2.GL)
    (hb : ∀ i, i < n → wires[1 + i]! = 0 ∨ wires[1 + i]! = 1) :
    Sat (.exponentiation n) (genRow (.exponentiation n) consts wires pih) := by
  obtain ⟨-, hin, hint, ho⟩ := exponentiation_genRow_spec n consts wires pih
  refine (exponentiation_sat_iff_gen n _ fun i hi => ?_).2 ⟨hint, ho⟩
  rw [hin (1 + i) (by omega)]
  exact hb i hi

end GLGen

/-! ## non-vacuity and sharpness (tiny rows over `ℚ`) -/

section Examples

/-- `3 ^ 0b11 = 27` with `n = 2`: the row `[base, b0, b1, out, int0, int1]` satisfies the gate -/
example : Sat (.exponentiation 2) (⟨#[], #[3, 1, 1, 27, 3, 27], #[]⟩ : EvalVars ℚ) := by
  unfold Sat
  decide +kernel

/-- … and its output wire holds the power `exponentiation_semantics` names, `3 ^ (b₀·2^0 + b₁·2^1)` -/
example : (27 : ℚ) = 3 ^ (1 * 2 ^ 0 + 1 * 2 ^ 1) := by norm_num

/-- the boolean contract is NEEDED for `Props.C07.exponentiation_gen_sat`: with the non-boolean "bit" 2 the
generator (which only tests `bit = 1`) writes `intermediate_0 = prev_0 = 1`, `output = 1`, while
constraint 0 evaluates to `1·(2·3 + (1 − 2)) − 1 = 4 ≠ 0` -/
example : let v : EvalVars ℚ := ⟨#[], #[3, 2, 1, 1], #[]⟩
    (∀ i, i < 1 → v.wires[2 + 1 + i]! =
      if v.wires[1 + (1 - i - 1)]! = 1 then expPrev 1 v i * v.wires[0]! else expPrev 1 v i)
    ∧ v.wires[1 + 1]! = v.wires[2 + 1 + (1 - 1)]!
    ∧ con (.exponentiation 1) v 0 = 4 ∧ ¬ Sat (.exponentiation 1) v := by
  unfold Sat
  decide +kernel

end Examples
end P2.Lemmas.C07
