/-
C10 support: the association-list bookkeeping of `Air.firstBadLookup` / `CtlSpec.holds`
(`bump`, `bumpTuple`) computes, per key, the SUM of the weights bumped for that key.

All weights are elements of `GL = Fin GLP`: every `+`, `-`, `0` below is arithmetic modulo the
Goldilocks prime `p = GLP`, so "total weight 0" means "≡ 0 (mod p)", not "= 0 in ℤ".

Core Lean only (no Mathlib). The ring facts about `Fin GLP` come from `grind`'s built-in
commutative-ring instance for `Fin n`; nothing ever evaluates a number modulo `GLP`.
-/
import P2.Model.Air
namespace P2.Lemmas.StarkLookup
open P2 P2.Air

theorem gl_add_comm (a b : GL) : a + b = b + a := by grind
theorem gl_add_assoc (a b c : GL) : a + b + c = a + (b + c) := by grind
theorem gl_add_zero (a : GL) : a + 0 = a := Fin.add_zero a
theorem gl_zero_add (a : GL) : 0 + a = a := Fin.zero_add a
/-- `a − b ≡ 0` iff `a ≡ b` (mod p), in the shape the lookup bookkeeping produces it -/
theorem gl_add_neg_eq_zero (a b : GL) : a + (0 - b) = 0 ↔ a = b := by grind

theorem gl_add_right_comm (a b c : GL) : a + b + c = a + c + b := by
  rw [gl_add_assoc, gl_add_comm b c, ← gl_add_assoc]
theorem gl_neg_add (a b : GL) : (0 - a) + (0 - b) = 0 - (a + b) := by grind

def wsum (xs : List GL) : GL := xs.foldl (· + ·) 0

theorem foldl_add_init (xs : List GL) (a : GL) : xs.foldl (· + ·) a = a + xs.foldl (· + ·) 0 := by
  induction xs generalizing a with
  | nil => simp only [List.foldl_nil, gl_add_zero]
  | cons x xs ih =>
    simp only [List.foldl_cons]
    rw [ih (a + x), ih (0 + x), gl_zero_add, gl_add_assoc]

@[simp] theorem wsum_nil : wsum [] = 0 := rfl
theorem wsum_cons (x : GL) (xs : List GL) : wsum (x :: xs) = x + wsum xs := by
  simp only [wsum, List.foldl_cons]
  rw [foldl_add_init, gl_zero_add]

section
set_option linter.unusedSectionVars false
variable {κ : Type} [BEq κ] [LawfulBEq κ]

/-- `bump` / `bumpTuple` over an arbitrary key type -/
def bumpG (m : List (κ × GL)) (k : κ) (w : GL) : List (κ × GL) :=
  if m.any (fun p => p.1 == k) then m.map (fun p => if p.1 == k then (p.1, p.2 + w) else p)
  else (k, w) :: m

/-- total weight (in `GL`, i.e. mod p) carried by key `k` in a list of (key, weight) pairs; used
both for association lists and for raw event lists -/
def weight : List (κ × GL) → κ → GL
  | [], _ => 0
  | p :: m, k => (if p.1 == k then p.2 else 0) + weight m k

/-- the keys of the association list are pairwise distinct -/
def keysNodup (m : List (κ × GL)) : Prop := (m.map (·.1)).Nodup

@[simp] theorem weight_nil (k : κ) : weight ([] : List (κ × GL)) k = 0 := rfl
theorem weight_cons (p : κ × GL) (m : List (κ × GL)) (k : κ) :
    weight (p :: m) k = (if p.1 == k then p.2 else 0) + weight m k := rfl

theorem weight_eq_wsum (m : List (κ × GL)) (k : κ) :
    weight m k = wsum ((m.filter (·.1 == k)).map (·.2)) := by
  induction m with
  | nil => rfl
  | cons p m ih =>
    rw [weight_cons, ih]
    by_cases h : (p.1 == k) = true
    · simp only [h, if_true, List.filter_cons_of_pos, List.map_cons, wsum_cons]
    · simp only [h, Bool.false_eq_true, if_false, List.filter_cons_of_neg, not_false_eq_true,
        gl_zero_add]

theorem weight_eq_foldl (m : List (κ × GL)) (k : κ) :
    weight m k = (m.filter (·.1 == k)).foldl (· + ·.2) 0 := by
  rw [weight_eq_wsum, wsum, List.foldl_map]

theorem weight_append (m₁ m₂ : List (κ × GL)) (k : κ) :
    weight (m₁ ++ m₂) k = weight m₁ k + weight m₂ k := by
  induction m₁ with
  | nil => simp only [List.nil_append, weight_nil, gl_zero_add]
  | cons p m ih => simp only [List.cons_append, weight_cons, ih, gl_add_assoc]

theorem weight_eq_zero_of_not_any (m : List (κ × GL)) (k : κ)
    (h : m.any (fun p => p.1 == k) = false) : weight m k = 0 := by
  induction m with
  | nil => rfl
  | cons p m ih =>
    simp only [List.any_cons, Bool.or_eq_false_iff] at h
    simp only [weight_cons, h.1, Bool.false_eq_true, if_false, ih h.2, gl_add_zero]

theorem map_bump_of_not_any (m : List (κ × GL)) (k : κ) (w : GL)
    (h : m.any (fun p => p.1 == k) = false) :
    m.map (fun p => if p.1 == k then (p.1, p.2 + w) else p) = m := by
  induction m with
  | nil => rfl
  | cons p m ih =>
    simp only [List.any_cons, Bool.or_eq_false_iff] at h
    simp only [List.map_cons, h.1, Bool.false_eq_true, if_false, ih h.2]

theorem keysNodup_cons {p : κ × GL} {m : List (κ × GL)} :
    keysNodup (p :: m) ↔ m.any (fun q => q.1 == p.1) = false ∧ keysNodup m := by
  simp only [keysNodup, List.map_cons, List.nodup_cons, List.mem_map, List.any_eq_false,
    beq_iff_eq]
  constructor
  · rintro ⟨h1, h2⟩
    exact ⟨fun q hq he => h1 ⟨q, hq, he⟩, h2⟩
  · rintro ⟨h1, h2⟩
    exact ⟨fun ⟨q, hq, he⟩ => h1 q hq he, h2⟩

theorem map_bump_keys (m : List (κ × GL)) (k : κ) (w : GL) :
    (m.map (fun p => if p.1 == k then (p.1, p.2 + w) else p)).map (·.1) = m.map (·.1) := by
  induction m with
  | nil => rfl
  | cons p m ih =>
    simp only [List.map_cons, ih]
    by_cases h : (p.1 == k) = true
    · simp only [h, if_true]
    · simp only [h, Bool.false_eq_true, if_false]

/-- the weight after the `map` branch of `bump` -/
theorem weight_map_bump (m : List (κ × GL)) (k k' : κ) (w : GL) (hm : keysNodup m) :
    weight (m.map (fun p => if p.1 == k then (p.1, p.2 + w) else p)) k' =
      weight m k' + (if m.any (fun p => p.1 == k) && k == k' then w else 0) := by
  induction m with
  | nil => simp only [List.map_nil, weight_nil, List.any_nil, Bool.false_and, Bool.false_eq_true,
      if_false, gl_add_zero]
  | cons p m ih =>
    obtain ⟨hp, hm'⟩ := keysNodup_cons.1 hm
    by_cases h : (p.1 == k) = true
    · have hk : p.1 = k := eq_of_beq h
      subst hk
      simp only [List.map_cons, BEq.rfl, if_true, List.any_cons, Bool.true_or, Bool.true_and,
        weight_cons, map_bump_of_not_any m p.1 w hp]
      by_cases h2 : (p.1 == k') = true
      · simp only [h2, if_true]
        exact gl_add_right_comm _ _ _
      · simp only [h2, Bool.false_eq_true, if_false, gl_add_zero]
    · simp only [List.map_cons, h, Bool.false_eq_true, if_false, List.any_cons, Bool.false_or,
        weight_cons, ih hm', gl_add_assoc]

/-- `bump` adds `w` to the weight of `k` and leaves every other key alone. Needs distinct keys:
with a duplicated key the `map` branch would add `w` once per copy. -/
theorem weight_bump (m : List (κ × GL)) (k k' : κ) (w : GL) (hm : keysNodup m) :
    weight (bumpG m k w) k' = weight m k' + (if k' == k then w else 0) := by
  unfold bumpG
  by_cases h : m.any (fun p => p.1 == k) = true
  · rw [if_pos h, weight_map_bump m k k' w hm, h, Bool.true_and, BEq.comm]
  · rw [if_neg h, weight_cons, gl_add_comm, BEq.comm]

theorem bump_keys_nodup (m : List (κ × GL)) (k : κ) (w : GL) (hm : keysNodup m) :
    keysNodup (bumpG m k w) := by
  unfold bumpG
  by_cases h : m.any (fun p => p.1 == k) = true
  · rw [if_pos h]
    unfold keysNodup
    rw [map_bump_keys]
    exact hm
  · rw [if_neg h]
    exact keysNodup_cons.2 ⟨Bool.eq_false_iff.2 h, hm⟩

theorem weight_of_mem (m : List (κ × GL)) (hm : keysNodup m) (p : κ × GL) (hp : p ∈ m) :
    weight m p.1 = p.2 := by
  induction m with
  | nil => cases hp
  | cons q m ih =>
    obtain ⟨hq, hm'⟩ := keysNodup_cons.1 hm
    rcases List.mem_cons.1 hp with rfl | hp'
    · simp only [weight_cons, BEq.rfl, if_true, weight_eq_zero_of_not_any m p.1 hq, gl_add_zero]
    · have hne : (q.1 == p.1) = false := by
        rw [BEq.comm]
        exact Bool.eq_false_iff.2 (List.any_eq_false.1 hq p hp')
      simp only [weight_cons, hne, Bool.false_eq_true, if_false, ih hm' hp', gl_zero_add]

theorem weight_eq_zero_of_all (m : List (κ × GL)) (h : m.all (fun p => p.2 == 0) = true)
    (k : κ) : weight m k = 0 := by
  induction m with
  | nil => rfl
  | cons p m ih =>
    simp only [List.all_cons, Bool.and_eq_true, beq_iff_eq] at h
    rw [weight_cons, ih h.2, h.1]
    by_cases hb : (p.1 == k) = true
    · simp only [hb, if_true, gl_add_zero]
    · simp only [hb, Bool.false_eq_true, if_false, gl_add_zero]

/-- the final test of `firstBadLookup` / `holds` -/
theorem all_zero_iff (m : List (κ × GL)) (hm : keysNodup m) :
    m.all (fun p => p.2 == 0) = true ↔ ∀ k, weight m k = 0 := by
  constructor
  · exact weight_eq_zero_of_all m
  · intro h
    rw [List.all_eq_true]
    intro p hp
    rw [beq_iff_eq, ← weight_of_mem m hm p hp]
    exact h p.1

theorem foldl_bump_keys_nodup (es : List (κ × GL)) (m0 : List (κ × GL)) (hm : keysNodup m0) :
    keysNodup (es.foldl (fun m e => bumpG m e.1 e.2) m0) := by
  induction es generalizing m0 with
  | nil => exact hm
  | cons e es ih => exact ih _ (bump_keys_nodup m0 e.1 e.2 hm)

/-- bumping a whole event list: the weight of `k` grows by the sum (mod p) of the weights of the
events with key `k` -/
theorem weight_foldl_bump (es : List (κ × GL)) (m0 : List (κ × GL)) (hm : keysNodup m0) (k : κ) :
    weight (es.foldl (fun m e => bumpG m e.1 e.2) m0) k = weight m0 k + weight es k := by
  induction es generalizing m0 with
  | nil => simp only [List.foldl_nil, weight_nil, gl_add_zero]
  | cons e es ih =>
    rw [List.foldl_cons, ih _ (bump_keys_nodup m0 e.1 e.2 hm), weight_bump m0 e.1 k e.2 hm,
      weight_cons, gl_add_assoc, BEq.comm]

theorem weight_foldl_bump' (es : List (κ × GL)) (m0 : List (κ × GL)) (hm : keysNodup m0) (k : κ) :
    weight (es.foldl (fun m e => bumpG m e.1 e.2) m0) k =
      weight m0 k + (es.filter (·.1 == k)).foldl (· + ·.2) 0 := by
  rw [weight_foldl_bump es m0 hm k, weight_eq_foldl es k]

theorem keysNodup_nil : keysNodup ([] : List (κ × GL)) := List.nodup_nil

/-- what the whole bookkeeping decides: starting from the empty list, "all stored weights are 0"
iff every key has event-weight sum 0 (mod p) -/
theorem bumpAll_all_zero_iff (es : List (κ × GL)) :
    (es.foldl (fun m e => bumpG m e.1 e.2) []).all (fun p => p.2 == 0) = true ↔
      ∀ k, weight es k = 0 := by
  have h := all_zero_iff _ (foldl_bump_keys_nodup es [] keysNodup_nil)
  simp only [weight_foldl_bump es [] keysNodup_nil, weight_nil, gl_zero_add] at h
  exact h

theorem weight_flatMap_append {ι : Type} (f g : ι → List (κ × GL)) (rs : List ι) (k : κ) :
    weight (rs.flatMap fun r => f r ++ g r) k =
      weight (rs.flatMap f) k + weight (rs.flatMap g) k := by
  induction rs with
  | nil => simp only [List.flatMap_nil, weight_nil, gl_add_zero]
  | cons r rs ih =>
    simp only [List.flatMap_cons, weight_append, ih]
    rw [gl_add_assoc, ← gl_add_assoc (weight (g r) k), gl_add_comm (weight (g r) k), gl_add_assoc,
      ← gl_add_assoc]

theorem weight_map_neg (m : List (κ × GL)) (k : κ) :
    weight (m.map fun p => (p.1, 0 - p.2)) k = 0 - weight m k := by
  induction m with
  | nil => exact (gl_add_neg_eq_zero 0 0).2 rfl |>.symm.trans (gl_zero_add _)
  | cons p m ih =>
    simp only [List.map_cons, weight_cons, ih]
    by_cases hb : (p.1 == k) = true
    · simp only [hb, if_true]
      exact gl_neg_add _ _
    · simp only [hb, Bool.false_eq_true, if_false, gl_zero_add]

theorem weight_map_eq_wsum {ι : Type} (g : ι → κ × GL) (xs : List ι) (k : κ) :
    weight (xs.map g) k = wsum (xs.map fun x => if (g x).1 == k then (g x).2 else 0) := by
  induction xs with
  | nil => rfl
  | cons x xs ih => simp only [List.map_cons, weight_cons, wsum_cons, ih]

theorem weight_flatMap_eq_wsum {ι : Type} (f : ι → List (κ × GL)) (rs : List ι) (k : κ) :
    weight (rs.flatMap f) k = wsum (rs.map fun r => weight (f r) k) := by
  induction rs with
  | nil => rfl
  | cons r rs ih => simp only [List.flatMap_cons, List.map_cons, weight_append, wsum_cons, ih]

end

theorem bump_eq (m : List (GL × GL)) (k w : GL) : bump m k w = bumpG m k w := rfl
theorem bumpTuple_eq (m : List (List GL × GL)) (k : List GL) (w : GL) :
    bumpTuple m k w = bumpG m k w := rfl

end P2.Lemmas.StarkLookup
