/-
C16: the first-wins maps of `FriProof::compress` as association lists: `insertFirstWins`
(`entry(k).or_insert(v)`), `sortByKey` (canonical order of the dump) and `lookupKey` (`map[&k]`).
-/
import P2.Model.Decompress
import P2.Lemmas.PathCompression
import Batteries.Tactic.OpenPrivate
open private Array.qsort.sort Array.qpartition.loop in Array.qsort Array.qpartition
namespace P2.Lemmas.C16
open P2 P2.Compress P2.Decompress

variable {α : Type}

def keys (m : List (Nat × α)) : List Nat := m.map (·.1)

theorem lookupKey_nil (k : Nat) : lookupKey ([] : List (Nat × α)) k = none := rfl

theorem lookupKey_cons (a : Nat × α) (m : List (Nat × α)) (k : Nat) :
    lookupKey (a :: m) k = if a.1 = k then some a.2 else lookupKey m k := by
  unfold lookupKey
  rw [List.find?_cons]
  by_cases h : a.1 = k
  · simp [h]
  · have : (a.1 == k) = false := by simpa using h
    simp [this, h]

/-- `lookupKey` has the same body as `PathCompression.lookup`, so the lemmas about `lookup` apply to
it as they stand -/
theorem lookupKey_eq_none_iff (m : List (Nat × α)) (k : Nat) :
    lookupKey m k = none ↔ k ∉ keys m :=
  P2.Lemmas.PathCompression.lookup_eq_none_iff m k

theorem mem_of_lookupKey {m : List (Nat × α)} {k : Nat} {v : α} (h : lookupKey m k = some v) :
    (k, v) ∈ m :=
  P2.Lemmas.PathCompression.mem_of_lookup_eq_some h

theorem mem_keys_lookup {m : List (Nat × α)} {k : Nat} (h : k ∈ keys m) :
    ∃ v, lookupKey m k = some v :=
  Option.ne_none_iff_exists'.1 (mt (lookupKey_eq_none_iff m k).1 (not_not_intro h))

theorem lookupKey_append (m m' : List (Nat × α)) (k : Nat) :
    lookupKey (m ++ m') k = (lookupKey m k).or (lookupKey m' k) := by
  induction m with
  | nil => cases h : lookupKey m' k <;> simp [lookupKey_nil, h]
  | cons a m ih =>
    rw [List.cons_append, lookupKey_cons, lookupKey_cons]
    split <;> simp [ih]

theorem any_key_iff (m : List (Nat × α)) (k : Nat) :
    (m.any (·.1 == k)) = true ↔ k ∈ keys m := by
  simp only [List.any_eq_true, beq_iff_eq, keys, List.mem_map]

/-- `entry(k).or_insert(v)`: an existing binding is kept -/
theorem lookupKey_insertFirstWins (m : List (Nat × α)) (k : Nat) (v : α) (k' : Nat) :
    lookupKey (insertFirstWins m k v) k' =
      (lookupKey m k').or (if k = k' then some v else none) := by
  unfold insertFirstWins
  split
  · rename_i h
    by_cases e : k = k'
    · subst e
      obtain ⟨v', hv'⟩ := mem_keys_lookup ((any_key_iff m k).1 h)
      rw [hv', if_pos rfl]; rfl
    · rw [if_neg e, Option.or_none]
  · rw [lookupKey_append, lookupKey_cons]; rfl

theorem keys_insertFirstWins (m : List (Nat × α)) (k : Nat) (v : α) :
    keys (insertFirstWins m k v) = if k ∈ keys m then keys m else keys m ++ [k] := by
  unfold insertFirstWins
  by_cases h : (m.any (·.1 == k)) = true
  · rw [if_pos h, if_pos ((any_key_iff m k).1 h)]
  · rw [if_neg h, if_neg (fun h' => h ((any_key_iff m k).2 h'))]
    simp [keys]

theorem nodup_keys_insertFirstWins (m : List (Nat × α)) (k : Nat) (v : α)
    (h : (keys m).Nodup) : (keys (insertFirstWins m k v)).Nodup := by
  rw [keys_insertFirstWins]
  split
  · exact h
  · rename_i hk
    rw [List.nodup_append]
    exact ⟨h, by simp, by intro a ha b hb; simp at hb; subst hb; exact fun e => hk (e ▸ ha)⟩

/-- the map built by a sequence of `entry(k).or_insert(v)` -/
def foldIns (m : List (Nat × α)) (kvs : List (Nat × α)) : List (Nat × α) :=
  kvs.foldl (fun m kv => insertFirstWins m kv.1 kv.2) m

/-- lookup after the fold: the existing binding, else the entry of the FIRST pair with
that key -/
theorem lookupKey_foldIns (kvs : List (Nat × α)) : ∀ (m : List (Nat × α)) (k : Nat),
    lookupKey (foldIns m kvs) k = (lookupKey m k).or (lookupKey kvs k) := by
  induction kvs with
  | nil => intro m k; simp [foldIns, lookupKey_nil]
  | cons kv kvs ih =>
    intro m k
    show lookupKey (foldIns (insertFirstWins m kv.1 kv.2) kvs) k = _
    rw [ih, lookupKey_insertFirstWins, lookupKey_cons]
    cases lookupKey m k <;> by_cases e : kv.1 = k <;> simp [e]

theorem nodup_keys_foldIns (kvs : List (Nat × α)) : ∀ (m : List (Nat × α)),
    (keys m).Nodup → (keys (foldIns m kvs)).Nodup := by
  induction kvs with
  | nil => intro m h; exact h
  | cons kv kvs ih =>
    intro m h
    exact ih _ (nodup_keys_insertFirstWins m kv.1 kv.2 h)

theorem lookupKey_of_mem {m : List (Nat × α)} (hn : (keys m).Nodup) {k : Nat} {v : α}
    (h : (k, v) ∈ m) : lookupKey m k = some v := by
  induction m with
  | nil => simp at h
  | cons a m ih =>
    rw [lookupKey_cons]
    simp only [keys, List.map_cons, List.nodup_cons] at hn
    rcases List.mem_cons.1 h with e | h'
    · subst e; simp
    · have hne : a.1 ≠ k := by
        intro e
        apply hn.1
        rw [e]
        exact List.mem_map.2 ⟨(k, v), h', rfl⟩
      rw [if_neg hne]
      exact ih hn.2 h'

/-- lookups in maps with distinct keys only depend on the set of bindings -/
theorem lookupKey_perm {m m' : List (Nat × α)} (hp : m.Perm m') (hn : (keys m).Nodup) (k : Nat) :
    lookupKey m' k = lookupKey m k := by
  have hn' : (keys m').Nodup := (hp.map (fun x : Nat × α => x.1)).nodup_iff.1 hn
  cases h : lookupKey m k with
  | some v => exact lookupKey_of_mem hn' (hp.mem_iff.1 (mem_of_lookupKey h))
  | none =>
    rw [lookupKey_eq_none_iff] at h ⊢
    intro hk
    exact h ((hp.map (fun x : Nat × α => x.1)).mem_iff.2 hk)

theorem qpartition_loop_perm {n : Nat} (lt : α → α → Bool) (lo hi : Nat) (hhi : hi < n) (pivot : α)
    (as : Vector α n) (i k : Nat) (ilo : lo ≤ i) (ik : i ≤ k) (w : k ≤ hi) :
    (Array.qpartition.loop lt lo hi hhi pivot as i k ilo ik w).2.Perm as := by
  fun_induction Array.qpartition.loop lt lo hi hhi pivot as i k ilo ik w with
  | case1 as i k ilo ik w h hlt ih =>
    exact ih.trans (Vector.swap_perm (by omega) (by omega))
  | case2 as i k ilo ik w h hlt ih => exact ih
  | case3 as i k ilo ik w h => exact Vector.swap_perm (by omega) (by omega)

theorem qpartition_perm {n : Nat} (as : Vector α n) (lt : α → α → Bool) (lo hi : Nat) (w : lo ≤ hi)
    (hlo : lo < n) (hhi : hi < n) : (Array.qpartition as lt lo hi w hlo hhi).2.Perm as := by
  unfold Array.qpartition
  simp only []
  refine (qpartition_loop_perm lt lo hi hhi _ _ lo lo _ _ _).trans ?_
  have hmid : (lo + hi) / 2 < n := by omega
  have s1 : ∀ (v : Vector α n) (c : Prop) [Decidable c] (a b : Nat) (ha : a < n) (hb : b < n),
      (if c then v.swap a b else v).Perm v := by
    intro v c _ a b ha hb
    split
    · exact Vector.swap_perm ha hb
    · exact Vector.Perm.refl _
  refine (s1 _ _ _ _ hmid hhi).trans ?_
  refine (s1 _ _ _ _ hlo hhi).trans ?_
  exact s1 _ _ _ _ hlo hmid

theorem qsort_sort_perm {n : Nat} (lt : α → α → Bool) (as : Vector α n) (lo hi : Nat) (w : lo ≤ hi)
    (hlo : lo < n) (hhi : hi < n) : (Array.qsort.sort lt as lo hi w hlo hhi).Perm as := by
  fun_induction Array.qsort.sort lt as lo hi w hlo hhi with
  | case1 as lo hi w hlo hhi h₁ mid hmid as' heq h₂ =>
    have := qpartition_perm as lt lo hi w hlo hhi
    rw [heq] at this
    exact this
  | case2 as lo hi w hlo hhi h₁ mid hmid as' heq h₂ ih0 ih1 ih2 =>
    have := qpartition_perm as lt lo hi w hlo hhi
    rw [heq] at this
    exact (ih2.trans ih1).trans this
  | case3 as lo hi w hlo hhi h₁ => exact Vector.Perm.refl _

theorem qsort_perm (as : Array α) (lt : α → α → Bool) : (as.qsort lt).Perm as := by
  unfold Array.qsort
  split
  · exact Array.Perm.refl _
  · simp only []
    have := qsort_sort_perm lt as.toVector (min 0 (as.size - 1))
      (max (min 0 (as.size - 1)) (min (as.size - 1) (as.size - 1))) (by omega) (by omega) (by omega)
    exact Vector.Perm.toArray this

theorem sortByKey_perm (m : List (Nat × α)) : (sortByKey m).Perm m := by
  unfold sortByKey
  have := qsort_perm m.toArray (fun a b => decide (a.1 < b.1))
  have h2 := Array.Perm.toList this
  simpa using h2

/-- sorting by key preserves lookups when the keys are distinct -/
theorem lookupKey_sortByKey (m : List (Nat × α)) (hn : (keys m).Nodup) (k : Nat) :
    lookupKey (sortByKey m) k = lookupKey m k :=
  lookupKey_perm (sortByKey_perm m).symm hn k

/-- the maps of `compress`: lookup in the sorted first-wins map built from `kvs` returns
the value of the FIRST pair with that key -/
theorem lookupKey_sorted_foldIns (kvs : List (Nat × α)) (k : Nat) :
    lookupKey (sortByKey (foldIns [] kvs)) k = lookupKey kvs k := by
  rw [lookupKey_sortByKey _ (nodup_keys_foldIns kvs [] (by simp [keys])), lookupKey_foldIns]
  simp [lookupKey_nil]

/-! Lookups in maps built from an enumerated list (`iter().enumerate()` over the query rounds). -/

theorem keys_zipIdx_map {γ α : Type} (key : γ → Nat) (val : γ → Nat → α) (l : List γ) (s : Nat) :
    keys ((l.zipIdx s).map fun ai => (key ai.1, val ai.1 ai.2)) = l.map key := by
  rw [keys, List.map_map]
  show (l.zipIdx s).map (key ∘ Prod.fst) = _
  rw [← List.map_map, List.zipIdx_map_fst]

theorem lookupKey_zipIdx_none {γ α : Type} (key : γ → Nat) (val : γ → Nat → α) (c : Nat)
    (l : List γ) (s : Nat) (h : ∀ a ∈ l, key a ≠ c) :
    lookupKey ((l.zipIdx s).map fun ai => (key ai.1, val ai.1 ai.2)) c = none := by
  rw [lookupKey_eq_none_iff, keys_zipIdx_map, List.mem_map]
  exact fun ⟨a, ha, e⟩ => h a ha e

theorem lookupKey_zipIdx_some {γ α : Type} (key : γ → Nat) (val : γ → Nat → α) (c : Nat)
    (l : List γ) (s : Nat) (h : ∃ a ∈ l, key a = c) :
    ∃ e, lookupKey ((l.zipIdx s).map fun ai => (key ai.1, val ai.1 ai.2)) c = some e :=
  mem_keys_lookup (by rw [keys_zipIdx_map]; exact List.mem_map.2 h)

theorem lookupKey_zipIdx_first {γ α : Type} (key : γ → Nat) (val : γ → Nat → α) (c : Nat)
    (pre : List γ) (a : γ) (suf : List γ) (hpre : ∀ b ∈ pre, key b ≠ c) (ha : key a = c) :
    lookupKey (((pre ++ a :: suf).zipIdx).map fun ai => (key ai.1, val ai.1 ai.2)) c
      = some (val a pre.length) := by
  rw [List.zipIdx_append, List.map_append, lookupKey_append,
    lookupKey_zipIdx_none key val c pre 0 hpre, List.zipIdx_cons, List.map_cons, lookupKey_cons]
  simp [ha]

theorem mem_of_lookupKey_zipIdx {γ α : Type} (key : γ → Nat) (val : γ → Nat → α) (c : Nat)
    (l : List γ) (e : α)
    (h : lookupKey ((l.zipIdx).map fun ai => (key ai.1, val ai.1 ai.2)) c = some e) :
    ∃ a ∈ l, ∃ i, key a = c ∧ e = val a i := by
  have := mem_of_lookupKey h
  obtain ⟨⟨a, i⟩, hai, heq⟩ := List.mem_map.1 this
  simp only [Prod.mk.injEq] at heq
  exact ⟨a, List.fst_mem_of_mem_zipIdx hai, i, heq.1, heq.2.symm⟩

/-- first-wins at a position whose key has not occurred before -/
theorem lookupKey_zipIdx_at {γ α : Type} (key : γ → Nat) (val : γ → Nat → α) (l : List γ) (a : Nat)
    (ha : a < l.length) (hnew : (l.map key)[a]'(by simpa using ha) ∉ (l.map key).take a) :
    lookupKey ((l.zipIdx).map fun ai => (key ai.1, val ai.1 ai.2)) (key l[a]) = some (val l[a] a) := by
  have hsplit : l = l.take a ++ l[a] :: l.drop (a + 1) := by
    rw [List.getElem_cons_drop, List.take_append_drop]
  have hlen : (l.take a).length = a := by simp; omega
  have := lookupKey_zipIdx_first key val (key l[a]) (l.take a) l[a] (l.drop (a + 1)) (by
    intro b hb heq
    apply hnew
    simp only [List.getElem_map, ← List.map_take]
    exact List.mem_map.2 ⟨b, hb, heq⟩) rfl
  rw [← hsplit, hlen] at this
  exact this

end P2.Lemmas.C16
