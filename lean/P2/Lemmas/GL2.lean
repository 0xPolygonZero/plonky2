/-
Correctness of `extAddProds` (`ext{2,4,5}_add_prods`), the delayed-reduction extension multiplication on a
`u128 + u32` accumulator: the accumulator never wraps and the final `reduce160` is within its range, for
every degree up to `2^29`.  Core Lean only.
-/
import P2.Lemmas.GL0

namespace P2.L0
open Lit

theorem oadd128_spec {a b : Nat} (h : a + b < 2 * W128l) :
    (oadd128 a b).1 < W128l ∧
      (oadd128 a b).1 + W128l * (if (oadd128 a b).2 = true then 1 else 0) = a + b := by
  show (a + b) % W128l < W128l ∧
    (a + b) % W128l + W128l * (if decide (W128l ≤ a + b) = true then 1 else 0) = a + b
  by_cases hc : W128l ≤ a + b
  · rw [decide_eq_true hc, if_pos rfl]
    lia
  · rw [decide_eq_false hc, if_neg Bool.false_ne_true]
    lia

theorem osub128_spec {a b : Nat} (ha : a < W128l) (hb : b < W128l) :
    (osub128 a b).1 < W128l ∧
      (osub128 a b).1 + b = a + W128l * (if (osub128 a b).2 = true then 1 else 0) := by
  unfold osub128
  split
  · rw [if_neg Bool.false_ne_true]
    lia
  · rw [if_pos rfl]
    show a + W128l - b < _ ∧ a + W128l - b + b = _
    lia

/-- shifting left by `m = 2^k` inside a word of `m * n`: what stays and what falls out -/
theorem shl_split (x m n : Nat) : x * m % (m * n) + m * n * (x / n) = x * m := by
  rw [Nat.mul_comm x m, Nat.mul_mod_mul_left, Nat.mul_assoc, ← Nat.mul_add, Nat.mod_add_div]

/-- the accumulator holds the number `v` itself, not a residue -/
def AccGood (c : Acc) (v : Nat) : Prop :=
  c.trap = false ∧ c.lo < W128l ∧ c.hi < W32l ∧ c.lo + c.hi * W128l = v

theorem Acc.zero_good : AccGood ⟨0, 0, false⟩ 0 := ⟨rfl, by decide, by decide, rfl⟩

/-- a low word `lo` and an unreduced high word `h` that together hold `v < 2^160`: `h` fits `u32`,
so reducing it changes nothing and the overflow flag stays down -/
theorem AccGood.mk {lo h v : Nat} (hlo : lo < W128l) (hv : lo + h * W128l = v) (hb : v < W160l) :
    AccGood ⟨lo, h % W32l, decide (W32l ≤ h)⟩ v := by
  have hh : h < W32l := by lia
  exact ⟨decide_eq_false (Nat.not_le_of_lt hh), hlo, Nat.mod_lt _ (by decide),
    by rw [Nat.mod_eq_of_lt hh]; exact hv⟩

theorem Acc.add_spec {c : Acc} {v : Nat} (p : Nat) (h : AccGood c v) (hp : p < W128l)
    (hb : v + p < W160l) : AccGood (c.add p) (v + p) := by
  obtain ⟨lo, hi, t⟩ := c
  obtain ⟨h1, h2, h3, h4⟩ := h
  dsimp only at h1 h2 h3 h4
  subst h1
  obtain ⟨s1, s2⟩ := oadd128_spec (a := lo) (b := p) (by lia)
  refine AccGood.mk (lo := (oadd128 lo p).1)
    (h := hi + if (oadd128 lo p).2 = true then 1 else 0) s1 ?_ hb
  lia

theorem Acc.times3_spec {c : Acc} {v : Nat} (h : AccGood c v) (hb : 3 * v < W160l) :
    AccGood c.times3 (3 * v) := by
  obtain ⟨lo, hi, t⟩ := c
  obtain ⟨h1, h2, h3, h4⟩ := h
  dsimp only at h1 h2 h3 h4
  subst h1
  -- `lo << 1` and the bit shifted out
  have e : lo * 2 % W128l + W128l * (lo / 170141183460469231731687303715884105728) = lo * 2 :=
    shl_split lo 2 170141183460469231731687303715884105728
  have hr : lo * 2 % W128l < W128l := Nat.mod_lt _ (by decide)
  obtain ⟨s1, s2⟩ := oadd128_spec (a := lo) (b := lo * 2 % W128l) (by lia)
  refine AccGood.mk (lo := (oadd128 lo (lo * 2 % W128l)).1)
    (h := 3 * hi + lo / 170141183460469231731687303715884105728 +
      if (oadd128 lo (lo * 2 % W128l)).2 = true then 1 else 0) s1 ?_ hb
  lia

theorem Acc.times7_spec {c : Acc} {v : Nat} (h : AccGood c v) (hb : 8 * v < W160l) :
    AccGood c.times7 (7 * v) := by
  obtain ⟨lo, hi, t⟩ := c
  obtain ⟨h1, h2, h3, h4⟩ := h
  dsimp only at h1 h2 h3 h4
  subst h1
  -- `lo << 3` and the bits shifted out
  have e : lo * 8 % W128l + W128l * (lo / 42535295865117307932921825928971026432) = lo * 8 :=
    shl_split lo 8 42535295865117307932921825928971026432
  obtain ⟨s1, s2⟩ := osub128_spec (Nat.mod_lt (lo * 8) (by decide)) h2
  show AccGood ⟨(osub128 (lo * 8 % W128l) lo).1,
    (7 * hi + lo / 42535295865117307932921825928971026432 + W32l -
      if (osub128 (lo * 8 % W128l) lo).2 = true then 1 else 0) % W32l,
    decide (W32l ≤ 7 * hi + lo / 42535295865117307932921825928971026432) ||
      decide (7 * hi + lo / 42535295865117307932921825928971026432 <
        if (osub128 (lo * 8 % W128l) lo).2 = true then 1 else 0)⟩ (7 * v)
  generalize (if (osub128 (lo * 8 % W128l) lo).2 = true then 1 else 0) = br at s2 ⊢
  generalize (osub128 (lo * 8 % W128l) lo).1 = d at s1 s2 ⊢
  generalize lo * 8 % W128l = r at e s2
  generalize lo / 42535295865117307932921825928971026432 = q at e ⊢
  have hh : 7 * hi + q < W32l := by lia
  have hbr : br ≤ 7 * hi + q := by lia
  rw [Nat.sub_add_comm hbr, Nat.add_mod_right,
    Nat.mod_eq_of_lt (Nat.lt_of_le_of_lt (Nat.sub_le _ _) hh), decide_eq_false (Nat.not_le_of_lt hh),
    decide_eq_false (Nat.not_lt_of_le hbr)]
  exact ⟨rfl, s1, Nat.lt_of_le_of_lt (Nat.sub_le _ _) hh,
    show d + (7 * hi + q - br) * W128l = 7 * v by lia⟩

theorem Acc.timesW_spec {c : Acc} {v w : Nat} (hw : w = 3 ∨ w = 7) (h : AccGood c v)
    (hb : 8 * v < W160l) : AccGood (c.timesW w) (w * v) := by
  rcases hw with rfl | rfl
  · exact Acc.times3_spec h (by lia)
  · exact Acc.times7_spec h hb

/-- final `reduce160` of `ext*_add_prods` -/
def finish (acc : Acc) : Res :=
  ⟨(reduce160 acc.lo acc.hi).val, (reduce160 acc.lo acc.hi).trap || acc.trap⟩

theorem finish_good {c : Acc} {v : Nat} (h : AccGood c v)
    (hv : v < 1461501636990620551361974531767172749817708281856) : Good (finish c) v := by
  obtain ⟨h1, h2, h3, h4⟩ := h
  subst h4
  obtain ⟨r1, r2, r3⟩ := reduce160_good c.lo c.hi h2 h3 hv
  refine ⟨?_, r2, r3⟩
  show ((reduce160 c.lo c.hi).trap || c.trap) = false
  rw [r1, h1]
  rfl

/-- sum of a list, nested to the left and without a leading `0 +`, so that on a literal list it
unfolds to the sum as one writes it -/
def lsum : List Nat → Nat
  | [] => 0
  | x :: xs => xs.foldl (· + ·) x

theorem foldl_add_comm (l : List Nat) (u v : Nat) :
    l.foldl (· + ·) (u + v) = l.foldl (· + ·) u + v := by
  induction l generalizing u with
  | nil => rfl
  | cons x l ih => rw [List.foldl_cons, List.foldl_cons, Nat.add_right_comm, ih]

theorem foldl_add_eq_lsum (l : List Nat) (v : Nat) : l.foldl (· + ·) v = lsum l + v := by
  cases l with
  | nil => exact (Nat.zero_add v).symm
  | cons x l => rw [List.foldl_cons, Nat.add_comm v x, foldl_add_comm, lsum]

/-- adding up a list of products: no wrap as long as the bound on the total stays below `2^160` -/
theorem Acc.foldl_add_spec (l : List Nat) : ∀ {c : Acc} {v : Nat}, AccGood c v →
    (∀ p ∈ l, p ≤ Ml) → v + l.length * Ml < W160l →
    AccGood (l.foldl Acc.add c) (l.foldl (· + ·) v) ∧ l.foldl (· + ·) v ≤ v + l.length * Ml := by
  induction l with
  | nil => exact fun h _ _ => ⟨h, Nat.le_add_right _ _⟩
  | cons p l ih =>
    intro c v h hm hb
    have hp := hm p List.mem_cons_self
    rw [List.length_cons] at hb
    obtain ⟨g, hg⟩ := ih (Acc.add_spec p h (by lia) (by lia))
      (fun q hq => hm q (List.mem_cons_of_mem _ hq)) (by lia)
    exact ⟨g, by rw [List.foldl_cons, List.length_cons]; lia⟩

/-- The invariant behind `ext*_add_prods`: `wrapped` and `direct` are lists of products of two
limbs, at most `2^29` in all; the accumulator holds their exact sums throughout, so the one
`reduce160` at the end gives `Σ direct + w * Σ wrapped` modulo `P`. -/
theorem addProds_good {w : Nat} (hw : w = 3 ∨ w = 7) (wrapped direct : List Nat)
    (h1 : ∀ p ∈ wrapped, p ≤ Ml) (h2 : ∀ p ∈ direct, p ≤ Ml)
    (hn : wrapped.length + direct.length ≤ 536870912) :
    Good (finish (direct.foldl Acc.add
        (if wrapped.isEmpty then wrapped.foldl Acc.add ⟨0, 0, false⟩
         else (wrapped.foldl Acc.add ⟨0, 0, false⟩).timesW w)))
      (lsum direct + w * lsum wrapped) := by
  obtain ⟨g0, b0⟩ := Acc.foldl_add_spec wrapped Acc.zero_good h1 (by lia)
  rw [foldl_add_eq_lsum, Nat.add_zero] at g0 b0
  have g1 : AccGood (if wrapped.isEmpty then wrapped.foldl Acc.add ⟨0, 0, false⟩
      else (wrapped.foldl Acc.add ⟨0, 0, false⟩).timesW w) (w * lsum wrapped) := by
    cases wrapped with
    | nil => exact Nat.mul_zero w ▸ Acc.zero_good
    | cons p l => exact Acc.timesW_spec hw g0 (by lia)
  have hw7 : w * lsum wrapped ≤ 7 * lsum wrapped := Nat.mul_le_mul_right _ (by lia)
  obtain ⟨g2, b2⟩ := Acc.foldl_add_spec direct g1 h2 (by lia)
  rw [foldl_add_eq_lsum] at g2 b2
  exact finish_good g2 (by lia)

theorem getElem!_lt {a : Array Nat} (h : ∀ x ∈ a, x < Wl) (i : Nat) : a[i]! < Wl := by
  by_cases hi : i < a.size
  · rw [getElem!_pos a i hi]
    exact h _ (Array.getElem_mem hi)
  · rw [getElem!_neg a i hi]
    decide

theorem mem_lt_of_getElem! {a : Array Nat} {d : Nat} (hs : a.size = d)
    (h : ∀ i, i < d → a[i]! < Wl) : ∀ x ∈ a, x < Wl := by
  intro x hx
  obtain ⟨i, hi, rfl⟩ := Array.mem_iff_getElem.1 hx
  rw [← getElem!_pos a i hi]
  exact h i (hs ▸ hi)

/-- coefficient `k` of the product of two degree-`d` operands with `u64` limbs -/
theorem extAddProds_good (d w k : Nat) (a b : Array Nat) (hw : w = 3 ∨ w = 7) (hk : k < d)
    (hd : d ≤ 536870912) (ha : ∀ x ∈ a, x < Wl) (hb : ∀ x ∈ b, x < Wl) :
    Good (extAddProds d w k a b)
      (lsum ((List.range (k + 1)).map fun i => a[i]! * b[k - i]!) +
        w * lsum ((List.range (d - 1 - k)).map fun t => a[k + 1 + t]! * b[d - 1 - t]!)) := by
  refine addProds_good hw _ _ (fun p hp => ?_) (fun p hp => ?_) ?_
  · obtain ⟨t, _, rfl⟩ := List.mem_map.1 hp
    exact mul_le_Ml (getElem!_lt ha _) (getElem!_lt hb _)
  · obtain ⟨i, _, rfl⟩ := List.mem_map.1 hp
    exact mul_le_Ml (getElem!_lt ha _) (getElem!_lt hb _)
  · rw [List.length_map, List.length_map, List.length_range, List.length_range]
    lia

end P2.L0
