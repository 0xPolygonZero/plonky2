/-
C07, `RandomAccessGate` (`GateKind.randomAccess bits copies extra`): closed forms of the constraints,
correctness of the mux tree, satisfaction as explicit equations (`randomAccess_sat_iff_eqs`) and what
they say when the bit wires are binary digits (`ra_copy_of_digits`), the wire layout, what a
replacement of the claimed element or of a bit wire leaves unchanged (`ra_claimed_frame`,
`ra_bit_frame`), the index constraint as an affine function of a bit wire with coefficient `2^i`
(`randomAccess_index_shift`; the rows of the characteristic-2 counterexample), and the model's
generator over `P2.GL` (`raGen_invariant`).
-/
import P2.Lemmas.C07BaseSum
import Mathlib.Data.ZMod.Basic
set_option linter.unusedSectionVars false
namespace P2.Lemmas.C07
open P2 P2.Gates
section
variable {K : Type} [Field K] [DecidableEq K] [Inhabited K]

/-! ## the pair fold and the mux tree -/

/-- `raFoldPairs` with the operations of the field `K` -/
def raFold (b : K) (l : List K) : List K := @raFoldPairs K (FOps.ofField K) b l

theorem raFold_cons_cons (b x y : K) (rest : List K) :
    raFold b (x :: y :: rest) = (x + b * (y - x)) :: raFold b rest := rfl
theorem raFold_nil (b : K) : raFold b [] = [] := rfl
theorem raFold_single (b x : K) : raFold b [x] = [] := rfl

theorem raFold_length (b : K) : ∀ (l : List K), (raFold b l).length = l.length / 2
  | [] => (Nat.zero_div 2).symm
  | [x] => (Nat.div_eq_of_lt Nat.one_lt_two).symm
  | x :: y :: rest => by
    rw [raFold_cons_cons, List.length_cons, raFold_length b rest, List.length_cons, List.length_cons,
      Nat.add_div_right _ Nat.two_pos]

/-- entry `j` of the folded list is the `b`-mux of entries `2j`, `2j+1` -/
theorem raFold_getD (b d : K) : ∀ (l : List K) (j : Nat), 2 * j + 1 < l.length →
    (raFold b l).getD j d = l.getD (2 * j) d + b * (l.getD (2 * j + 1) d - l.getD (2 * j) d)
  | [], j, h => absurd h (Nat.not_lt_zero _)
  | [_], j, h => absurd h (by rw [List.length_singleton]; omega)
  | x :: y :: rest, 0, _ => rfl
  | x :: y :: rest, j + 1, h =>
    raFold_getD b d rest j (by rw [List.length_cons, List.length_cons] at h; omega)

/-- the mux tree of `RandomAccessGate`: fold the list once per bit, lowest bit first, and take the
head (`default` when the list is empty) -/
def raMux (d : K) (bs items : List K) : K :=
  (bs.foldl (fun items b => raFold b items) items).headD d

theorem raMux_nil (d : K) (items : List K) : raMux d [] items = items.headD d := rfl
theorem raMux_cons (d b : K) (bs items : List K) :
    raMux d (b :: bs) items = raMux d bs (raFold b items) := rfl

/-- with the binary digits of `k < 2^n` as selector bits, the mux tree over a list of length `2^n`
returns item `k` -/
theorem raMux_digits (d : K) : ∀ (n : Nat) (f : Nat → K) (items : List K) (k : Nat),
    items.length = 2 ^ n → k < 2 ^ n → (∀ i, i < n → f i = ((k / 2 ^ i % 2 : ℕ) : K)) →
    raMux d ((List.range n).map f) items = items.getD k d
  | 0, _, items, k, hl, hk, _ => by
    obtain rfl : k = 0 := Nat.lt_one_iff.1 hk
    match items, hl with
    | [x], _ => rfl
  | n + 1, f, items, k, hl, hk, hf => by
    rw [pow_succ'] at hl hk
    -- the lowest digit halves the list, the remaining digits are those of `k / 2`
    rw [List.range_succ_eq_map, List.map_cons, List.map_map, raMux_cons,
      raMux_digits d n (f ∘ Nat.succ) _ (k / 2)
        (by rw [raFold_length, hl, Nat.mul_div_cancel_left _ Nat.two_pos]) (Nat.div_lt_of_lt_mul hk)
        (fun i hi => by
          rw [Function.comp_apply, hf (i + 1) (Nat.succ_lt_succ hi), pow_succ',
            Nat.div_div_eq_div_mul]),
      raFold_getD _ _ _ _ (by omega), hf 0 (Nat.succ_pos n), pow_zero, Nat.div_one]
    rcases Nat.mod_two_eq_zero_or_one k with h | h
    · rw [h, Nat.cast_zero, zero_mul, add_zero, show 2 * (k / 2) = k by omega]
    · rw [h, Nat.cast_one, one_mul, add_sub_cancel, show 2 * (k / 2) + 1 = k by omega]

/-! ## bit reconstruction -/

theorem ra_reconstruct (n : Nat) : ∀ (f : Nat → K),
    ((List.range n).map f).reverse.foldl (fun acc b => acc + acc + b) 0
      = ∑ i ∈ Finset.range n, f i * 2 ^ i := by
  induction n with
  | zero => intro f; simp
  | succ n ih =>
    intro f
    rw [List.range_succ_eq_map, List.map_cons, List.map_map, List.reverse_cons, List.foldl_append,
      ih, Finset.sum_range_succ']
    simp only [List.foldl_cons, List.foldl_nil, Function.comp, Nat.succ_eq_add_one, pow_zero, mul_one]
    congr 1
    rw [← two_mul, Finset.mul_sum]
    apply Finset.sum_congr rfl
    intro i _
    ring

/-! ## the constraint list in field notation

Copy `c < copies` owns constraints `(bits+2)·c + r`: `r < bits` booleanity of bit `r`, `r = bits` the
index reconstruction `Σ b_i·2^i − accessIndex`, `r = bits + 1` the mux tree against the claimed
element; the `extra` constant constraints follow from `(bits+2)·copies` on. -/

/-- the selector bits of copy `c` (wires `raWireBit … i c`, `i < bits`) -/
def raBitList (bits copies extra : Nat) (v : EvalVars K) (c : Nat) : List K :=
  (List.range bits).map fun i => v.wires[raWireBit bits copies extra i c]!

/-- the `2^bits` list items of copy `c` -/
def raItemList (bits : Nat) (v : EvalVars K) (c : Nat) : List K :=
  (List.range (2 ^ bits)).map fun i => v.wires[raWireListItem bits i c]!

/-- the `bits + 2` constraints of copy `c` -/
def raChunk (bits copies extra : Nat) (v : EvalVars K) (c : Nat) : List K :=
  (raBitList bits copies extra v c).map (fun b => b * (b - 1))
    ++ [(raBitList bits copies extra v c).reverse.foldl (fun acc b => acc + acc + b) 0
          - v.wires[raWireAccessIndex bits c]!]
    ++ [raMux default (raBitList bits copies extra v c) (raItemList bits v c)
          - v.wires[raWireClaimedElement bits c]!]

theorem evalF_randomAccess (bits copies extra : Nat) (v : EvalVars K) :
    evalF (.randomAccess bits copies extra) v =
      (List.range copies).flatMap (raChunk bits copies extra v) ++
        (List.range extra).map fun i =>
          v.constants[i]! - v.wires[raWireExtraConstant bits copies i]! := rfl

theorem raBitList_length (bits copies extra : Nat) (v : EvalVars K) (c : Nat) :
    (raBitList bits copies extra v c).length = bits := by
  rw [raBitList, List.length_map, List.length_range]

theorem raChunk_length (bits copies extra : Nat) (v : EvalVars K) (c : Nat) :
    (raChunk bits copies extra v c).length = bits + 2 := by
  rw [raChunk, List.length_append, List.length_append, List.length_map, raBitList_length]
  rfl

theorem randomAccess_con_chunk (bits copies extra : Nat) (v : EvalVars K) (c r : Nat)
    (hc : c < copies) (hr : r < bits + 2) :
    con (.randomAccess bits copies extra) v ((bits + 2) * c + r)
      = (raChunk bits copies extra v c).getD r 0 := by
  show (evalF _ v).getD _ 0 = _
  rw [evalF_randomAccess, List.getD_eq_getElem?_getD, List.getElem?_append_left
      (by rw [length_flatMap_range copies (bits + 2) _ (raChunk_length bits copies extra v)]
          exact block_lt hr hc),
    getElem?_flatMap_range copies (bits + 2) _ (raChunk_length bits copies extra v) c r hc hr,
    ← List.getD_eq_getElem?_getD]

theorem randomAccess_con_bool (bits copies extra : Nat) (v : EvalVars K) (c i : Nat)
    (hc : c < copies) (hi : i < bits) :
    con (.randomAccess bits copies extra) v ((bits + 2) * c + i)
      = v.wires[raWireBit bits copies extra i c]! * (v.wires[raWireBit bits copies extra i c]! - 1) := by
  rw [randomAccess_con_chunk bits copies extra v c i hc (by omega), List.getD_eq_getElem?_getD,
    raChunk, List.append_assoc,
    List.getElem?_append_left (by rw [List.length_map, raBitList_length]; exact hi),
    List.getElem?_map, raBitList, getElem?_map_range, if_pos hi]
  rfl

theorem randomAccess_con_index (bits copies extra : Nat) (v : EvalVars K) (c : Nat) (hc : c < copies) :
    con (.randomAccess bits copies extra) v ((bits + 2) * c + bits)
      = (∑ i ∈ Finset.range bits, v.wires[raWireBit bits copies extra i c]! * 2 ^ i)
          - v.wires[raWireAccessIndex bits c]! := by
  rw [randomAccess_con_chunk bits copies extra v c bits hc (by omega), List.getD_eq_getElem?_getD,
    raChunk, List.append_assoc,
    List.getElem?_append_right (by rw [List.length_map, raBitList_length]),
    List.length_map, raBitList_length, Nat.sub_self, raBitList, ra_reconstruct]
  rfl

theorem randomAccess_con_mux (bits copies extra : Nat) (v : EvalVars K) (c : Nat) (hc : c < copies) :
    con (.randomAccess bits copies extra) v ((bits + 2) * c + bits + 1)
      = raMux default (raBitList bits copies extra v c) (raItemList bits v c)
          - v.wires[raWireClaimedElement bits c]! := by
  rw [Nat.add_assoc, randomAccess_con_chunk bits copies extra v c (bits + 1) hc (by omega),
    List.getD_eq_getElem?_getD, raChunk, List.append_assoc,
    List.getElem?_append_right (by rw [List.length_map, raBitList_length]; omega),
    List.length_map, raBitList_length, Nat.add_sub_cancel_left]
  rfl

theorem randomAccess_con_extra (bits copies extra : Nat) (v : EvalVars K) (i : Nat) (hi : i < extra) :
    con (.randomAccess bits copies extra) v ((bits + 2) * copies + i)
      = v.constants[i]! - v.wires[raWireExtraConstant bits copies i]! := by
  show (evalF _ v).getD _ 0 = _
  rw [evalF_randomAccess, List.getD_eq_getElem?_getD, List.getElem?_append_right
      (by rw [length_flatMap_range copies (bits + 2) _ (raChunk_length bits copies extra v)]; omega),
    length_flatMap_range copies (bits + 2) _ (raChunk_length bits copies extra v),
    Nat.add_sub_cancel_left, getElem?_map_range, if_pos hi, Option.getD_some]

theorem randomAccess_con_ge (bits copies extra : Nat) (v : EvalVars K) (j : Nat)
    (hj : (bits + 2) * copies + extra ≤ j) :
    con (.randomAccess bits copies extra) v j = 0 := by
  show (evalF _ v).getD _ 0 = _
  rw [List.getD_eq_getElem?_getD, List.getElem?_eq_none_iff.2, Option.getD_none]
  rw [evalF_randomAccess, List.length_append,
    length_flatMap_range copies (bits + 2) _ (raChunk_length bits copies extra v)]
  simpa using hj

/-- every constraint index is of exactly one of the five kinds -/
theorem ra_index_cases (bits copies extra : Nat) (P : Nat → Prop)
    (hbool : ∀ c i, c < copies → i < bits → P ((bits + 2) * c + i))
    (hidx : ∀ c, c < copies → P ((bits + 2) * c + bits))
    (hmux : ∀ c, c < copies → P ((bits + 2) * c + bits + 1))
    (hextra : ∀ i, i < extra → P ((bits + 2) * copies + i))
    (hge : ∀ j, (bits + 2) * copies + extra ≤ j → P j) : ∀ j, P j := by
  intro j
  by_cases h1 : j < (bits + 2) * copies
  · have hc : j / (bits + 2) < copies := Nat.div_lt_of_lt_mul h1
    have hr := Nat.mod_lt j (show 0 < bits + 2 by omega)
    have hj : (bits + 2) * (j / (bits + 2)) + j % (bits + 2) = j := Nat.div_add_mod j _
    rw [← hj]
    rcases Nat.lt_or_ge (j % (bits + 2)) bits with h | h
    · exact hbool _ _ hc h
    · rcases Nat.eq_or_lt_of_le h with h | h
      · rw [← h]; exact hidx _ hc
      · rw [show j % (bits + 2) = bits + 1 by omega, ← Nat.add_assoc]; exact hmux _ hc
  · by_cases h2 : j < (bits + 2) * copies + extra
    · have := hextra (j - (bits + 2) * copies) (by omega)
      rwa [show (bits + 2) * copies + (j - (bits + 2) * copies) = j by omega] at this
    · exact hge j (by omega)

/-! ## satisfaction -/

theorem randomAccess_sat_iff_eqs (bits copies extra : Nat) (v : EvalVars K) :
    Sat (.randomAccess bits copies extra) v ↔
      (∀ c, c < copies →
        (∀ i, i < bits → v.wires[raWireBit bits copies extra i c]!
            * (v.wires[raWireBit bits copies extra i c]! - 1) = 0) ∧
        (∑ i ∈ Finset.range bits, v.wires[raWireBit bits copies extra i c]! * 2 ^ i)
            = v.wires[raWireAccessIndex bits c]! ∧
        raMux default (raBitList bits copies extra v c) (raItemList bits v c)
            = v.wires[raWireClaimedElement bits c]!) ∧
      ∀ i, i < extra → v.wires[raWireExtraConstant bits copies i]! = v.constants[i]! := by
  rw [sat_iff_con]
  constructor
  · intro h
    refine ⟨fun c hc => ⟨fun i hi => ?_, ?_, ?_⟩, fun i hi => ?_⟩
    · rw [← randomAccess_con_bool bits copies extra v c i hc hi]; exact h _
    · rw [← sub_eq_zero, ← randomAccess_con_index bits copies extra v c hc]; exact h _
    · rw [← sub_eq_zero, ← randomAccess_con_mux bits copies extra v c hc]; exact h _
    · have := h ((bits + 2) * copies + i)
      rw [randomAccess_con_extra bits copies extra v i hi, sub_eq_zero] at this
      exact this.symm
  · rintro ⟨h1, h2⟩
    refine ra_index_cases bits copies extra _ ?_ ?_ ?_ ?_ ?_
    · intro c i hc hi; rw [randomAccess_con_bool bits copies extra v c i hc hi]; exact (h1 c hc).1 i hi
    · intro c hc; rw [randomAccess_con_index bits copies extra v c hc, sub_eq_zero]; exact (h1 c hc).2.1
    · intro c hc; rw [randomAccess_con_mux bits copies extra v c hc, sub_eq_zero]; exact (h1 c hc).2.2
    · intro i hi; rw [randomAccess_con_extra bits copies extra v i hi, sub_eq_zero]; exact (h2 i hi).symm
    · intro j hj; exact randomAccess_con_ge bits copies extra v j hj

theorem ra_digit_bool (k i : Nat) : ((k / 2 ^ i % 2 : ℕ) : K) * (((k / 2 ^ i % 2 : ℕ) : K) - 1) = 0 := by
  rcases Nat.mod_two_eq_zero_or_one (k / 2 ^ i) with h | h
  · rw [h, Nat.cast_zero, zero_mul]
  · rw [h, Nat.cast_one, sub_self, mul_zero]

/-- boolean values are the binary digits of some `k < 2^n` (no assumption on the characteristic) -/
theorem ra_bool_digits : ∀ (n : Nat) (f : Nat → K), (∀ i, i < n → f i * (f i - 1) = 0) →
    ∃ k, k < 2 ^ n ∧ ∀ i, i < n → f i = ((k / 2 ^ i % 2 : ℕ) : K)
  | 0, _, _ => ⟨0, Nat.one_pos, fun i hi => absurd hi (Nat.not_lt_zero i)⟩
  | n + 1, f, hf => by
    obtain ⟨k', hk', hd⟩ := ra_bool_digits n (fun i => f (i + 1))
      (fun i hi => hf (i + 1) (Nat.succ_lt_succ hi))
    obtain ⟨d0, hd0, hf0⟩ : ∃ d0 : Nat, d0 < 2 ∧ f 0 = (d0 : K) := by
      rcases mul_eq_zero.1 (hf 0 (Nat.succ_pos n)) with h | h
      · exact ⟨0, Nat.zero_lt_two, h.trans Nat.cast_zero.symm⟩
      · exact ⟨1, Nat.one_lt_two, (sub_eq_zero.1 h).trans Nat.cast_one.symm⟩
    refine ⟨d0 + 2 * k', by rw [pow_succ]; omega, fun i hi => ?_⟩
    cases i with
    | zero => rw [hf0, pow_zero, Nat.div_one, show (d0 + 2 * k') % 2 = d0 by omega]
    | succ i =>
      rw [hd i (Nat.lt_of_succ_lt_succ hi), pow_succ', ← Nat.div_div_eq_div_mul,
        show (d0 + 2 * k') / 2 = k' by omega]

/-- mux correctness for arbitrary boolean selector bits: they are the digits of some `k < 2^n`
and the mux tree returns item `k` -/
theorem raMux_bool (d : K) (n : Nat) (f : Nat → K) (items : List K) (hl : items.length = 2 ^ n)
    (hf : ∀ i, i < n → f i * (f i - 1) = 0) :
    ∃ k, k < 2 ^ n ∧ (∀ i, i < n → f i = ((k / 2 ^ i % 2 : ℕ) : K)) ∧
      raMux d ((List.range n).map f) items = items.getD k d := by
  obtain ⟨k, hk, hd⟩ := ra_bool_digits n f hf
  exact ⟨k, hk, hd, raMux_digits d n f items k hl hk hd⟩

/-- the two non-boolean constraints of a copy whose bit wires are the digits of `k < 2^bits` -/
theorem ra_copy_of_digits (bits copies extra : Nat) (v : EvalVars K) (c k : Nat) (hk : k < 2 ^ bits)
    (hb : ∀ i, i < bits → v.wires[raWireBit bits copies extra i c]! = ((k / 2 ^ i % 2 : ℕ) : K)) :
    (∑ i ∈ Finset.range bits, v.wires[raWireBit bits copies extra i c]! * 2 ^ i) = (k : K) ∧
    raMux default (raBitList bits copies extra v c) (raItemList bits v c)
      = v.wires[raWireListItem bits k c]! := by
  constructor
  · rw [Finset.sum_congr rfl (fun i hi => by rw [hb i (Finset.mem_range.1 hi)])]
    have := congrArg (Nat.cast (R := K)) (sum_digits_eq_mod 2 k bits)
    rw [Nat.mod_eq_of_lt hk] at this
    rw [← this, Nat.cast_sum]
    exact Finset.sum_congr rfl fun i _ => by rw [Nat.cast_mul, Nat.cast_pow, Nat.cast_ofNat]
  · rw [raBitList, raMux_digits default bits _ _ k (by simp [raItemList]) hk hb, raItemList,
      getD_map_range, if_pos hk]

/-! ## wire layout: the wires read by the constraints are pairwise distinct -/

/-- the routed wires (access indices, claimed elements, list items, extra constants) come before
the bit wires -/
theorem raWireBit_ne_routed (bits copies extra j : Nat) (hj : j < raNumRoutedWires bits copies extra)
    (i c : Nat) : j ≠ raWireBit bits copies extra i c :=
  Nat.ne_of_lt (Nat.lt_of_lt_of_le hj (by unfold raWireBit; omega))

theorem ra_block_lt (bits copies extra c b : Nat) (hc : c < copies) (hb : b < 2 + raVecSize bits) :
    (2 + raVecSize bits) * c + b < raNumRoutedWires bits copies extra :=
  Nat.lt_of_lt_of_le (block_lt hb hc) (Nat.le_add_right _ extra)

theorem raWireAccessIndex_lt (bits copies extra c : Nat) (hc : c < copies) :
    raWireAccessIndex bits c < raNumRoutedWires bits copies extra :=
  ra_block_lt bits copies extra c 0 hc (by omega)

theorem raWireClaimedElement_lt (bits copies extra c : Nat) (hc : c < copies) :
    raWireClaimedElement bits c < raNumRoutedWires bits copies extra :=
  ra_block_lt bits copies extra c 1 hc (by omega)

theorem raWireListItem_lt (bits copies extra i c : Nat) (hc : c < copies) (hi : i < 2 ^ bits) :
    raWireListItem bits i c < raNumRoutedWires bits copies extra := by
  rw [raWireListItem, Nat.add_assoc]
  exact ra_block_lt bits copies extra c (2 + i) hc (by unfold raVecSize; omega)

theorem raWireExtraConstant_lt (bits copies extra i : Nat) (hi : i < extra) :
    raWireExtraConstant bits copies i < raNumRoutedWires bits copies extra := by
  simp only [raWireExtraConstant, raNumRoutedWires]; omega

theorem raWireBit_lt (bits copies extra i c : Nat) (hi : i < bits) (hc : c < copies) :
    raWireBit bits copies extra i c < raNumRoutedWires bits copies extra + copies * bits := by
  have := block_lt (s := bits) hi hc
  rw [Nat.mul_comm bits c, Nat.mul_comm bits copies] at this
  unfold raWireBit; omega

theorem raWireClaimedElement_lt_start (bits copies c : Nat) (hc : c < copies) :
    raWireClaimedElement bits c < raStartExtraConstants bits copies :=
  block_lt (s := 2 + raVecSize bits) (b := 1) (by omega) hc

theorem raWireClaimedElement_inj (bits c c' : Nat)
    (h : raWireClaimedElement bits c = raWireClaimedElement bits c') : c = c' :=
  (block_unique (s := 2 + raVecSize bits) (i := c) (k := c') (a := 1) (b := 1) (by omega) (by omega) h).1

theorem raWireClaimedElement_ne_accessIndex (bits c c' : Nat) :
    raWireAccessIndex bits c' ≠ raWireClaimedElement bits c := fun h =>
  absurd (block_unique (s := 2 + raVecSize bits) (i := c') (k := c) (a := 0) (b := 1) (by omega) (by omega) h).2 (by omega)

theorem raWireClaimedElement_ne_listItem (bits i c c' : Nat) (hi : i < 2 ^ bits) :
    raWireListItem bits i c' ≠ raWireClaimedElement bits c := fun h =>
  absurd (block_unique (s := 2 + raVecSize bits) (i := c') (k := c) (a := 2 + i) (b := 1)
    (by simp only [raVecSize]; omega) (by omega)
    (by simpa only [raWireListItem, raWireClaimedElement, Nat.add_assoc] using h)).2 (by omega)

theorem raWireBit_inj (bits copies extra i i' c c' : Nat) (hi : i < bits) (hi' : i' < bits)
    (h : raWireBit bits copies extra i c = raWireBit bits copies extra i' c') : c = c' ∧ i = i' := by
  refine block_unique (s := bits) (i := c) (k := c') hi hi' ?_
  simp only [raWireBit] at h
  rw [Nat.mul_comm bits c, Nat.mul_comm bits c']; omega

/-- the generator-written wires (`GateKind.generatedWires`) are exactly the claimed-element wires and
the bit wires of the copies `c < copies` -/
theorem randomAccess_generatedWires (bits copies extra k : Nat) :
    k ∈ (GateKind.randomAccess bits copies extra).generatedWires ↔
      (∃ c, c < copies ∧ k = raWireClaimedElement bits c) ∨
      (∃ c i, c < copies ∧ i < bits ∧ k = raWireBit bits copies extra i c) := by
  simp only [GateKind.generatedWires, List.mem_append, List.mem_map, List.mem_range]
  constructor
  · rintro (⟨c, hc, rfl⟩ | ⟨t, ht, rfl⟩)
    · exact Or.inl ⟨c, hc, rfl⟩
    · have hb : 0 < bits := Nat.pos_of_ne_zero fun h => by simp [h] at ht
      refine Or.inr ⟨t / bits, t % bits, Nat.div_lt_of_lt_mul (by rwa [Nat.mul_comm]),
        Nat.mod_lt _ hb, ?_⟩
      have := Nat.div_add_mod' t bits
      simp only [raWireBit]; omega
  · rintro (⟨c, hc, rfl⟩ | ⟨c, i, hc, hi, rfl⟩)
    · exact Or.inl ⟨c, hc, rfl⟩
    · refine Or.inr ⟨c * bits + i, ?_, by simp only [raWireBit]; omega⟩
      have := block_lt (s := bits) hi hc
      rwa [Nat.mul_comm bits c, Nat.mul_comm bits copies] at this

/-! ## what a replacement of a generator-written wire leaves unchanged -/

/-- what a replacement of the claimed-element wire of copy `c` leaves unchanged -/
theorem ra_claimed_frame (bits copies extra : Nat) (v v' : EvalVars K) (c : Nat) (hc : c < copies)
    (hd : DiffersOnlyAt v v' (raWireClaimedElement bits c)) :
    (∀ c' i, v'.wires[raWireBit bits copies extra i c']! = v.wires[raWireBit bits copies extra i c']!) ∧
    (∀ c', v'.wires[raWireAccessIndex bits c']! = v.wires[raWireAccessIndex bits c']!) ∧
    (∀ c', raBitList bits copies extra v' c' = raBitList bits copies extra v c') ∧
    (∀ c', raItemList bits v' c' = raItemList bits v c') ∧
    (∀ c', c' ≠ c → v'.wires[raWireClaimedElement bits c']! = v.wires[raWireClaimedElement bits c']!) ∧
    (∀ i, v'.wires[raWireExtraConstant bits copies i]! = v.wires[raWireExtraConstant bits copies i]!) := by
  have hbit : ∀ c' i, v'.wires[raWireBit bits copies extra i c']!
      = v.wires[raWireBit bits copies extra i c']! := fun c' i => hd.same _
    (raWireBit_ne_routed bits copies extra _ (raWireClaimedElement_lt bits copies extra c hc) i c').symm
  refine ⟨hbit, fun c' => hd.same _ (raWireClaimedElement_ne_accessIndex bits c c'), ?_, ?_, ?_, ?_⟩
  · intro c'; simp only [raBitList, hbit]
  · intro c'
    unfold raItemList
    exact List.map_congr_left fun i hi =>
      hd.same _ (raWireClaimedElement_ne_listItem bits i c c' (List.mem_range.1 hi))
  · intro c' hne
    exact hd.same _ fun h => hne (raWireClaimedElement_inj bits c' c h)
  · intro i
    refine hd.same _ ?_
    have := raWireClaimedElement_lt_start bits copies c hc
    simp only [raWireExtraConstant]; omega

/-- what a replacement of bit wire `i` of copy `c` leaves unchanged -/
theorem ra_bit_frame (bits copies extra : Nat) (v v' : EvalVars K) (c i : Nat) (hi : i < bits)
    (hd : DiffersOnlyAt v v' (raWireBit bits copies extra i c)) :
    (∀ c' i', i' < bits → (c', i') ≠ (c, i) →
      v'.wires[raWireBit bits copies extra i' c']! = v.wires[raWireBit bits copies extra i' c']!) ∧
    (∀ c', c' < copies → v'.wires[raWireAccessIndex bits c']! = v.wires[raWireAccessIndex bits c']!) ∧
    (∀ c', c' ≠ c → raBitList bits copies extra v' c' = raBitList bits copies extra v c') ∧
    (∀ c', c' < copies → raItemList bits v' c' = raItemList bits v c') ∧
    (∀ c', c' < copies →
      v'.wires[raWireClaimedElement bits c']! = v.wires[raWireClaimedElement bits c']!) ∧
    (∀ i', i' < extra →
      v'.wires[raWireExtraConstant bits copies i']! = v.wires[raWireExtraConstant bits copies i']!) := by
  have hbit : ∀ c' i', i' < bits → (c', i') ≠ (c, i) →
      v'.wires[raWireBit bits copies extra i' c']! = v.wires[raWireBit bits copies extra i' c']! :=
    fun c' i' hi' hne => hd.same _ fun h => hne (by
      obtain ⟨h1, h2⟩ := raWireBit_inj bits copies extra i' i c' c hi' hi h
      rw [h1, h2])
  refine ⟨hbit, ?_, ?_, ?_, ?_, ?_⟩
  · intro c' hc'
    exact hd.same _ (raWireBit_ne_routed bits copies extra _
      (raWireAccessIndex_lt bits copies extra c' hc') i c)
  · intro c' hne
    unfold raBitList
    exact List.map_congr_left fun i' hi' =>
      hbit c' i' (List.mem_range.1 hi') (fun h => hne (congrArg Prod.fst h))
  · intro c' hc'
    unfold raItemList
    exact List.map_congr_left fun i' hi' => hd.same _ (raWireBit_ne_routed bits copies extra _
      (raWireListItem_lt bits copies extra i' c' hc' (List.mem_range.1 hi')) i c)
  · intro c' hc'
    exact hd.same _ (raWireBit_ne_routed bits copies extra _
      (raWireClaimedElement_lt bits copies extra c' hc') i c)
  · intro i' hi'
    exact hd.same _ (raWireBit_ne_routed bits copies extra _
      (raWireExtraConstant_lt bits copies extra i' hi') i c)

/-- the index constraint of copy `c` is affine in bit wire `i` with coefficient `2^i` -/
theorem randomAccess_index_shift (bits copies extra : Nat) (v v' : EvalVars K) (c i : Nat)
    (hc : c < copies) (hi : i < bits) (hd : DiffersOnlyAt v v' (raWireBit bits copies extra i c)) :
    con (.randomAccess bits copies extra) v' ((bits + 2) * c + bits)
      = con (.randomAccess bits copies extra) v ((bits + 2) * c + bits)
        + (v'.wires[raWireBit bits copies extra i c]! - v.wires[raWireBit bits copies extra i c]!) * 2 ^ i := by
  obtain ⟨hbit, hacc, _, _, _, _⟩ := ra_bit_frame bits copies extra v v' c i hi hd
  -- the two sums differ in term `i` only
  have hsum : (∑ j ∈ Finset.range bits, v'.wires[raWireBit bits copies extra j c]! * 2 ^ j)
      = (∑ j ∈ Finset.range bits, v.wires[raWireBit bits copies extra j c]! * 2 ^ j)
        + (v'.wires[raWireBit bits copies extra i c]! - v.wires[raWireBit bits copies extra i c]!)
          * 2 ^ i := by
    rw [← sub_eq_iff_eq_add', ← Finset.sum_sub_distrib, sub_mul]
    exact Finset.sum_eq_single i
      (fun j hj hji => by
        rw [hbit c j (Finset.mem_range.1 hj) (fun h => hji (congrArg Prod.snd h)), sub_self])
      (fun h => absurd (Finset.mem_range.2 hi) h)
  rw [randomAccess_con_index bits copies extra _ c hc, randomAccess_con_index bits copies extra _ c hc,
    hacc c hc, hsum, add_sub_right_comm]

/-- conversely, when `(2:K)^i = 0` the index constraint does not see bit wire `i` at all -/
theorem randomAccess_index_blind (bits copies extra : Nat) (v v' : EvalVars K) (c i : Nat)
    (hc : c < copies) (hi : i < bits) (h2 : (2 : K) ^ i = 0)
    (hd : DiffersOnlyAt v v' (raWireBit bits copies extra i c)) :
    con (.randomAccess bits copies extra) v' ((bits + 2) * c + bits)
      = con (.randomAccess bits copies extra) v ((bits + 2) * c + bits) := by
  rw [randomAccess_index_shift bits copies extra v v' c i hc hi hd, h2, mul_zero, add_zero]

end

/-! ## necessity of `(2:K)^i ≠ 0`: a characteristic-2 counterexample

Over `ZMod 2`, gate `randomAccess 2 1 0` (one copy, wires: 0 = access index, 1 = claimed, 2..5 = the
four list items, 6, 7 = the two bit wires).  The all-zero row and the row with bit wire 1 (wire 7)
set to `1` BOTH satisfy every constraint: booleanity holds for `0` and `1`, the index constraint
reads `b₀ + 2·b₁ − index = 0 + 2·1 − 0 = 0` because `2 = 0`, and since all list items are equal
the mux constraint cannot tell the selected positions apart.  So in characteristic 2 a bit wire
`i ≥ 1` is not pinned by the gate (the index constraint is blind to it, `randomAccess_index_blind`;
only the mux constraint can catch it, and only when the two selected items differ). -/

section Char2
/-- the all-zero row for `randomAccess 2 1 0` over `ZMod 2` -/
def raC2Row : EvalVars (ZMod 2) := ⟨#[], #[0, 0, 0, 0, 0, 0, 0, 0], #[]⟩
/-- the same row with bit wire 1 (wire 7) set to 1 -/
def raC2Row' : EvalVars (ZMod 2) := ⟨#[], #[0, 0, 0, 0, 0, 0, 0, 1], #[]⟩

/-- in particular the conclusion of `Props.C07.randomAccess_pinned_bit` fails there -/
example : (2 : ZMod 2) ^ 1 = 0 ∧
    con (.randomAccess 2 1 0) raC2Row ((2 + 2) * 0 + 2) = 0 ∧
    con (.randomAccess 2 1 0) raC2Row' ((2 + 2) * 0 + 2) = 0 := by decide
end Char2

/-! ## Goldilocks: the side condition `2 ≠ 0` holds; the model's generator -/

section OverGL
attribute [local instance] glField

theorem ra_two_ne_zero_GL : (2 : P2.GL) ≠ 0 := by decide

/-- one iteration of `RandomAccessGenerator::run_once` (copy `copy`) -/
def raGenStep (bits copies extra : Nat) (ws : Array P2.GL) (copy : Nat) : Array P2.GL :=
  (List.range bits).foldl (fun ws' i => ws'.set! (raWireBit bits copies extra i copy)
      (GL.ofNat (((ws[raWireAccessIndex bits copy]!).val / 2 ^ i) % 2)))
    (ws.set! (raWireClaimedElement bits copy)
      ws[raWireListItem bits (ws[raWireAccessIndex bits copy]!).val copy]!)

/-- the zero-padded input row -/
def raPad (bits copies extra : Nat) (wires : Array P2.GL) : Array P2.GL :=
  wires ++ Array.replicate ((GateKind.randomAccess bits copies extra).numWires - wires.size) 0

theorem generate_randomAccess (bits copies extra : Nat) (consts wires : Array P2.GL) :
    (GateKind.randomAccess bits copies extra).generate consts wires
      = (List.range copies).foldl (raGenStep bits copies extra) (raPad bits copies extra wires) := rfl

theorem raPad_size (bits copies extra : Nat) (wires : Array P2.GL) :
    raNumRoutedWires bits copies extra + copies * bits ≤ (raPad bits copies extra wires).size := by
  simp only [raPad, Array.size_append, Array.size_replicate, GateKind.numWires]; omega

theorem raGenStep_spec (bits copies extra : Nat) (ws : Array P2.GL) (c : Nat) (hc : c < copies)
    (hs : raNumRoutedWires bits copies extra + copies * bits ≤ ws.size) :
    (raGenStep bits copies extra ws c).size = ws.size ∧
    (∀ j, j ≠ raWireClaimedElement bits c → (∀ i, i < bits → j ≠ raWireBit bits copies extra i c) →
      (raGenStep bits copies extra ws c)[j]! = ws[j]!) ∧
    (raGenStep bits copies extra ws c)[raWireClaimedElement bits c]!
      = ws[raWireListItem bits (ws[raWireAccessIndex bits c]!).val c]! ∧
    (∀ i, i < bits → (raGenStep bits copies extra ws c)[raWireBit bits copies extra i c]!
      = GL.ofNat (((ws[raWireAccessIndex bits c]!).val / 2 ^ i) % 2)) := by
  have hcl := raWireClaimedElement_lt bits copies extra c hc
  have hblk : c * bits + bits ≤ copies * bits :=
    (Nat.succ_mul c bits).symm.trans_le (Nat.mul_le_mul_right _ hc)
  obtain ⟨hsz, hfr, hval⟩ := wrote_foldl (raNumRoutedWires bits copies extra + c * bits)
    (fun i => GL.ofNat (((ws[raWireAccessIndex bits c]!).val / 2 ^ i) % 2)) bits
    (ws.set! (raWireClaimedElement bits c)
      ws[raWireListItem bits (ws[raWireAccessIndex bits c]!).val c]!)
  rw [size_set!] at hsz hval
  refine ⟨hsz, fun j hj1 hj2 => ?_, ?_, hval (by omega)⟩
  · refine (hfr j ?_).trans (getElem!_set!_ne _ _ _ _ hj1)
    by_contra h
    exact hj2 (j - (raNumRoutedWires bits copies extra + c * bits)) (by omega)
      (by unfold raWireBit; omega)
  · exact (hfr _ (Or.inl (by omega))).trans (getElem!_set!_self _ _ _ (by omega))

/-- the state of the row after the first `m` copies have been processed -/
theorem raGen_invariant (bits copies extra : Nat) (ws0 : Array P2.GL)
    (hs : raNumRoutedWires bits copies extra + copies * bits ≤ ws0.size)
    (hacc : ∀ c, c < copies → (ws0[raWireAccessIndex bits c]!).val < 2 ^ bits) :
    ∀ m, m ≤ copies →
      ((List.range m).foldl (raGenStep bits copies extra) ws0).size = ws0.size ∧
      (∀ j, (∀ c, c < m → j ≠ raWireClaimedElement bits c) →
        (∀ c i, c < m → i < bits → j ≠ raWireBit bits copies extra i c) →
        ((List.range m).foldl (raGenStep bits copies extra) ws0)[j]! = ws0[j]!) ∧
      (∀ c, c < m → ((List.range m).foldl (raGenStep bits copies extra) ws0)[raWireClaimedElement bits c]!
        = ws0[raWireListItem bits (ws0[raWireAccessIndex bits c]!).val c]!) ∧
      (∀ c i, c < m → i < bits →
        ((List.range m).foldl (raGenStep bits copies extra) ws0)[raWireBit bits copies extra i c]!
          = GL.ofNat (((ws0[raWireAccessIndex bits c]!).val / 2 ^ i) % 2))
  | 0, _ => ⟨rfl, fun _ _ _ => rfl, fun c hc => absurd hc (Nat.not_lt_zero c),
      fun c _ hc => absurd hc (Nat.not_lt_zero c)⟩
  | m + 1, hm => by
    obtain ⟨ihs, ihu, ihc, ihb⟩ := raGen_invariant bits copies extra ws0 hs hacc m (by omega)
    have hmc : m < copies := by omega
    rw [List.range_succ, List.foldl_append, List.foldl_cons, List.foldl_nil]
    generalize (List.range m).foldl (raGenStep bits copies extra) ws0 = W at ihs ihu ihc ihb
    obtain ⟨ss, su, sc, sb⟩ := raGenStep_spec bits copies extra W m hmc (by rw [ihs]; exact hs)
    -- the wires read by the step are still those of the input row
    have hRacc : ∀ c, c < copies → W[raWireAccessIndex bits c]! = ws0[raWireAccessIndex bits c]! := by
      intro c hc
      exact ihu _ (fun c' _ => raWireClaimedElement_ne_accessIndex bits c' c) fun c' i _ _ =>
        raWireBit_ne_routed bits copies extra _ (raWireAccessIndex_lt bits copies extra c hc) i c'
    have hRitem : ∀ c i, c < copies → i < 2 ^ bits →
        W[raWireListItem bits i c]! = ws0[raWireListItem bits i c]! := by
      intro c i hc hi
      exact ihu _ (fun c' _ => raWireClaimedElement_ne_listItem bits i c' c hi) fun c' i' _ _ =>
        raWireBit_ne_routed bits copies extra _ (raWireListItem_lt bits copies extra i c hc hi) i' c'
    have hne_cb : ∀ c c' i, c < copies →
        raWireClaimedElement bits c ≠ raWireBit bits copies extra i c' := fun c c' i hc =>
      raWireBit_ne_routed bits copies extra _ (raWireClaimedElement_lt bits copies extra c hc) i c'
    rw [hRacc m hmc, hRitem m _ hmc (hacc m hmc)] at sc
    rw [hRacc m hmc] at sb
    refine ⟨by rw [ss, ihs], ?_, ?_, ?_⟩
    · intro j hj1 hj2
      rw [su j (hj1 m (by omega)) (fun i hi => hj2 m i (by omega) hi)]
      exact ihu j (fun c hc => hj1 c (by omega)) (fun c i hc hi => hj2 c i (by omega) hi)
    · intro c hc
      rcases Nat.lt_succ_iff_lt_or_eq.1 hc with h | rfl
      · rw [su _ (fun e => absurd (raWireClaimedElement_inj bits c m e) (by omega))
          (fun i _ => hne_cb c m i (by omega))]
        exact ihc c h
      · exact sc
    · intro c i hc hi
      rcases Nat.lt_succ_iff_lt_or_eq.1 hc with h | rfl
      · rw [su _ (fun e => hne_cb m c i hmc e.symm)
          (fun i' hi' e => absurd (raWireBit_inj bits copies extra i i' c m hi hi' e).1 (by omega))]
        exact ihb c i h hi
      · exact sb i hi

/-- the generated row of the random-access gate has at least `numWires` columns (no contract
needed: every generator step preserves the size) -/
theorem randomAccess_generate_size (bits copies extra : Nat) (consts wires : Array P2.GL) :
    raNumRoutedWires bits copies extra + copies * bits ≤
      ((GateKind.randomAccess bits copies extra).generate consts wires).size := by
  rw [generate_randomAccess, foldl_size_preserved (raGenStep bits copies extra)]
  · exact raPad_size bits copies extra wires
  · intro ws c
    unfold raGenStep
    rw [foldl_size_preserved _ (fun ws a => size_set! _ _ _), size_set!]

end OverGL

end P2.Lemmas.C07
