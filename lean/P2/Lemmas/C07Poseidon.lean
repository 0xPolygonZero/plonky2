/-
C07, Poseidon gate: the row produced by `PoseidonGenerator` (`genPoseidon`) satisfies every
constraint of `PoseidonGate::eval_unfiltered` (`evalPoseidon`), provided the swap wire is boolean.
Works directly with the executable `instFOpsGL` instance.

After the input/delta stage both functions are folds of one step function each (`gstep`, `estep`)
over the same list of `stages`.  A pair of states is related by `Sim`; one stage preserves `Sim`
when the evaluator reads, at the stage's block of wires, what the generator has just written
there (`step_sim`).  The evaluator reads the FINISHED row, so the fold (`foldl_sim`) also needs
that later stages write further right (`Fits`, `foldl_gstep_snd`).
-/
import P2.Lemmas.C07On

set_option linter.style.haveILetI false

namespace P2.Lemmas.C07
open P2 P2.Gates

namespace Pos

/-! ## field facts on `GL = Fin GLP` stated with the `Fin` operations (the ones the model uses) -/

theorem gl_sub_self (x : P2.GL) : x - x = 0 := by letI := glField; exact sub_self x
theorem gl_zero_mul (x : P2.GL) : 0 * x = 0 := by letI := glField; exact zero_mul x
theorem gl_one_mul (x : P2.GL) : 1 * x = x := by letI := glField; exact one_mul x
theorem gl_add_zero (x : P2.GL) : x + 0 = x := by letI := glField; exact add_zero x
theorem gl_sub_zero (x : P2.GL) : x - 0 = x := by letI := glField; exact sub_zero x
theorem gl_add_sub_cancel (a b : P2.GL) : a + (b - a) = b := by
  letI := glField; exact add_sub_cancel a b
theorem gl_sub_sub_cancel (a b : P2.GL) : a - (a - b) = b := by
  letI := glField; exact sub_sub_cancel a b
theorem gl_bool (s : P2.GL) (h : s = 0 ∨ s = 1) : s * (s - 1) = 0 := by
  rcases h with h | h
  · rw [h]; exact gl_zero_mul _
  · rw [h, gl_sub_self]; exact gl_one_mul _

abbrev PS := Array P2.GL × Array P2.GL

theorem hsw : spongeWidth = 12 := rfl

def AllZero (cs : Array P2.GL) : Prop := ∀ c ∈ cs.toList, c = 0

theorem allZero_push {cs : Array P2.GL} {x : P2.GL} (h : AllZero cs) (hx : x = 0) :
    AllZero (cs.push x) := by
  intro c hc
  rw [Array.toList_push, List.mem_append, List.mem_singleton] at hc
  rcases hc with hc | hc
  · exact h c hc
  · rw [hc, hx]

theorem allZero_foldl_push (f : Nat → P2.GL) :
    ∀ (l : List Nat) (cs : Array P2.GL), (∀ i ∈ l, f i = 0) → AllZero cs →
      AllZero (l.foldl (fun cs i => cs.push (f i)) cs) := by
  intro l
  induction l with
  | nil => intro cs _ h; exact h
  | cons a l ih =>
    intro cs hf h
    rw [List.foldl_cons]
    exact ih _ (fun i hi => hf i (List.mem_cons_of_mem _ hi))
      (allZero_push h (hf a (List.mem_cons_self ..)))

/-- the generator's `setRow` -/
def pSetRow (ws : Array P2.GL) (wire : Nat → Nat) (state : Array P2.GL) : Array P2.GL :=
  (List.range spongeWidth).foldl (fun ws i => ws.set! (wire i) state[i]!) ws

theorem wrote_pSetRow (b : Nat) (wire : Nat → Nat) (hw : ∀ i, wire i = b + i)
    (ws st : Array P2.GL) : Wrote ws (pSetRow ws wire st) b 12 fun i => st[i]! := by
  have : wire = fun i => b + i := funext hw
  subst this
  exact wrote_foldl b (fun i => st[i]!) 12 ws

theorem map_range_get (f : Nat → P2.GL) (j : Nat) (hj : j < 12) :
    ((Array.range spongeWidth).map f)[j]! = f j := by
  have h : j < ((Array.range spongeWidth).map f).size := by
    rw [Array.size_map, Array.size_range]; exact hj
  rw [getElem!_pos ((Array.range spongeWidth).map f) j h, Array.getElem_map, Array.getElem_range]

theorem map_range_size (f : Nat → P2.GL) : ((Array.range spongeWidth).map f).size = 12 := by
  rw [Array.size_map, Array.size_range]; rfl

theorem map_range_eq (f : Nat → P2.GL) (st : Array P2.GL) (hs : st.size = 12)
    (hf : ∀ i, i < 12 → f i = st[i]!) : (Array.range spongeWidth).map f = st := by
  apply Array.ext
  · rw [map_range_size, hs]
  · intro i h1 h2
    rw [Array.getElem_map, Array.getElem_range, hf i (by omega), getElem!_pos st i h2]

theorem mdsLayer_size (s : Array P2.GL) : (mdsLayer s).size = 12 := map_range_size _
theorem mdsPartialLayerFast_size (s : Array P2.GL) (r : Nat) :
    (mdsPartialLayerFast s r).size = 12 := map_range_size _
theorem mdsPartialLayerInit_size (s : Array P2.GL) : (mdsPartialLayerInit s).size = 12 :=
  map_range_size _
theorem constantLayer_size (s : Array P2.GL) (r : Nat) : (constantLayer s r).size = s.size := by
  unfold constantLayer; exact Array.size_mapIdx

theorem posCheck_spec (st cs : Array P2.GL) (wire : Nat → P2.GL)
    (h : (Array.range spongeWidth).map wire = st) (hz : AllZero cs) :
    (posCheckSboxIn st cs wire).1 = st ∧ AllZero (posCheckSboxIn st cs wire).2 := by
  unfold posCheckSboxIn
  dsimp only
  rw [h]
  exact ⟨rfl, allZero_foldl_push (fun i => st[i]! - st[i]!) _ _ (fun i _ => gl_sub_self _) hz⟩

/-- the S-box inputs that `setRow` wrote at wires `b, …, b + 11` pass `posCheckSboxIn` -/
theorem posCheck_setRow (w : Nat → P2.GL) (b : Nat) (wire : Nat → Nat) (hwire : ∀ i, wire i = b + i)
    (st cs ws : Array P2.GL) (hs : st.size = 12) (hb : b + 12 ≤ ws.size) (hz : AllZero cs)
    (hw : ∀ k, b ≤ k → k < b + 12 → w k = (pSetRow ws wire st)[k]!) :
    (posCheckSboxIn st cs fun i => w (wire i)).1 = st ∧
      AllZero (posCheckSboxIn st cs fun i => w (wire i)).2 := by
  refine posCheck_spec st cs _ (map_range_eq _ st hs fun i hi => ?_) hz
  rw [hwire, hw _ (Nat.le_add_right b i) (Nat.add_lt_add_left hi b),
    (wrote_pSetRow b wire hwire ws st).get hb i hi]

/-- the loop bodies and the straight-line code between the loops of `genPoseidon`/`evalPoseidon`
(the degree bound in `C07Degree.lean` cuts `evalPoseidon` over a field by whole loops, `posStage1…6`) -/
inductive Stage
  | full0 (r : Nat)
  | partInit
  | part (r : Nat)
  | partLast
  | full1 (r : Nat)

def gstep (g : PS) : Stage → PS
  | .full0 r =>
    let st := constantLayer g.1 r
    (mdsLayer (sboxLayer st), if r ≠ 0 then pSetRow g.2 (posWireFullSbox0 r) st else g.2)
  | .partInit => (mdsPartialLayerInit (partialFirstConstantLayer g.1), g.2)
  | .part r =>
    (mdsPartialLayerFast (g.1.set! 0 (sboxMonomial g.1[0]! + kOf fastPartialRoundConstants[r]!)) r,
     g.2.set! (posWirePartialSbox r) g.1[0]!)
  | .partLast =>
    (mdsPartialLayerFast (g.1.set! 0 (sboxMonomial g.1[0]!)) (nPartialRounds - 1),
     g.2.set! (posWirePartialSbox (nPartialRounds - 1)) g.1[0]!)
  | .full1 r =>
    let st := constantLayer g.1 (halfNFullRounds + nPartialRounds + r)
    (mdsLayer (sboxLayer st), pSetRow g.2 (posWireFullSbox1 r) st)

def estep (w : Nat → P2.GL) (e : PS) : Stage → PS
  | .full0 r =>
    let st := constantLayer e.1 r
    let p := if r ≠ 0 then posCheckSboxIn st e.2 (fun i => w (posWireFullSbox0 r i)) else (st, e.2)
    (mdsLayer (sboxLayer p.1), p.2)
  | .partInit => (mdsPartialLayerInit (partialFirstConstantLayer e.1), e.2)
  | .part r =>
    (mdsPartialLayerFast (e.1.set! 0 (sboxMonomial (w (posWirePartialSbox r)) +
        kOf fastPartialRoundConstants[r]!)) r,
     e.2.push (e.1[0]! - w (posWirePartialSbox r)))
  | .partLast =>
    (mdsPartialLayerFast (e.1.set! 0 (sboxMonomial (w (posWirePartialSbox (nPartialRounds - 1)))))
        (nPartialRounds - 1),
     e.2.push (e.1[0]! - w (posWirePartialSbox (nPartialRounds - 1))))
  | .full1 r =>
    let st := constantLayer e.1 (halfNFullRounds + nPartialRounds + r)
    let p := posCheckSboxIn st e.2 (fun i => w (posWireFullSbox1 r i))
    (mdsLayer (sboxLayer p.1), p.2)

def stages : List Stage :=
  (List.range halfNFullRounds).map .full0 ++ .partInit ::
    ((List.range (nPartialRounds - 1)).map .part ++ .partLast ::
      (List.range halfNFullRounds).map .full1)

def pInputs (ws : Array P2.GL) : Array P2.GL :=
  (Array.range spongeWidth).map fun i => ws[posWireInput i]!
def gDelta (ws : Array P2.GL) : Array P2.GL :=
  (List.range 4).foldl (fun a i =>
    a.set! (posWireDelta i) (ws[posWireSwap]! * ((pInputs ws)[i + 4]! - (pInputs ws)[i]!))) ws
def gState0 (ws : Array P2.GL) : Array P2.GL :=
  let inputs : Array P2.GL := pInputs ws
  if ws[posWireSwap]! = 1 then (Array.range spongeWidth).map fun i =>
      if i < 4 then inputs[i + 4]! else if i < 8 then inputs[i - 4]! else inputs[i]!
    else inputs
def gOut (g : PS) : Array P2.GL := pSetRow g.2 posWireOutput g.1

def eDelta (w : Nat → P2.GL) : Array P2.GL :=
  (List.range 4).foldl (fun cs i =>
    cs.push (w posWireSwap * (w (posWireInput (i + 4)) - w (posWireInput i)) - w (posWireDelta i)))
    #[w posWireSwap * (w posWireSwap - FOps.one)]
def eState0 (w : Nat → P2.GL) : Array P2.GL :=
  (Array.range spongeWidth).map fun i =>
    if i < 4 then w (posWireInput i) + w (posWireDelta i)
    else if i < 8 then w (posWireInput i) - w (posWireDelta (i - 4))
    else w (posWireInput i)
def eOut (w : Nat → P2.GL) (e : PS) : Array P2.GL :=
  (List.range spongeWidth).foldl (fun cs i => cs.push (e.1[i]! - w (posWireOutput i))) e.2

theorem gen_restate (ws : Array P2.GL) :
    genPoseidon ws = gOut (stages.foldl gstep (gState0 ws, gDelta ws)) := by
  unfold stages
  rw [List.foldl_append, List.foldl_map, List.foldl_cons, List.foldl_append, List.foldl_map,
    List.foldl_cons, List.foldl_map]
  dsimp only [genPoseidon, gOut, gstep, gState0, gDelta, pInputs, pSetRow]

theorem eval_restate (v : EvalVars P2.GL) :
    GateKind.poseidon.evalUnfiltered v =
      (eOut (fun i => v.wires[i]!) (stages.foldl (estep fun i => v.wires[i]!)
        (eState0 fun i => v.wires[i]!, eDelta fun i => v.wires[i]!))).toList := by
  unfold stages
  rw [List.foldl_append, List.foldl_map, List.foldl_cons, List.foldl_append, List.foldl_map,
    List.foldl_cons, List.foldl_map]
  dsimp only [GateKind.evalUnfiltered, evalPoseidon, eOut, estep, eState0, eDelta,
    posSwappedInputs, EvalVars.w]

/-- stage `s` writes (generator) and reads (evaluator) the `len s` wires from `lo s` on; the first
full round has no wires -/
def lo : Stage → Nat
  | .full0 0 => 29
  | .full0 (r + 1) => 29 + 12 * r
  | .partInit => 65
  | .part r => 65 + r
  | .partLast => 86
  | .full1 r => 87 + 12 * r
def len : Stage → Nat
  | .full0 0 => 0
  | .full0 (_ + 1) => 12
  | .partInit => 0
  | .part _ => 1
  | .partLast => 1
  | .full1 _ => 12

theorem gstep_wrote (g : PS) (s : Stage) : ∃ val, Wrote g.2 (gstep g s).2 (lo s) (len s) val := by
  cases s with
  | full0 r =>
    cases r with
    | zero => exact ⟨_, wrote_foldl 29 (fun _ => 0) 0 g.2⟩
    | succ r =>
      simp only [gstep, if_pos (Nat.succ_ne_zero r)]
      exact ⟨_, wrote_pSetRow (29 + 12 * r) _ (fun _ => rfl) _ _⟩
  | partInit => exact ⟨_, wrote_foldl 65 (fun _ => 0) 0 g.2⟩
  | part r => exact ⟨_, wrote_set! g.2 (65 + r) g.1[0]!⟩
  | partLast => exact ⟨_, wrote_set! g.2 86 g.1[0]!⟩
  | full1 r =>
    simp only [gstep]
    exact ⟨_, wrote_pSetRow (87 + 12 * r) _ (fun _ => rfl) _ _⟩

/-- same state, a full-width generator row, constraints so far all zero -/
structure Sim (e g : PS) : Prop where
  state : e.1 = g.1
  width : g.1.size = 12
  row : 135 ≤ g.2.size
  zero : AllZero e.2

/-- `Sim` of explicit pairs.  (Giving the four facts to the anonymous constructor instead makes
`isDefEq` compare `(a, b).1` with `a`, which it does by unfolding `a` first.) -/
theorem Sim.pair {es cs gs ws : Array P2.GL} (h1 : es = gs) (h2 : gs.size = 12)
    (h3 : 135 ≤ ws.size) (h4 : AllZero cs) : Sim (es, cs) (gs, ws) := ⟨h1, h2, h3, h4⟩

/-- a full round whose S-box inputs are the wires `b, …, b + 11` -/
theorem full_sim (w : Nat → P2.GL) (c b : Nat) (wire : Nat → Nat) (hwire : ∀ i, wire i = b + i)
    (e g : PS) (h : Sim e g) (hb : b + 12 ≤ 135)
    (hw : ∀ k, b ≤ k → k < b + 12 → w k = (pSetRow g.2 wire (constantLayer g.1 c))[k]!) :
    Sim (mdsLayer (sboxLayer (posCheckSboxIn (constantLayer e.1 c) e.2 fun i => w (wire i)).1),
        (posCheckSboxIn (constantLayer e.1 c) e.2 fun i => w (wire i)).2)
      (mdsLayer (sboxLayer (constantLayer g.1 c)), pSetRow g.2 wire (constantLayer g.1 c)) := by
  obtain ⟨h1, h2, h3, h4⟩ := h
  obtain ⟨p1, p2⟩ := posCheck_setRow w b wire hwire (constantLayer g.1 c) e.2 g.2
    (by rw [constantLayer_size, h2]) (by omega) h4 hw
  rw [h1, p1]
  exact Sim.pair rfl (mdsLayer_size _) (by rw [(wrote_pSetRow b wire hwire _ _).size]; exact h3) p2

/-- a partial round whose S-box input is wire `j`; `f` is what the round does to it -/
theorem part_sim (w : Nat → P2.GL) (f : P2.GL → P2.GL) (r j : Nat) (e g : PS) (h : Sim e g)
    (hj : j + 1 ≤ 135) (hw : w j = (g.2.set! j g.1[0]!)[j]!) :
    Sim (mdsPartialLayerFast (e.1.set! 0 (f (w j))) r, e.2.push (e.1[0]! - w j))
      (mdsPartialLayerFast (g.1.set! 0 (f g.1[0]!)) r, g.2.set! j g.1[0]!) := by
  obtain ⟨h1, h2, h3, h4⟩ := h
  rw [hw, getElem!_set!_self _ _ _ (by omega), h1]
  exact Sim.pair rfl (mdsPartialLayerFast_size _ _) (by rw [size_set!]; exact h3)
    (allZero_push h4 (gl_sub_self _))

theorem step_sim (w : Nat → P2.GL) (e g : PS) (s : Stage) (h : Sim e g) (hs : lo s + len s ≤ 135)
    (hw : ∀ k, lo s ≤ k → k < lo s + len s → w k = (gstep g s).2[k]!) :
    Sim (estep w e s) (gstep g s) := by
  cases s with
  | full0 r =>
    cases r with
    | zero => exact Sim.pair (by rw [h.state]; rfl) (mdsLayer_size _) h.row h.zero
    | succ r =>
      simp only [gstep, if_pos (Nat.succ_ne_zero r)] at hw
      simp only [estep, gstep, if_pos (Nat.succ_ne_zero r)]
      exact full_sim w (r + 1) (29 + 12 * r) (posWireFullSbox0 (r + 1)) (fun _ => rfl) e g h hs hw
  | partInit => exact Sim.pair (by rw [h.state]) (mdsPartialLayerInit_size _) h.row h.zero
  | part r =>
    exact part_sim w (fun x => sboxMonomial x + kOf fastPartialRoundConstants[r]!) r (65 + r) e g h
      hs (hw (65 + r) (Nat.le_refl _) (Nat.lt_succ_self _))
  | partLast =>
    exact part_sim w sboxMonomial (nPartialRounds - 1) 86 e g h hs
      (hw 86 (Nat.le_refl _) (Nat.lt_succ_self _))
  | full1 r =>
    simp only [gstep] at hw
    exact full_sim w (halfNFullRounds + nPartialRounds + r) (87 + 12 * r) (posWireFullSbox1 r)
      (fun _ => rfl) e g h hs hw

/-- the stages' blocks lie left to right from wire `p` on, inside the row -/
def Fits : Nat → List Stage → Prop
  | _, [] => True
  | p, s :: l => p ≤ lo s ∧ lo s + len s ≤ 135 ∧ Fits (lo s + len s) l

instance : ∀ p l, Decidable (Fits p l)
  | _, [] => instDecidableTrue
  | _, s :: l => have := instDecidableFits (lo s + len s) l; instDecidableAnd

theorem foldl_gstep_snd : ∀ (l : List Stage) (p : Nat) (g : PS), Fits p l →
    (l.foldl gstep g).2.size = g.2.size ∧ ∀ k, k < p → (l.foldl gstep g).2[k]! = g.2[k]! := by
  intro l
  induction l with
  | nil => exact fun p g _ => ⟨rfl, fun k _ => rfl⟩
  | cons s l ih =>
    intro p g ⟨h1, _, h3⟩
    obtain ⟨i1, i2⟩ := ih (lo s + len s) (gstep g s) h3
    obtain ⟨_, s1, s2, _⟩ := gstep_wrote g s
    rw [List.foldl_cons]
    exact ⟨i1.trans s1, fun k hk => (i2 k (by omega)).trans (s2 k (Or.inl (by omega)))⟩

/-- the simulation through all stages, for an evaluator reading the finished row -/
theorem foldl_sim (w : Nat → P2.GL) : ∀ (l : List Stage) (p : Nat) (e g : PS), Fits p l → Sim e g →
    (∀ k, p ≤ k → k < 135 → w k = (l.foldl gstep g).2[k]!) →
    Sim (l.foldl (estep w) e) (l.foldl gstep g) := by
  intro l
  induction l with
  | nil => exact fun p e g _ h _ => h
  | cons s l ih =>
    intro p e g ⟨h1, h2, h3⟩ h hw
    rw [List.foldl_cons] at hw
    rw [List.foldl_cons, List.foldl_cons]
    refine ih (lo s + len s) _ _ h3 (step_sim w e g s h h2 fun k k1 k2 => ?_)
      fun k k1 k2 => hw k (by omega) k2
    rw [hw k (by omega) (by omega), (foldl_gstep_snd l (lo s + len s) _ h3).2 k k2]

theorem fits_stages : Fits 29 stages := by decide

theorem wrote_gDelta (ws : Array P2.GL) : Wrote ws (gDelta ws) 25 4 fun i =>
    ws[24]! * ((pInputs ws)[i + 4]! - (pInputs ws)[i]!) :=
  wrote_foldl 25 _ 4 ws

theorem pInputs_get (ws : Array P2.GL) (j : Nat) (hj : j < 12) : (pInputs ws)[j]! = ws[j]! :=
  map_range_get _ j hj

theorem gl_zero_ne_one : ¬ ((0 : P2.GL) = 1) := by decide

/-- `a + δ`, `b - δ` with `δ = s (b - a)` are `a`, `b` swapped iff the boolean `s` is 1 -/
theorem gl_swap (s a b : P2.GL) (h : s = 0 ∨ s = 1) :
    a + s * (b - a) = (if s = 1 then b else a) ∧ b - s * (b - a) = if s = 1 then a else b := by
  rcases h with rfl | rfl
  · rw [if_neg gl_zero_ne_one, gl_zero_mul, gl_add_zero, gl_sub_zero]; exact ⟨rfl, rfl⟩
  · rw [if_pos rfl, gl_one_mul, gl_add_sub_cancel, gl_sub_sub_cancel]; exact ⟨rfl, rfl⟩

theorem gState0_get (ws : Array P2.GL) (i : Nat) (hi : i < 12) :
    (gState0 ws)[i]! = if ws[24]! = 1 then
      (if i < 4 then (pInputs ws)[i + 4]! else if i < 8 then (pInputs ws)[i - 4]! else (pInputs ws)[i]!)
      else (pInputs ws)[i]! := by
  unfold gState0
  dsimp only
  rw [apply_ite (fun a : Array P2.GL => a[i]!), map_range_get _ i hi]
  rfl

theorem state0_eq (w : Nat → P2.GL) (ws : Array P2.GL) (hswap : ws[24]! = 0 ∨ ws[24]! = 1)
    (hin : ∀ j, j < 12 → w j = ws[j]!)
    (hd : ∀ i, i < 4 → w (25 + i) = ws[24]! * (ws[i + 4]! - ws[i]!)) :
    eState0 w = gState0 ws ∧ (gState0 ws).size = 12 := by
  have hsz : (gState0 ws).size = 12 := by
    unfold gState0 pInputs; dsimp only
    split <;> exact map_range_size _
  refine ⟨map_range_eq _ _ hsz fun i hi => ?_, hsz⟩
  rw [gState0_get ws i hi, pInputs_get ws i hi]
  by_cases c1 : i < 4
  · rw [if_pos c1, if_pos c1, pInputs_get ws (i + 4) (by omega)]
    show w i + w (25 + i) = _
    rw [hin i hi, hd i c1, (gl_swap _ _ _ hswap).1]
  · rw [if_neg c1, if_neg c1]
    by_cases c2 : i < 8
    · rw [if_pos c2, if_pos c2, pInputs_get ws (i - 4) (by omega)]
      show w i - w (25 + (i - 4)) = _
      rw [hin i hi, hd (i - 4) (by omega), Nat.sub_add_cancel (Nat.le_of_not_lt c1),
        (gl_swap _ _ _ hswap).2]
    · rw [if_neg c2, if_neg c2, ite_self]
      exact hin i hi

theorem eDelta_zero (w : Nat → P2.GL) (ws : Array P2.GL) (hswap : ws[24]! = 0 ∨ ws[24]! = 1)
    (h24 : w 24 = ws[24]!) (hin : ∀ j, j < 12 → w j = ws[j]!)
    (hd : ∀ i, i < 4 → w (25 + i) = ws[24]! * (ws[i + 4]! - ws[i]!)) : AllZero (eDelta w) := by
  unfold eDelta
  apply allZero_foldl_push (fun i =>
    w posWireSwap * (w (posWireInput (i + 4)) - w (posWireInput i)) - w (posWireDelta i))
  · intro i hi
    have hi4 : i < 4 := List.mem_range.1 hi
    show w 24 * (w (i + 4) - w i) - w (25 + i) = 0
    rw [hd i hi4, h24, hin i (by omega), hin (i + 4) (by omega)]
    exact gl_sub_self _
  · intro c hc
    have hc' : c = w 24 * (w 24 - 1) := List.mem_singleton.1 hc
    rw [hc', h24]
    exact gl_bool _ hswap

/-- the states after the input stage are related when the evaluator reads inputs, swap and deltas
as the generator left them -/
theorem init_sim (w : Nat → P2.GL) (ws : Array P2.GL) (hsz : 135 ≤ ws.size)
    (hswap : ws[24]! = 0 ∨ ws[24]! = 1)
    (hw : ∀ k, k < 29 → k < 12 ∨ 24 ≤ k → w k = (gDelta ws)[k]!) :
    Sim (eState0 w, eDelta w) (gState0 ws, gDelta ws) := by
  obtain ⟨dS, dF, dG⟩ := wrote_gDelta ws
  have hin : ∀ j, j < 12 → w j = ws[j]! := fun j hj => by
    rw [hw j (Nat.lt_trans hj (by decide)) (Or.inl hj), dF j (Or.inl (Nat.lt_trans hj (by decide)))]
  have h24 : w 24 = ws[24]! := by
    rw [hw 24 (by decide) (Or.inr (Nat.le_refl 24)), dF 24 (Or.inl (by decide))]
  have hd : ∀ i, i < 4 → w (25 + i) = ws[24]! * (ws[i + 4]! - ws[i]!) := fun i hi => by
    rw [hw (25 + i) (Nat.add_lt_add_left hi 25) (Or.inr (by omega)), dG (by omega) i hi,
      pInputs_get ws (i + 4) (by omega), pInputs_get ws i (by omega)]
  obtain ⟨st0, st0s⟩ := state0_eq w ws hswap hin hd
  exact Sim.pair st0 st0s (by rw [dS]; exact hsz) (eDelta_zero w ws hswap h24 hin hd)

theorem gOut_get (g : PS) (k : Nat) (hk : k < 12 ∨ 24 ≤ k) : (gOut g)[k]! = g.2[k]! := by
  unfold gOut
  exact (wrote_pSetRow 12 posWireOutput (fun _ => rfl) g.2 g.1).frame k hk

theorem out_sim (w : Nat → P2.GL) (e g : PS) (h : Sim e g)
    (hw : ∀ i, i < 12 → w (12 + i) = (gOut g)[12 + i]!) : AllZero (eOut w e) := by
  obtain ⟨h1, _, h3, h4⟩ := h
  unfold eOut
  apply allZero_foldl_push (fun i => e.1[i]! - w (posWireOutput i)) _ _ _ h4
  intro i hi
  have hi12 : i < 12 := List.mem_range.1 hi
  show e.1[i]! - w (12 + i) = 0
  rw [hw i hi12]
  unfold gOut
  rw [(wrote_pSetRow 12 posWireOutput (fun _ => rfl) g.2 g.1).get (by omega) i hi12, h1]
  exact gl_sub_self _

/-- any list of stages laid out from wire 29 on: when `w` reads the row the generator finishes
with, and the states after the input stage are related as soon as `w` reads the wires below 29
correctly, the evaluator's constraints all vanish -/
theorem sim_core (w : Nat → P2.GL) (l : List Stage) (hl : Fits 29 l) (es cs gs ws : Array P2.GL)
    (hw : ∀ k, w k = (gOut (l.foldl gstep (gs, ws)))[k]!)
    (h0 : (∀ k, k < 29 → k < 12 ∨ 24 ≤ k → w k = ws[k]!) → Sim (es, cs) (gs, ws)) :
    AllZero (eOut w (l.foldl (estep w) (es, cs))) := by
  have hG : ∀ k, k < 12 ∨ 24 ≤ k → w k = (l.foldl gstep (gs, ws)).2[k]! := fun k hk => by
    rw [hw k, gOut_get _ k hk]
  have S := foldl_sim w l 29 _ _ hl
    (h0 fun k k1 k2 => (hG k k2).trans ((foldl_gstep_snd l 29 (gs, ws) hl).2 k k1))
    fun k k1 _ => hG k (Or.inr (by omega))
  exact out_sim w _ _ S fun i _ => hw (12 + i)

end Pos

section Final
attribute [local instance] glField

/-- `PoseidonGenerator::run_once` produces a row satisfying every `PoseidonGate` constraint,
provided the swap wire is boolean (the gate's contract); the numerals `0`, `1` are those of the
`glField` instance and the row is given as `genRow`, as in the other gates' `…_generate_sat` -/
theorem poseidon_generate_sat_field (consts wires pih : Array P2.GL)
    (hswap : let ws := wires ++ Array.replicate (GateKind.poseidon.numWires - wires.size) 0
      ws[posWireSwap]! = 0 ∨ ws[posWireSwap]! = 1) :
    ∀ c ∈ GateKind.poseidon.evalUnfiltered (genRow .poseidon consts wires pih), c = 0 := by
  have hgen : GateKind.poseidon.generate consts wires =
      genPoseidon (wires ++ Array.replicate (135 - wires.size) (0 : P2.GL)) := rfl
  unfold genRow
  rw [Pos.eval_restate]
  dsimp only
  rw [hgen, Pos.gen_restate]
  exact Pos.sim_core _ Pos.stages Pos.fits_stages _ _ _ _ (fun _ => rfl)
    (Pos.init_sim _ _ (size_pad_ge wires 135) hswap)

end Final

end P2.Lemmas.C07
