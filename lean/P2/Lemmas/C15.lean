/-
Helpers for C15: access to `(Array.range n).map f`, the node
condition of Mathlib's Lagrange lemmas for a list of points, Horner evaluation / synthetic division over
a field.
-/
import Mathlib.Tactic.Ring
import Mathlib.Tactic.Linarith
import Mathlib.Tactic.LinearCombination
import Mathlib.Algebra.BigOperators.Fin
import Mathlib.Algebra.Field.Defs
import P2.Model.Poly
import P2.Lemmas.FieldOps
namespace P2.Lemmas.C15
open P2

theorem getElem!_map_range {α : Type} [Inhabited α] (n : Nat) (f : Nat → α) (i : Nat) (h : i < n) :
    ((Array.range n).map f)[i]! = f i := by
  simp [h]

theorem map_range_congr {α : Type} (n : Nat) (f g : Nat → α) (h : ∀ i, i < n → f i = g i) :
    (Array.range n).map f = (Array.range n).map g := by
  apply Array.ext
  · simp
  · intro i h1 h2
    simp at h1
    simp [h i h1]

/-- positions of a list of points with pairwise distinct first components have distinct first
components (the node condition of Mathlib's `Lagrange` lemmas) -/
theorem injOn_fst_get {α β : Type} (pts : List (α × β)) (hn : (pts.map Prod.fst).Nodup) :
    Set.InjOn (fun i : Fin pts.length => (pts.get i).1) (Finset.univ : Finset (Fin pts.length)) :=
  fun i _ j _ h => Fin.ext <|
    (hn.getElem_inj_iff (hi := (List.length_map _).symm ▸ i.2) (hj := (List.length_map _).symm ▸ j.2)).1
      (by rw [List.getElem_map, List.getElem_map]; exact h)

section
variable {K : Type} [Field K] [DecidableEq K]

theorem powAux_eq (fuel : Nat) (b : K) (e : Nat) (acc : K) (h : e < fuel) :
    @FOps.powAux K (FOps.ofField K) fuel b e acc = acc * b ^ e := by
  induction fuel generalizing b e acc with
  | zero => exact absurd h (Nat.not_lt_zero e)
  | succ fuel ih =>
    unfold FOps.powAux
    split
    · next h0 => rw [h0, pow_zero, mul_one]
    · next h0 =>
      rw [ih _ _ _ (Nat.lt_of_lt_of_le (Nat.div_lt_self (Nat.pos_of_ne_zero h0) Nat.one_lt_two)
        (Nat.le_of_lt_succ h))]
      conv_rhs => rw [← Nat.div_add_mod e 2, pow_add, pow_mul, ← mul_assoc, pow_two]
      rcases Nat.mod_two_eq_zero_or_one e with h1 | h1
      · rw [h1, if_neg Nat.zero_ne_one, pow_zero, mul_one]
      · rw [h1, if_pos rfl, pow_one, mul_right_comm]

theorem pow_eq (b : K) (e : Nat) : @FOps.pow K (FOps.ofField K) b e = b ^ e :=
  (powAux_eq _ _ _ _ (Nat.lt_succ_self e)).trans (one_mul _)

theorem eval_nil (x : K) : @Poly.eval K (FOps.ofField K) [] x = 0 := rfl

theorem eval_cons (a : K) (c : List K) (x : K) :
    @Poly.eval K (FOps.ofField K) (a :: c) x = @Poly.eval K (FOps.ofField K) c x * x + a := rfl

theorem eval_eq_sum_range (c : List K) (x : K) :
    @Poly.eval K (FOps.ofField K) c x = ∑ i ∈ Finset.range c.length, c.getD i 0 * x ^ i := by
  induction c with
  | nil => rfl
  | cons a c ih =>
    rw [eval_cons, ih, List.length_cons, Finset.sum_range_succ', Finset.sum_mul]
    simp only [List.getD_cons_succ, List.getD_cons_zero, pow_succ, pow_zero, mul_one, mul_assoc]

theorem eval_eq_sum (c : List K) (x : K) :
    @Poly.eval K (FOps.ofField K) c x = ∑ i : Fin c.length, c[i] * x ^ (i : Nat) := by
  rw [eval_eq_sum_range, ← Fin.sum_univ_eq_sum_range (fun i => c.getD i 0 * x ^ i)]
  exact Finset.sum_congr rfl fun i _ => by rw [Fin.getElem_fin, List.getElem_eq_getD 0]

/-- running Horner values, low index first: `synth c z = [p_0(z), p_1(z), …]` with
`p_k = c_k + c_{k+1} X + …` -/
def synth (c : List K) (z : K) : List K :=
  match c with
  | [] => []
  | a :: c => @Poly.eval K (FOps.ofField K) (a :: c) z :: synth c z

theorem synth_length (c : List K) (z : K) : (synth c z).length = c.length := by
  induction c <;> simp [synth, *]

theorem divideByLinear_fold (c : List K) (z : K) :
    (c.reverse.foldl (fun (acc : K × List K) ci =>
      let v := acc.1 * z + ci
      (v, acc.2 ++ [v])) ((0 : K), [])) = (@Poly.eval K (FOps.ofField K) c z, (synth c z).reverse) := by
  induction c with
  | nil => rfl
  | cons a c ih =>
    rw [List.reverse_cons, List.foldl_append, ih]
    simp [synth, eval_cons]

theorem divideByLinear_cons (a : K) (c : List K) (z : K) :
    @Poly.divideByLinear K (FOps.ofField K) (a :: c) z = synth c z := by
  unfold Poly.divideByLinear
  have := divideByLinear_fold (a :: c) z
  simp only [] at this ⊢
  erw [this]
  simp [synth]

theorem divideByLinear_nil (z : K) :
    @Poly.divideByLinear K (FOps.ofField K) [] z = [] := rfl

theorem synth_spec (c : List K) (z x : K) :
    @Poly.eval K (FOps.ofField K) c x * x
      = @Poly.eval K (FOps.ofField K) (synth c z) x * (x - z) + @Poly.eval K (FOps.ofField K) c z * z := by
  induction c with
  | nil => simp [synth, eval_nil]
  | cons a c ih =>
    simp only [synth, eval_cons] at ih ⊢
    linear_combination (x) * ih

theorem synth_getD (c : List K) (z : K) (i : Nat) :
    (synth c z).getD i 0 = @Poly.eval K (FOps.ofField K) (c.drop i) z := by
  induction c generalizing i with
  | nil => simp [synth, eval_nil]
  | cons a c ih =>
    cases i with
    | zero => simp [synth]
    | succ i => simpa [synth] using ih i

theorem getD_eq_eval_drop (p : List K) (z : K) (i : Nat) :
    p.getD i 0 = @Poly.eval K (FOps.ofField K) (p.drop i) z
      - @Poly.eval K (FOps.ofField K) (p.drop (i + 1)) z * z := by
  by_cases h : i < p.length
  · rw [List.drop_eq_getElem_cons h, eval_cons]
    simp [h]
  · have h1 : p.drop i = [] := List.drop_eq_nil_of_le (by omega)
    have h2 : p.drop (i + 1) = [] := List.drop_eq_nil_of_le (by omega)
    rw [h1, h2, eval_nil]
    simp [List.getElem?_eq_none (by omega : p.length ≤ i)]

theorem divideByLinear_getD (c : List K) (z : K) (i : Nat) :
    (@Poly.divideByLinear K (FOps.ofField K) c z).getD i 0
      = @Poly.eval K (FOps.ofField K) (c.drop (i + 1)) z := by
  cases c with
  | nil => simp [divideByLinear_nil, eval_nil]
  | cons a c => rw [divideByLinear_cons, synth_getD]; simp

end

end P2.Lemmas.C15
