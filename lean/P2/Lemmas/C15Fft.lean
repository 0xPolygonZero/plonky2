/-
Helpers for C15 (FFT part). First the sum `dftFn` over a field: orthogonality of primitive roots and
the two butterfly identities of Cooley–Tukey. Then the model: `dft` is `dftFn`, the inverse
transform, one round block by block, the entries of `fft_root_table`, and the definition of the round
invariant `RoundInv` (that a round keeps it and that after `lgN` rounds it says `dft` is proved in
`P2.Props.C15`).
-/
import Mathlib.RingTheory.RootsOfUnity.PrimitiveRoots
import Mathlib.Algebra.Ring.GeomSum
import P2.Lemmas.C15
import P2.Lemmas.C15BitRev
import P2.Model.Fft
namespace P2.Lemmas.C15
open P2 P2.BitRev P2.Fft

section
variable {K : Type} [Field K]

def dftFn (ω : K) (f : Nat → K) (n i : Nat) : K := ∑ j ∈ Finset.range n, f j * ω ^ (i * j)

theorem geom_sum_pow_root [DecidableEq K] {n : Nat} (ζ : K) (hζ : ζ ^ n = 1) :
    ∑ m ∈ Finset.range n, ζ ^ m = if ζ = 1 then (n : K) else 0 := by
  split
  · next h =>
    rw [h, Finset.sum_congr rfl fun m _ => one_pow m, Finset.sum_const, Finset.card_range,
      nsmul_eq_mul, mul_one]
  · next h =>
    have h1 : (ζ - 1) * ∑ m ∈ Finset.range n, ζ ^ m = 0 := by rw [mul_geom_sum, hζ, sub_self]
    exact (mul_eq_zero.1 h1).resolve_left (sub_ne_zero.2 h)

theorem dftFn_congr (ω : K) (f g : Nat → K) (n i : Nat) (h : ∀ j, j < n → f j = g j) :
    dftFn ω f n i = dftFn ω g n i := by
  unfold dftFn
  exact Finset.sum_congr rfl fun j hj => by rw [h j (Finset.mem_range.mp hj)]

theorem dftFn_smul (ω : K) (g : Nat → K) (s : K) (n i : Nat) :
    dftFn ω (fun m => g m * s) n i = dftFn ω g n i * s :=
  (Finset.sum_congr rfl fun _ _ => mul_right_comm _ _ _).trans (Finset.sum_mul ..).symm

/-- transform with `ζ = ω⁻¹` after transform with `ω` is multiplication by `n` -/
theorem dftFn_dftFn [DecidableEq K] {ω ζ : K} {n : Nat} (hω : IsPrimitiveRoot ω n) (hζ : ζ * ω = 1) (f : Nat → K)
    (i : Nat) (hi : i < n) :
    dftFn ζ (fun m => dftFn ω f n m) n i = f i * (n : K) := by
  have hz : ∀ k, ζ ^ k * ω ^ k = 1 := fun k => by rw [← mul_pow, hζ, one_pow]
  have hζn : ζ ^ n = 1 := by have := hz n; rwa [hω.pow_eq_one, mul_one] at this
  -- the sum over `m` is geometric in `ω^j·ζ^i`, which is `1` exactly for `j = i`
  have inner : ∀ j ∈ Finset.range n,
      ∑ m ∈ Finset.range n, f j * ω ^ (m * j) * ζ ^ (i * m) = if i = j then f j * (n : K) else 0 := by
    intro j hj
    have hone : ω ^ j * ζ ^ i = 1 ↔ i = j :=
      ⟨fun h => hω.pow_inj hi (Finset.mem_range.1 hj) (by rw [← one_mul (ω ^ i), ← h, mul_assoc, hz, mul_one]),
        fun h => by rw [h, mul_comm, hz]⟩
    rw [Finset.sum_congr rfl fun m _ => show f j * ω ^ (m * j) * ζ ^ (i * m) = f j * (ω ^ j * ζ ^ i) ^ m by
        rw [mul_pow, ← pow_mul, ← pow_mul, Nat.mul_comm j m, mul_assoc],
      ← Finset.mul_sum, geom_sum_pow_root _ (by
        rw [mul_pow, pow_right_comm ω, pow_right_comm ζ, hω.pow_eq_one, hζn, one_pow, one_pow, one_mul]),
      mul_ite, mul_zero]
    exact if_congr hone rfl rfl
  unfold dftFn
  rw [Finset.sum_congr rfl fun m _ => Finset.sum_mul .., Finset.sum_comm, Finset.sum_congr rfl inner,
    Finset.sum_ite_eq, if_pos (Finset.mem_range.2 hi)]

theorem dftFn_neg_index {ω : K} {n : Nat} (hω : IsPrimitiveRoot ω n) (f : Nat → K) (i : Nat)
    (hi : i < n) : dftFn ω f n ((n - i) % n) = dftFn ω⁻¹ f n i := by
  have h : ω ^ ((n - i) % n) = (ω⁻¹) ^ i := by
    rw [← pow_eq_pow_mod _ hω.pow_eq_one, inv_pow]
    exact eq_inv_of_mul_eq_one_left
      (by rw [← pow_add, Nat.sub_add_cancel (Nat.le_of_lt hi), hω.pow_eq_one])
  exact Finset.sum_congr rfl fun j _ => by rw [pow_mul, h, ← pow_mul]

theorem sum_range_even_odd (h : Nat → K) (m : Nat) :
    ∑ i ∈ Finset.range (2 * m), h i
      = ∑ s ∈ Finset.range m, h (2 * s) + ∑ s ∈ Finset.range m, h (2 * s + 1) := by
  induction m with
  | zero => simp
  | succ m ih =>
    rw [show 2 * (m + 1) = 2 * m + 1 + 1 from rfl, Finset.sum_range_succ, Finset.sum_range_succ,
      ih, Finset.sum_range_succ, Finset.sum_range_succ, add_assoc, add_add_add_comm]

/-- radix-2 decimation in time, lower half -/
theorem dftFn_butterfly_lo (ζ : K) (g : Nat → K) (m j : Nat) :
    dftFn ζ g (2 * m) j
      = dftFn (ζ ^ 2) (fun s => g (2 * s)) m j + ζ ^ j * dftFn (ζ ^ 2) (fun s => g (2 * s + 1)) m j := by
  unfold dftFn
  rw [sum_range_even_odd, Finset.mul_sum]
  refine congrArg₂ _ (Finset.sum_congr rfl fun s _ => ?_) (Finset.sum_congr rfl fun s _ => ?_)
  · rw [← pow_mul, Nat.mul_left_comm]
  · rw [← pow_mul, mul_left_comm, ← pow_add, Nat.mul_add_one, Nat.mul_left_comm j, Nat.add_comm j]

/-- radix-2 decimation in time, upper half (`ζ^m = −1`) -/
theorem dftFn_butterfly_hi (ζ : K) (g : Nat → K) (m j : Nat) (hζ : ζ ^ m = -1) :
    dftFn ζ g (2 * m) (j + m)
      = dftFn (ζ ^ 2) (fun s => g (2 * s)) m j - ζ ^ j * dftFn (ζ ^ 2) (fun s => g (2 * s + 1)) m j := by
  have e : ∀ f : Nat → K, dftFn (ζ ^ 2) f m (j + m) = dftFn (ζ ^ 2) f m j := fun f =>
    Finset.sum_congr rfl fun s _ => by
      rw [Nat.add_mul, pow_add, pow_mul (ζ ^ 2) m s, pow_right_comm ζ 2 m, hζ, neg_one_sq, one_pow, mul_one]
  rw [dftFn_butterfly_lo, e, e, pow_add, hζ, mul_neg_one, neg_mul, sub_eq_add_neg]

theorem primitive_half {ω : K} {lgN : Nat} (hω : IsPrimitiveRoot ω (2 ^ lgN)) (h : 0 < lgN) :
    ω ^ (2 ^ (lgN - 1)) = -1 := by
  have e : 2 ^ lgN = 2 ^ (lgN - 1) * 2 := by rw [← pow_succ]; congr 1; omega
  exact (hω.pow (Nat.two_pow_pos lgN) e).eq_neg_one_of_two_right

theorem isPrimitiveRoot_neg_one (h2 : (2 : K) ≠ 0) : IsPrimitiveRoot (-1 : K) 2 :=
  IsPrimitiveRoot.mk_of_lt _ Nat.two_pos neg_one_sq fun l h0 hl h => by
    obtain rfl : l = 1 := Nat.le_antisymm (Nat.le_of_lt_succ hl) h0
    rw [pow_one] at h
    exact h2 (one_add_one_eq_two.symm.trans (eq_neg_iff_add_eq_zero.1 h.symm))

end

section
variable {K : Type} [Field K] [DecidableEq K] [Inhabited K]

theorem array_ext! {α : Type} [Inhabited α] {a b : Array α} (hs : a.size = b.size)
    (h : ∀ i, i < a.size → a[i]! = b[i]!) : a = b := by
  apply Array.ext hs
  intro i h1 h2
  have := h i h1
  simpa [h1, h2] using this

omit [DecidableEq K] in
theorem toList_getD (c : Array K) (j : Nat) (h : j < c.size) : c.toList.getD j 0 = c[j]! := by
  simp [h]

omit [Inhabited K] in
theorem dft_size (ω : K) (c : Array K) : (@dft K (FOps.ofField K) ω c).size = c.size := by
  unfold dft; rw [Array.size_map, Array.size_range]

theorem dft_getElem! (ω : K) (c : Array K) (i : Nat) (h : i < c.size) :
    (@dft K (FOps.ofField K) ω c)[i]! = dftFn ω (fun j => c[j]!) c.size i := by
  unfold dft
  rw [getElem!_map_range _ _ _ h]
  show Array.foldr (fun cj acc => acc * (@FOps.pow K (FOps.ofField K) ω i) + cj) (0 : K) c = _
  rw [← Array.foldr_toList]
  have := eval_eq_sum_range c.toList (@FOps.pow K (FOps.ofField K) ω i)
  unfold Poly.eval at this
  erw [this]
  unfold dftFn
  rw [Array.length_toList]
  apply Finset.sum_congr rfl
  intro j hj
  rw [toList_getD c j (Finset.mem_range.mp hj), pow_eq, pow_mul]

theorem ifftPost_size (buf : Array K) (s : K) : (@ifftPost K (FOps.ofField K) _ buf s).size = buf.size := by
  unfold ifftPost; rw [Array.size_map, Array.size_range]

theorem ifftPost_getElem! (buf : Array K) (s : K) (i : Nat) (h : i < buf.size) :
    (@ifftPost K (FOps.ofField K) _ buf s)[i]! = buf[(buf.size - i) % buf.size]! * s := by
  unfold ifftPost
  rw [getElem!_map_range _ _ _ h]

/-- post-processing a forward transform gives the (scaled) transform with the inverse root -/
theorem ifftPost_dft_getElem! {ω : K} (c : Array K) (hω : IsPrimitiveRoot ω c.size) (s : K) (i : Nat)
    (h : i < c.size) :
    (@ifftPost K (FOps.ofField K) _ (@dft K (FOps.ofField K) ω c) s)[i]!
      = dftFn ω⁻¹ (fun j => c[j]!) c.size i * s := by
  rw [ifftPost_getElem! _ _ _ (by rw [dft_size]; exact h), dft_size,
    dft_getElem! _ _ _ (Nat.mod_lt _ (by omega)), dftFn_neg_index hω _ _ h]

theorem ifft_of_dft {ω : K} (c : Array K) (hω : IsPrimitiveRoot ω c.size) (hn : (c.size : K) ≠ 0) :
    @ifftPost K (FOps.ofField K) _ (@dft K (FOps.ofField K) ω (@dft K (FOps.ofField K) ω c))
      ((c.size : K))⁻¹ = c := by
  apply array_ext!
  · rw [ifftPost_size, dft_size, dft_size]
  · intro i hi
    rw [ifftPost_size, dft_size, dft_size] at hi
    have hω' : IsPrimitiveRoot ω (@dft K (FOps.ofField K) ω c).size := by rw [dft_size]; exact hω
    rw [ifftPost_dft_getElem! _ hω' _ _ (by rw [dft_size]; exact hi), dft_size,
      dftFn_congr _ _ (fun m => dftFn ω (fun j => c[j]!) c.size m) _ _
        (fun j hj => dft_getElem! ω c j hj),
      dftFn_dftFn hω (inv_mul_cancel₀ (hω.ne_zero (by omega))) _ i hi, mul_inv_cancel_right₀ hn]

theorem round_size (v : Array K) (table : Array (Array K)) (t : Nat) :
    (@round K (FOps.ofField K) _ v table t).size = v.size := by
  unfold round; rw [Array.size_map, Array.size_range]

/-- one round, block by block: block `q` (size `2·2^t`) of the output is computed from the blocks
`2q` and `2q + 1` (size `2^t`) of the input -/
theorem round_getElem! (v : Array K) (table : Array (Array K)) (t q j : Nat) (hj : j < 2 * 2 ^ t)
    (h : q * (2 * 2 ^ t) + j < v.size) :
    (@round K (FOps.ofField K) _ v table t)[q * (2 * 2 ^ t) + j]!
      = if j < 2 ^ t then v[2 * q * 2 ^ t + j]! + (table[t]!)[j]! * v[(2 * q + 1) * 2 ^ t + j]!
        else v[2 * q * 2 ^ t + (j - 2 ^ t)]!
          - (table[t]!)[j - 2 ^ t]! * v[(2 * q + 1) * 2 ^ t + (j - 2 ^ t)]! := by
  unfold round
  rw [getElem!_map_range _ _ _ h]
  have dm := divmod_of_eq (q * (2 * 2 ^ t) + j) q (2 * 2 ^ t) j rfl hj
  simp only [dm.1, dm.2]
  rw [(Nat.mul_left_comm q 2 _).trans (Nat.mul_assoc 2 q _).symm, Nat.add_one_mul (2 * q)]
  split
  · rfl
  · next hn =>
    rw [Nat.add_sub_assoc (Nat.le_of_not_lt hn), Nat.add_assoc _ (2 ^ t),
      Nat.add_sub_cancel' (Nat.le_of_not_lt hn)]

/-- state after `t` rounds: the block of size `2^t` number `q` holds the size-`2^t` transform (root
`ω^(2^(lgN−t))`) of the decimated subsequence `values[s·2^(lgN−t) + bitrev (lgN−t) q]`, `s < 2^t` -/
def RoundInv (ω : K) (values : Array K) (lgN t : Nat) (v : Array K) : Prop :=
  v.size = 2 ^ lgN ∧ ∀ q j, q < 2 ^ (lgN - t) → j < 2 ^ t →
    v[q * 2 ^ t + j]! = dftFn (ω ^ (2 ^ (lgN - t)))
      (fun s => values[s * 2 ^ (lgN - t) + bitrev (lgN - t) q]!) (2 ^ t) j

omit [Inhabited K] in
theorem rootTable_size (pr : Nat → K) (lgN : Nat) :
    (@rootTable K (FOps.ofField K) pr lgN).size = lgN := by
  unfold rootTable; rw [Array.size_map, Array.size_range]

theorem rootTable_getElem! (pr : Nat → K) (lgN t j : Nat) (ht : t < lgN) (hj : j < 2 ^ t) :
    ((@rootTable K (FOps.ofField K) pr lgN)[t]!)[j]! = (pr lgN ^ (2 ^ (lgN - t - 1))) ^ j := by
  unfold rootTable
  rw [getElem!_map_range _ _ _ ht]
  simp only []
  rw [getElem!_map_range _ _ _ (by simp; omega), pow_eq, pow_eq]
  rfl

end

end P2.Lemmas.C15
