/-
A rendering of the Poseidon permutation that the kernel evaluates cheaply, and the proof that it is
the model's `Poseidon.permute`.

The kernel is slow on `Poseidon.permute` because the state lives in `GL = Fin GLP`: every `Fin`
operation builds a `Fin.mk` whose value stays an unevaluated term until somebody projects it, so a
transcript that threads field elements through thirty rounds re-reduces the same sums many times.
`permuteN` does the same arithmetic on `Nat` with an explicit `% GLP`, which the kernel reduces to a
literal at once (GMP), and walks the state by structural recursion on lists.  Non-vacuity examples
that run a whole verifier on a concrete proof rewrite `Sponge.poseidonPerm` to `evalPerm` first.
-/
import P2.Model.Sponge

namespace P2.Lemmas.PoseidonEval
open P2 P2.Poseidon

/-! ### the `Nat` rendering -/

def sboxN (x : Nat) : Nat :=
  let x2 := x * x % GLP
  let x4 := x2 * x2 % GLP
  let x3 := x * x2 % GLP
  x3 * x4 % GLP

def mdsEntryN (r c : Nat) : Nat :=
  (Gen.MDS_MATRIX_CIRC.getD ((c + 12 - r) % 12) 0 % GLP +
    (if r = c then Gen.MDS_MATRIX_DIAG.getD r 0 % GLP else 0)) % GLP

def mdsRows : List (List Nat) := (List.range 12).map fun r => (List.range 12).map (mdsEntryN r)

/-- `acc + Σ row[c]·s[c]` (not reduced), reading `s` by `headD`/`tail`: missing entries count as `0`,
as `s[c]!` does -/
def dot : List Nat → List Nat → Nat → Nat
  | [], _, acc => acc
  | a :: row, s, acc => dot row s.tail (acc + a * s.headD 0)

def mdsN (s : List Nat) : List Nat := mdsRows.map fun row => dot row s 0 % GLP

/-- the first `n` entries of `s + cs` -/
def addN : Nat → List Nat → List Nat → List Nat
  | 0, _, _ => []
  | n + 1, cs, s => (s.headD 0 + cs.headD 0) % GLP :: addN n cs.tail s.tail

def constantN (s : List Nat) (round : Nat) : List Nat :=
  addN 12 (Gen.ALL_ROUND_CONSTANTS.drop (12 * round)) s

def sboxFirstN (t : List Nat) : List Nat :=
  (List.range 12).map fun i => if i = 0 then sboxN (t.getD 0 0) else t.getD i 0

def fullRoundN (s : List Nat) (round : Nat) : List Nat := mdsN ((constantN s round).map sboxN)

def partialRoundN (s : List Nat) (round : Nat) : List Nat := mdsN (sboxFirstN (constantN s round))

def permuteN (input : List Nat) : List Nat :=
  let s1 := (List.range 4).foldl (fun s i => fullRoundN s i) input
  let s2 := (List.range 22).foldl (fun s i => partialRoundN s (4 + i)) s1
  (List.range 4).foldl (fun s i => fullRoundN s (4 + 22 + i)) s2

/-- the twelve entries a Poseidon layer reads (`s[i]!`), as numbers -/
def toN (s : Array GL) : List Nat := (List.range 12).map fun i => (s[i]!).val

def ofN (l : List Nat) : Array GL := (l.map GL.ofNat).toArray

/-- `Sponge.poseidonPerm` with the permutation computed on `Nat` -/
def evalPerm : Sponge.Perm := ⟨12, 8, fun s => ofN (permuteN (toN s))⟩

/-! ### list bookkeeping -/

theorem getD_tail {α} (s : List α) (i : Nat) (d : α) : s.tail.getD i d = s.getD (i + 1) d := by
  cases s <;> simp

theorem headD_eq_getD {α} (s : List α) (d : α) : s.headD d = s.getD 0 d := by
  cases s <;> rfl

theorem addN_eq (n : Nat) (cs s : List Nat) :
    addN n cs s = (List.range n).map fun i => (s.getD i 0 + cs.getD i 0) % GLP := by
  induction n generalizing cs s with
  | zero => rfl
  | succ n ih =>
    rw [addN, ih, List.range_succ_eq_map, List.map_cons, List.map_map, headD_eq_getD, headD_eq_getD]
    simp only [Function.comp_def, getD_tail]

theorem dot_eq (row s : List Nat) (acc : Nat) :
    dot row s acc =
      (List.range row.length).foldl (fun acc c => acc + row.getD c 0 * s.getD c 0) acc := by
  induction row generalizing s acc with
  | nil => rfl
  | cons a row ih =>
    rw [dot, ih, List.length_cons, List.range_succ_eq_map, List.foldl_cons, List.foldl_map,
      headD_eq_getD]
    simp only [getD_tail, List.getD_cons_succ, List.getD_cons_zero]

theorem getD_map_range (n : Nat) (f : Nat → Nat) (i : Nat) (h : i < n) :
    ((List.range n).map f).getD i 0 = f i := by
  simp [List.getD_eq_getElem?_getD, h]

theorem mdsN_eq (s : List Nat) :
    mdsN s = (List.range 12).map fun r => (List.range 12).foldl
      (fun acc c => acc + ((List.range 12).map (mdsEntryN r)).getD c 0 * s.getD c 0) 0 % GLP := by
  rw [mdsN, mdsRows, List.map_map]
  refine List.map_congr_left fun r _ => ?_
  rw [Function.comp_apply, dot_eq, List.length_map, List.length_range]

/-! ### the model's layers read and write twelve entries -/

theorem range_map_getElem! (f : Nat → GL) (i : Nat) (h : i < 12) :
    ((Array.range 12).map f)[i]! = f i := by
  simp [h]

theorem toN_range_map (f : Nat → GL) :
    toN ((Array.range 12).map f) = (List.range 12).map fun i => (f i).val :=
  List.map_congr_left fun i hi => by rw [range_map_getElem! f i (List.mem_range.1 hi)]

theorem getD_toN (s : Array GL) (i : Nat) (h : i < 12) : (toN s).getD i 0 = (s[i]!).val :=
  getD_map_range 12 _ i h

theorem ofN_toN (s : Array GL) (h : s.size = 12) : ofN (toN s) = s := by
  apply Array.ext
  · simp [ofN, toN, h]
  · intro i h1 h2
    simp [ofN, toN, GL.ofNat, h2]

theorem default_GL : (default : GL) = 0 := rfl

theorem table_val (l : List Nat) (i : Nat) :
    ((l.map GL.ofNat).toArray[i]!).val = l.getD i 0 % GLP := by
  by_cases h : i < l.length <;> simp [h, GL.ofNat, List.getD_eq_getElem?_getD, default_GL]

theorem mdsEntry_val (r c : Nat) : (mdsEntry r c).val = mdsEntryN r c := by
  unfold mdsEntry mdsEntryN mdsCirc mdsDiag
  rw [Fin.val_add, table_val, show width = 12 from rfl]
  split
  · rw [table_val]
  · rfl

theorem sbox_val (x : GL) : (sbox x).val = sboxN x.val := by
  simp only [sbox, sboxN, Fin.val_mul]

theorem sbox_default : sbox (default : GL) = default := by decide

/-- a fold in `GL` is the unreduced fold on `Nat`, reduced once at the end -/
theorem foldl_val {β} (l : List β) (f : GL → β → GL) (g : Nat → β → Nat) (a : GL) (n : Nat)
    (h : ∀ acc n, ∀ c ∈ l, acc.val = n % GLP → (f acc c).val = g n c % GLP) (ha : a.val = n % GLP) :
    (l.foldl f a).val = l.foldl g n % GLP := by
  induction l generalizing a n with
  | nil => exact ha
  | cons x l ih =>
    exact ih _ _ (fun acc n c hc => h acc n c (List.mem_cons_of_mem _ hc)) (h a n x List.mem_cons_self ha)

theorem toN_mdsLayer (s : Array GL) : toN (mdsLayer s) = mdsN (toN s) := by
  rw [mdsLayer, mdsN_eq, show width = 12 from rfl, toN_range_map]
  refine List.map_congr_left fun r _ => ?_
  refine foldl_val _ _ _ 0 0 (fun acc n c hc hn => ?_) rfl
  have hc := List.mem_range.1 hc
  rw [Fin.val_add, Fin.val_mul, mdsEntry_val, getD_toN s c hc, getD_map_range 12 _ c hc, hn,
    Nat.add_mod_mod, Nat.mod_add_mod]

theorem toN_constantLayer (s : Array GL) (round : Nat) :
    toN (constantLayer s round) = constantN (toN s) round := by
  rw [constantLayer, constantN, addN_eq, show width = 12 from rfl, toN_range_map]
  refine List.map_congr_left fun i hi => ?_
  rw [Fin.val_add, roundConstants, table_val, getD_toN s i (List.mem_range.1 hi), Nat.add_mod_mod,
    List.getD_eq_getElem?_getD, List.getD_eq_getElem?_getD, List.getElem?_drop, Nat.add_comm i]

theorem toN_sboxLayer (s : Array GL) : toN (sboxLayer s) = (toN s).map sboxN := by
  rw [toN, toN, List.map_map]
  refine List.map_congr_left fun i _ => ?_
  rw [Function.comp_apply, ← sbox_val, sboxLayer]
  by_cases h : i < s.size <;> simp [h, sbox_default]

theorem toN_set_first (t : Array GL) (v : GL) (h : t.size = 12) :
    toN (t.set! 0 v) = (List.range 12).map fun i => if i = 0 then v.val else (toN t).getD i 0 := by
  refine List.map_congr_left fun i hi => ?_
  have hi := List.mem_range.1 hi
  rw [getD_toN t i hi]
  by_cases h0 : i = 0
  · subst h0; simp [h]
  · simp [h0, Array.getElem!_eq_getD, Array.getD_eq_getD_getElem?, Ne.symm h0]

theorem toN_fullRound (s : Array GL) (round : Nat) : toN (fullRound s round) = fullRoundN (toN s) round := by
  rw [fullRound, fullRoundN, toN_mdsLayer, toN_sboxLayer, toN_constantLayer]

theorem toN_partialRound (s : Array GL) (round : Nat) :
    toN (partialRound s round) = partialRoundN (toN s) round := by
  rw [partialRound, partialRoundN, toN_mdsLayer,
    toN_set_first _ _ (by simp [constantLayer, width, Gen.SPONGE_RATE, Gen.SPONGE_CAPACITY]),
    sbox_val, ← getD_toN _ 0 (by decide), toN_constantLayer]
  rfl

/-! ### the permutation -/

theorem toN_permute (s : Array GL) : toN (permute s) = permuteN (toN s) := by
  have hf : ∀ (idx : Nat → Nat) (l : List Nat) (a : Array GL),
      toN (l.foldl (fun s i => fullRound s (idx i)) a) = l.foldl (fun s i => fullRoundN s (idx i)) (toN a) :=
    fun idx _ _ => (List.foldl_hom toN fun x y => (toN_fullRound x (idx y)).symm).symm
  have hp : ∀ (l : List Nat) (a : Array GL),
      toN (l.foldl (fun s i => partialRound s (4 + i)) a) = l.foldl (fun s i => partialRoundN s (4 + i)) (toN a) :=
    fun _ _ => (List.foldl_hom toN fun x y => (toN_partialRound x (4 + y)).symm).symm
  simp only [permute, permuteN, show nFullHalf = 4 from rfl, show nPartial = 22 from rfl, hf, hp]

theorem size_fullRound (s : Array GL) (round : Nat) : (fullRound s round).size = 12 := by
  rw [fullRound, mdsLayer, Array.size_map, Array.size_range]; rfl

theorem permute_eq (s : Array GL) : permute s = ofN (permuteN (toN s)) := by
  rw [← toN_permute, ofN_toN]
  rw [permute, show nFullHalf = 4 from rfl, List.range_succ, List.foldl_append]
  exact size_fullRound _ _

theorem poseidonPerm_eq : Sponge.poseidonPerm = evalPerm :=
  congrArg (Sponge.Perm.mk 12 8) (funext permute_eq)

end P2.Lemmas.PoseidonEval
