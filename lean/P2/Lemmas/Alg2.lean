/-
Polynomial algebra over a Mathlib field behind the FRI and lookup statements: list folds as `Finset`
sums/products, the FRI split/fold polynomials, `Poly.lagrangeEval` as Mathlib's interpolant,
`Poly.divideByLinear` as `/ₘ (X − C z)` on coefficient lists (`ofList` itself is in
`P2.Lemmas.Alg2OfList`), the cleared-denominator polynomial of the logUp identity.
-/
import Mathlib.Tactic.Ring
import Mathlib.Tactic.Linarith
import Mathlib.Tactic.LinearCombination
import Mathlib.Tactic.FieldSimp
import Mathlib.Algebra.BigOperators.Fin
import Mathlib.Algebra.Polynomial.Roots
import Mathlib.Algebra.Polynomial.Div
import Mathlib.LinearAlgebra.Lagrange
import Mathlib.RingTheory.RootsOfUnity.PrimitiveRoots
import P2.Model.Poly
import P2.Lemmas.Alg2OfList
namespace P2.Lemmas.Alg2
open P2 Polynomial

theorem zipIdx_eq_ofFn {α : Type} (l : List α) :
    l.zipIdx = List.ofFn (fun i : Fin l.length => (l[i], (i : Nat))) :=
  List.ext_getElem (by rw [List.length_zipIdx, List.length_ofFn]) fun i h1 h2 => by
    rw [List.getElem_zipIdx, List.getElem_ofFn, Nat.zero_add]
    rfl

section
variable {K : Type} [Field K]

theorem foldl_add_form {α : Type} (l : List α) (F : K → α → K) (f : α → K)
    (hF : ∀ acc p, F acc p = acc + f p) (a : K) :
    l.foldl F a = a + (l.map f).sum := by
  induction l generalizing a with
  | nil => exact (add_zero a).symm
  | cons b l ih => rw [List.foldl_cons, ih, hF, List.map_cons, List.sum_cons, add_assoc]

theorem foldl_mul_form {α : Type} (l : List α) (F : K → α → K) (f : α → K)
    (hF : ∀ acc p, F acc p = acc * f p) (a : K) :
    l.foldl F a = a * (l.map f).prod := by
  induction l generalizing a with
  | nil => exact (mul_one a).symm
  | cons b l ih => rw [List.foldl_cons, ih, hF, List.map_cons, List.prod_cons, mul_assoc]

theorem sum_map_zipIdx {α : Type} (l : List α) (f : α × Nat → K) :
    (l.zipIdx.map f).sum = ∑ i : Fin l.length, f (l[i], (i : Nat)) := by
  rw [zipIdx_eq_ofFn, List.map_ofFn, List.sum_ofFn]
  rfl

theorem prod_map_zipIdx {α : Type} (l : List α) (f : α × Nat → K) :
    (l.zipIdx.map f).prod = ∏ i : Fin l.length, f (l[i], (i : Nat)) := by
  rw [zipIdx_eq_ofFn, List.map_ofFn, List.prod_ofFn]
  rfl

/-- a left fold that multiplies in `g x` for every entry except the one at position `i` (`F` is
the model's step function on `(entry, index)`), as a product over positions -/
theorem foldl_skip_prod {α : Type} (l : List α) (F : K → α × Nat → K) (g : α → K)
    (i : Nat) (hF : ∀ a x j, F a (x, j) = if i = j then a else a * g x) :
    l.zipIdx.foldl F 1 = ∏ j : Fin l.length, if i = j then 1 else g (l.get j) := by
  rw [foldl_mul_form l.zipIdx F (fun p => if i = p.2 then 1 else g p.1)
      (fun a p => by rw [hF]; split <;> simp), prod_map_zipIdx, one_mul]
  rfl

/-- the two inner folds of `lagrangeEval`: the product of `y − x_j` over all points but the `i`-th -/
theorem foldl_zipIdx_skip (pts : List (K × K)) (i : Nat) (y : K) :
    pts.zipIdx.foldl (fun a (p : (K × K) × Nat) => if i = p.2 then a else a * (y - p.1.1)) 1
      = ∏ j : Fin pts.length, if i = (j : Nat) then 1 else (y - pts[j].1) :=
  foldl_skip_prod pts _ (y - ·.1) i fun _ _ _ => rfl

theorem prod_ite_skip {n : Nat} (i : Fin n) (f : Fin n → K) :
    (∏ j : Fin n, if (i : Nat) = j then 1 else f j) = ∏ j ∈ Finset.univ.erase i, f j := by
  rw [← Finset.prod_erase Finset.univ (a := i) (by exact if_pos rfl)]
  exact Finset.prod_congr rfl fun j hj => if_neg fun e => Finset.ne_of_mem_erase hj (Fin.ext e.symm)

theorem sum_div_mul_prod {ι : Type} [DecidableEq ι] (I : Finset ι) (m d : ι → K)
    (hd : ∀ i ∈ I, d i ≠ 0) :
    (∑ i ∈ I, m i / d i) * ∏ i ∈ I, d i = ∑ i ∈ I, m i * ∏ j ∈ I.erase i, d j := by
  rw [Finset.sum_mul]
  refine Finset.sum_congr rfl fun i hi => ?_
  rw [← Finset.mul_prod_erase I d hi, ← mul_assoc, div_mul_cancel₀ _ (hd i hi)]

/-- `P = Σ_{i<r} X^i · P_i(X^r)` -/
noncomputable def splitPoly {r : Nat} (Pi : Fin r → K[X]) : K[X] :=
  ∑ i : Fin r, X ^ (i : Nat) * (Pi i).comp (X ^ r)

/-- `Q_y(Y) = Σ_{i<r} P_i(y) · Y^i`: with `y = x^r`, the restriction of `P` to the coset `x·⟨g⟩`,
and `Q_y(β)` is the folded polynomial `Σ β^i P_i` evaluated at `y` -/
noncomputable def cosetPoly {r : Nat} (Pi : Fin r → K[X]) (y : K) : K[X] :=
  ∑ i : Fin r, C ((Pi i).eval y) * X ^ (i : Nat)

/-- the prover's fold `Σ_{i<r} β^i · P_i` -/
noncomputable def foldPoly {r : Nat} (Pi : Fin r → K[X]) (β : K) : K[X] :=
  ∑ i : Fin r, C (β ^ (i : Nat)) * Pi i

theorem cosetPoly_degree_lt {r : Nat} (Pi : Fin r → K[X]) (y : K) :
    (cosetPoly Pi y).degree < r := degree_sum_fin_lt _

theorem cosetPoly_eval {r : Nat} (Pi : Fin r → K[X]) (y β : K) :
    (cosetPoly Pi y).eval β = ∑ i : Fin r, β ^ (i : Nat) * (Pi i).eval y := by
  simp only [cosetPoly, eval_finsetSum, eval_mul, eval_C, eval_pow, eval_X]
  exact Finset.sum_congr rfl fun i _ => mul_comm _ _

theorem foldPoly_eval {r : Nat} (Pi : Fin r → K[X]) (y β : K) :
    (foldPoly Pi β).eval y = ∑ i : Fin r, β ^ (i : Nat) * (Pi i).eval y := by
  simp only [foldPoly, eval_finsetSum, eval_mul, eval_C]

theorem splitPoly_eval {r : Nat} (Pi : Fin r → K[X]) (w : K) :
    (splitPoly Pi).eval w = ∑ i : Fin r, w ^ (i : Nat) * (Pi i).eval (w ^ r) := by
  simp only [splitPoly, eval_finsetSum, eval_mul, eval_pow, eval_X, eval_comp]

theorem coset_pow {r : Nat} {g : K} (hg : g ^ r = 1) (x : K) (j : Nat) :
    (x * g ^ j) ^ r = x ^ r := by
  rw [mul_pow, ← pow_mul, mul_comm j r, pow_mul, hg, one_pow, mul_one]

theorem splitPoly_eval_coset {r : Nat} (Pi : Fin r → K[X]) {g : K} (hg : g ^ r = 1) (x : K)
    (j : Nat) :
    (splitPoly Pi).eval (x * g ^ j) = (cosetPoly Pi (x ^ r)).eval (x * g ^ j) := by
  rw [splitPoly_eval, cosetPoly_eval, coset_pow hg]

theorem coset_nodup {r : Nat} {g x : K} (hg : IsPrimitiveRoot g r) (hx : x ≠ 0) :
    ((List.range r).map fun j => x * g ^ j).Nodup := by
  refine List.Nodup.map_on ?_ List.nodup_range
  intro i hi j hj h
  exact hg.pow_inj (List.mem_range.1 hi) (List.mem_range.1 hj) (mul_left_cancel₀ hx h)

/-- the parts of `P`: `P_i` collects the coefficients of `P` with index `≡ i` mod `r` -/
theorem splitPoly_of_coeff (P : K[X]) (d r : Nat) (hlt : P.natDegree < d * r) :
    splitPoly (fun i : Fin r => ∑ k : Fin d, C (P.coeff ((i : Nat) + r * k)) * X ^ (k : Nat)) = P := by
  conv_rhs => rw [P.as_sum_range' (d * r) hlt]
  rw [← Fin.sum_univ_eq_sum_range (fun n => monomial n (P.coeff n)) (d * r),
    ← Fintype.sum_equiv finProdFinEquiv
      (fun x : Fin d × Fin r => monomial ((x.2 : Nat) + r * x.1) (P.coeff ((x.2 : Nat) + r * x.1)))
      (fun n : Fin (d * r) => monomial (n : Nat) (P.coeff n)) (fun x => rfl),
    Fintype.sum_prod_type, Finset.sum_comm]
  refine Finset.sum_congr rfl fun i _ => ?_
  dsimp only
  rw [Polynomial.sum_comp, Finset.mul_sum]
  refine Finset.sum_congr rfl fun k _ => ?_
  rw [mul_comp, C_comp, X_pow_comp, ← C_mul_X_pow_eq_monomial, pow_add, pow_mul]
  exact mul_left_comm _ _ _

theorem exists_splitPoly_of_natDegree_lt (P : K[X]) (d r : Nat) (hlt : P.natDegree < d * r) :
    ∃ Pi : Fin r → K[X], splitPoly Pi = P ∧ ∀ i, (Pi i).degree < d :=
  ⟨_, splitPoly_of_coeff P d r hlt, fun _ => degree_sum_fin_lt _⟩

theorem exists_splitPoly (P : K[X]) {r : Nat} (hr : 0 < r) :
    ∃ Pi : Fin r → K[X], splitPoly Pi = P := by
  obtain ⟨Pi, h, _⟩ := exists_splitPoly_of_natDegree_lt P (P.natDegree + 1) r (by
    have : (P.natDegree + 1) * 1 ≤ (P.natDegree + 1) * r := Nat.mul_le_mul_left _ hr
    omega)
  exact ⟨Pi, h⟩

theorem foldPoly_degree_lt {r : Nat} (Pi : Fin r → K[X]) (β : K) (d : Nat)
    (h : ∀ i, (Pi i).degree < d) : (foldPoly Pi β).degree < d := by
  refine mem_degreeLT.1 (Submodule.sum_mem _ fun i _ => ?_)
  rw [← smul_eq_C_mul]
  exact Submodule.smul_mem _ _ (mem_degreeLT.2 (h i))

variable [DecidableEq K]

theorem lagrangeEval_formula (pts : List (K × K)) (x : K) :
    @Poly.lagrangeEval K (FOps.ofField K) pts x
      = ∑ i : Fin pts.length, pts[i].2
          * (∏ j : Fin pts.length, if (i : Nat) = j then 1 else (x - pts[j].1))
          * (∏ j : Fin pts.length, if (i : Nat) = j then 1 else (pts[i].1 - pts[j].1))⁻¹ := by
  -- read backwards, the products are the model's inner folds; the outer fold is the sum
  simp only [← foldl_zipIdx_skip]
  unfold Poly.lagrangeEval
  refine (foldl_add_form _ _ _ (fun _ _ => rfl) _).trans ?_
  rw [sum_map_zipIdx]
  exact zero_add _

theorem lagrangeEval_eq_interpolate_univ (pts : List (K × K)) (x : K) :
    @Poly.lagrangeEval K (FOps.ofField K) pts x
      = (Lagrange.interpolate Finset.univ (fun i : Fin pts.length => pts[i].1)
          (fun i : Fin pts.length => pts[i].2)).eval x := by
  rw [lagrangeEval_formula, Lagrange.interpolate_apply, eval_finsetSum]
  refine Finset.sum_congr rfl fun i _ => ?_
  rw [eval_mul, eval_C, mul_assoc, prod_ite_skip, prod_ite_skip, ← Finset.prod_inv_distrib,
    ← Finset.prod_mul_distrib, Lagrange.basis, eval_prod]
  refine congrArg _ (Finset.prod_congr rfl fun j _ => ?_)
  rw [Lagrange.basisDivisor, eval_mul, eval_C, eval_sub, eval_X, eval_C, mul_comm]

theorem lagrangeEval_of_poly (nodes : List K) (hn : nodes.Nodup) (p : K[X])
    (hp : p.degree < nodes.length) (x : K) :
    @Poly.lagrangeEval K (FOps.ofField K) (nodes.map fun a => (a, p.eval a)) x = p.eval x := by
  rw [lagrangeEval_eq_interpolate_univ]
  congr 1
  symm
  apply Lagrange.eq_interpolate_of_eval_eq
  · intro i _ j _ h
    simp only [Fin.getElem_fin, List.getElem_map] at h
    apply Fin.ext
    exact (List.Nodup.getElem_inj_iff hn).1 h
  · rwa [Finset.card_univ, Fintype.card_fin, List.length_map]
  · intro i _
    simp only [Fin.getElem_fin, List.getElem_map]

theorem ofList_divideByLinear (c : List K) (z : K) :
    ofList (@Poly.divideByLinear K (FOps.ofField K) c z) = ofList c /ₘ (X - C z) := by
  -- `c = synth(c)·(X − z) + c(z)`, by induction along the running Horner values
  have key : ∀ (c : List K) (a : K), ofList (a :: c)
      = ofList (Lemmas.C15.synth c z) * (X - C z) + C (@Poly.eval K (FOps.ofField K) (a :: c) z) := by
    intro c
    induction c with
    | nil => intro a; simp [Lemmas.C15.synth, ofList, Lemmas.C15.eval_cons, Lemmas.C15.eval_nil]
    | cons b c ih =>
      intro a
      rw [ofList, ih b, Lemmas.C15.synth, ofList, Lemmas.C15.eval_cons _ (b :: c), C_add, C_mul]
      ring
  refine ((div_modByMonic_unique _ (C (@Poly.eval K (FOps.ofField K) c z)) (monic_X_sub_C z)
    ⟨?_, ?_⟩).1).symm
  · cases c with
    | nil => simp [Lemmas.C15.divideByLinear_nil, ofList, Lemmas.C15.eval_nil]
    | cons a c => rw [Lemmas.C15.divideByLinear_cons, key c a, add_comm, mul_comm]
  · rw [degree_X_sub_C]
    exact degree_C_le.trans_lt zero_lt_one

/-- `Σ_{a∈S} w(a) · ∏_{b∈S, b≠a} (X − b)`: the sum `Σ_a w(a)/(X − a)` multiplied by `∏_{b∈S}(X − b)` -/
noncomputable def logupPoly (S : Finset K) (w : K → K) : K[X] :=
  ∑ a ∈ S, w a • ∏ b ∈ S.erase a, (X - C b)

theorem logupPoly_eval (S : Finset K) (w : K → K) (x : K) :
    (logupPoly S w).eval x = ∑ a ∈ S, w a * ∏ b ∈ S.erase a, (x - b) := by
  simp only [logupPoly, eval_finsetSum, eval_smul, smul_eq_mul, eval_prod, eval_sub, eval_X, eval_C]

theorem logupPoly_eval_node (S : Finset K) (w : K → K) {a : K} (ha : a ∈ S) :
    (logupPoly S w).eval a = w a * ∏ b ∈ S.erase a, (a - b) := by
  rw [logupPoly_eval, Finset.sum_eq_single a]
  · intro c _ hca
    rw [Finset.prod_eq_zero (i := a) (Finset.mem_erase.2 ⟨fun h => hca h.symm, ha⟩) (sub_self a),
      mul_zero]
  · intro h; exact absurd ha h

theorem prod_erase_ne_zero (S : Finset K) (a : K) : ∏ b ∈ S.erase a, (a - b) ≠ 0 := by
  rw [Finset.prod_ne_zero_iff]
  intro b hb
  exact sub_ne_zero.2 (Finset.mem_erase.1 hb).1.symm

theorem logupPoly_degree_lt (S : Finset K) (w : K → K) : (logupPoly S w).degree < S.card := by
  refine mem_degreeLT.1 (Submodule.sum_mem _ fun a ha => Submodule.smul_mem _ _ (mem_degreeLT.2 ?_))
  rw [← Finset.card_erase_add_one ha, Nat.cast_add_one]
  exact (Lagrange.degree_nodal (s := S.erase a) (v := id)).trans_lt (WithBot.coe_lt_coe.2 (Nat.lt_succ_self _))

theorem logupPoly_eval_off (S : Finset K) (w : K → K) {x : K} (hx : x ∉ S) :
    (logupPoly S w).eval x = (∏ b ∈ S, (x - b)) * ∑ a ∈ S, w a / (x - a) := by
  rw [logupPoly_eval, mul_comm]
  exact (sum_div_mul_prod S w (x - ·) fun a ha => sub_ne_zero.2 fun h => hx (h ▸ ha)).symm

theorem sum_map_eq_count_sum (f : List K) (S : Finset K) (hS : f.toFinset ⊆ S) (g : K → K) :
    (f.map g).sum = ∑ a ∈ S, (f.count a : K) * g a := by
  rw [Finset.sum_list_map_count, ← Finset.sum_subset hS]
  · exact Finset.sum_congr rfl fun a _ => nsmul_eq_mul _ _
  · intro a _ ha
    rw [List.count_eq_zero_of_not_mem (mt List.mem_toFinset.2 ha), Nat.cast_zero, zero_mul]

theorem sum_map_eq_ite_sum (t : List K) (ht : t.Nodup) (S : Finset K) (hS : t.toFinset ⊆ S)
    (m : K → ℕ) (g : K → K) :
    (t.map fun a => (m a : K) * g a).sum
      = ∑ a ∈ S, ((if a ∈ t then m a else 0 : ℕ) : K) * g a := by
  rw [← List.sum_toFinset _ ht, ← Finset.sum_subset hS]
  · exact Finset.sum_congr rfl fun a ha => by rw [if_pos (List.mem_toFinset.1 ha)]
  · intro a _ ha
    rw [if_neg (mt List.mem_toFinset.2 ha), Nat.cast_zero, zero_mul]

end

end P2.Lemmas.Alg2
