/-
C07, degrees: every constraint of a gate has degree at most the declared `GateKind.degree`.

"Degree" is taken SEMANTICALLY: a constraint is a function of the row (wires, constants,
public-input hash); we restrict it to an arbitrary LINE `t ↦ V t` of rows (every readable entry an
affine function of the parameter `t`) and show that the restriction is a univariate polynomial
function of degree ≤ `g.degree`.  For a polynomial `P` in many variables over a field with more
than `deg P` elements, `P` has total degree ≤ d iff its restriction to every line has degree ≤ d
(the top homogeneous component of `P` does not vanish identically, so some direction keeps the
leading coefficient); so "degree ≤ d along every line" is the right model-independent rendering of
plonky2's `Gate::degree()` contract (the quotient-degree computation of the prover only uses this
bound).  The statements hold over ANY field `K` and for ALL constraint indices (`con` is `0` past
the end of the constraint list).

For each gate kind with constraints, `<gate>_degree_list` bounds the whole constraint list along a line
(`BaseSumGate` is treated through its closed forms in `P2/Props/C07b.lean`; the statement for all gates,
`gate_degree`, and the necessity of the side conditions `DegreeOK` are there too).
-/
import P2.Lemmas.C07Simple
import P2.Lemmas.C07RandomAccess
import Mathlib.Algebra.Polynomial.Degree.Lemmas
import Mathlib.Algebra.Polynomial.Roots
import Mathlib.Data.List.GetD

set_option linter.unusedSectionVars false
set_option linter.unusedVariables false

namespace P2.Lemmas.C07
open P2 P2.Gates Polynomial

section Deg
variable {K : Type} [Field K] [DecidableEq K] [Inhabited K]

def DegLE (d : ℕ) (f : K → K) : Prop := ∃ p : Polynomial K, p.natDegree ≤ d ∧ ∀ t, f t = p.eval t

namespace DegLE
variable {a b d d' : ℕ} {f g : K → K}

theorem congr (h : DegLE d f) (hfg : ∀ t, g t = f t) : DegLE d g := by
  obtain ⟨p, hp, he⟩ := h
  exact ⟨p, hp, fun t => (hfg t).trans (he t)⟩

theorem mono (h : DegLE d f) (hd : d ≤ d' := by omega) : DegLE d' f := by
  obtain ⟨p, hp, he⟩ := h
  exact ⟨p, hp.trans hd, he⟩

theorem const (c : K) : DegLE d (fun _ => c) :=
  ⟨C c, by simp, fun t => by simp⟩

theorem zero : DegLE d (fun _ => (0 : K)) := const 0
theorem one : DegLE d (fun _ => (1 : K)) := const 1
theorem natCast (n : ℕ) : DegLE d (fun _ => (n : K)) := const _

theorem id : DegLE 1 (fun t : K => t) := ⟨X, natDegree_X_le, fun t => by simp⟩

theorem add (hf : DegLE d f) (hg : DegLE d g) : DegLE d (fun t => f t + g t) := by
  obtain ⟨p, hp, hpe⟩ := hf
  obtain ⟨q, hq, hqe⟩ := hg
  exact ⟨p + q, natDegree_add_le_of_degree_le hp hq, fun t => by simp [hpe, hqe]⟩

theorem neg (hf : DegLE d f) : DegLE d (fun t => - f t) := by
  obtain ⟨p, hp, hpe⟩ := hf
  exact ⟨-p, by simpa using hp, fun t => by simp [hpe]⟩

theorem sub (hf : DegLE d f) (hg : DegLE d g) : DegLE d (fun t => f t - g t) := by
  obtain ⟨p, hp, hpe⟩ := hf
  obtain ⟨q, hq, hqe⟩ := hg
  exact ⟨p - q, (natDegree_sub_le _ _).trans (max_le hp hq), fun t => by simp [hpe, hqe]⟩

theorem mul (hf : DegLE a f) (hg : DegLE b g) : DegLE (a + b) (fun t => f t * g t) := by
  obtain ⟨p, hp, hpe⟩ := hf
  obtain ⟨q, hq, hqe⟩ := hg
  exact ⟨p * q, natDegree_mul_le_of_le hp hq, fun t => by simp [hpe, hqe]⟩

theorem mul_const (hf : DegLE d f) (c : K) : DegLE d (fun t => f t * c) :=
  hf.mul (const (d := 0) c)

theorem affine (a b : K) : DegLE 1 (fun t => a + t * b) := (const a).add (id.mul_const b)

/-- variants with slack, convenient in term-mode proofs -/
theorem add' (hf : DegLE a f) (hg : DegLE b g) (ha : a ≤ d := by omega) (hb : b ≤ d := by omega) :
    DegLE d (fun t => f t + g t) := (hf.mono ha).add (hg.mono hb)
theorem sub' (hf : DegLE a f) (hg : DegLE b g) (ha : a ≤ d := by omega) (hb : b ≤ d := by omega) :
    DegLE d (fun t => f t - g t) := (hf.mono ha).sub (hg.mono hb)

/-- bottom-up variants: the bound is computed from the parts -/
theorem addm (hf : DegLE a f) (hg : DegLE b g) : DegLE (max a b) (fun t => f t + g t) :=
  (hf.mono (le_max_left _ _)).add (hg.mono (le_max_right _ _))
theorem subm (hf : DegLE a f) (hg : DegLE b g) : DegLE (max a b) (fun t => f t - g t) :=
  (hf.mono (le_max_left _ _)).sub (hg.mono (le_max_right _ _))

theorem ite (c : Prop) [Decidable c] (hf : DegLE d f) (hg : DegLE d g) :
    DegLE d (fun t => if c then f t else g t) := by
  by_cases h : c
  · simpa [h] using hf
  · simpa [h] using hg

theorem pow (hf : DegLE a f) (n : ℕ) : DegLE (n * a) (fun t => f t ^ n) := by
  induction n with
  | zero => simpa using (one : DegLE 0 (fun _ : K => (1 : K)))
  | succ n ih => exact (ih.mul hf).congr (fun t => pow_succ _ _) |>.mono (by rw [Nat.succ_mul])

theorem finset_sum {ι : Type} (s : Finset ι) (F : ι → K → K) (h : ∀ i ∈ s, DegLE d (F i)) :
    DegLE d (fun t => ∑ i ∈ s, F i t) := by
  classical
  induction s using Finset.induction_on with
  | empty => simpa using (zero : DegLE d (fun _ : K => (0 : K)))
  | insert i s hi ih =>
    refine ((h i (Finset.mem_insert_self _ _)).add
      (ih fun j hj => h j (Finset.mem_insert_of_mem hj))).congr fun t => ?_
    rw [Finset.sum_insert hi]

theorem finset_prod {ι : Type} (s : Finset ι) (F : ι → K → K) (h : ∀ i ∈ s, DegLE a (F i)) :
    DegLE (s.card * a) (fun t => ∏ i ∈ s, F i t) := by
  classical
  induction s using Finset.induction_on with
  | empty => simpa using (one : DegLE 0 (fun _ : K => (1 : K)))
  | insert i s hi ih =>
    refine (((h i (Finset.mem_insert_self _ _)).mul
      (ih fun j hj => h j (Finset.mem_insert_of_mem hj))).congr fun t => ?_).mono ?_
    · rw [Finset.prod_insert hi]
    · rw [Finset.card_insert_of_notMem hi, Nat.succ_mul]; omega

theorem foldl_add (l : List ℕ) (F : K → ℕ → K) (init : K → K) (hi : DegLE d init)
    (h : ∀ i ∈ l, DegLE d (fun t => F t i)) :
    DegLE d (fun t => l.foldl (fun acc i => acc + F t i) (init t)) := by
  induction l generalizing init with
  | nil => exact hi
  | cons x l ih =>
    simp only [List.foldl_cons]
    exact ih _ (hi.add (h x (List.mem_cons_self))) fun i hi' => h i (List.mem_cons_of_mem _ hi')

/-- big-endian binary reconstruction `acc ↦ 2·acc + b` -/
theorem foldl_double (l : List ℕ) (B : K → ℕ → K) (hB : ∀ i, DegLE d (fun t => B t i))
    (init : K → K) (hi : DegLE d init) :
    DegLE d (fun t => (l.map (B t)).foldl (fun acc b => acc + acc + b) (init t)) := by
  induction l generalizing init with
  | nil => exact hi
  | cons x l ih =>
    simp only [List.map_cons, List.foldl_cons]
    exact ih _ ((hi.add hi).add (hB x))

theorem zero_iff : DegLE 0 f ↔ ∃ c, ∀ t, f t = c := by
  constructor
  · rintro ⟨p, hp, he⟩
    rw [Nat.le_zero, natDegree_eq_zero] at hp
    obtain ⟨c, rfl⟩ := hp
    exact ⟨c, fun t => by simp [he]⟩
  · rintro ⟨c, hc⟩
    exact (const c).congr hc

/-- over an infinite field the notion is sharp: a polynomial function has degree ≤ d exactly when
its polynomial has -/
theorem eval_iff [Infinite K] (q : Polynomial K) : DegLE d (fun t => q.eval t) ↔ q.natDegree ≤ d := by
  constructor
  · rintro ⟨p, hp, he⟩
    have : q = p := Polynomial.funext he
    rw [this]; exact hp
  · intro h; exact ⟨q, h, fun _ => rfl⟩

theorem not_pow [Infinite K] (d : ℕ) : ¬ DegLE d (fun t : K => t ^ (d + 1)) := fun h =>
  absurd ((eval_iff (X ^ (d + 1) : Polynomial K)).1 (h.congr fun t => by rw [eval_pow, eval_X]))
    (by rw [natDegree_X_pow]; exact Nat.not_succ_le_self d)

end DegLE

theorem getElem!_map {α β : Type} [Inhabited β] (A : Array α) (f : α → β) (i : ℕ) :
    (A.map f)[i]! = (A[i]?.map f).getD default := by
  rw [getElem!_def, Array.getElem?_map]; rfl

theorem DegLE.getElem!_map {α : Type} {d : ℕ} (A : Array α) (F : K → α → K)
    (h : ∀ x, DegLE d (fun t => F t x)) (i : ℕ) : DegLE d (fun t => (A.map (F t))[i]!) := by
  simp only [C07.getElem!_map]
  cases A[i]? with
  | none => exact DegLE.const _
  | some x => exact h x

/-- a one-parameter family of rows in which every value the gate can read (wire, constant,
public-input-hash entry) is a polynomial of degree ≤ 1 in the parameter -/
structure Line (V : K → EvalVars K) : Prop where
  wires : ∀ i : ℕ, DegLE 1 (fun t => (V t).wires[i]!)
  constants : ∀ i : ℕ, DegLE 1 (fun t => (V t).constants[i]!)
  pih : ∀ i : ℕ, DegLE 1 (fun t => (V t).pih[i]!)

/-- the row at parameter `t` on the affine line with base point / direction given entrywise as pairs
`(a, b) ↦ a + t·b` -/
def affineRow (cs ws ps : Array (K × K)) (t : K) : EvalVars K :=
  ⟨cs.map fun p => p.1 + t * p.2, ws.map fun p => p.1 + t * p.2, ps.map fun p => p.1 + t * p.2⟩

def AlgDegLE (d : ℕ) (x : K → Alg K) : Prop :=
  DegLE d (fun t => (x t).1) ∧ DegLE d (fun t => (x t).2)

namespace AlgDegLE
variable {a b d d' : ℕ} {x y : K → Alg K} {s : K → K}

theorem mono (h : AlgDegLE d x) (hd : d ≤ d' := by omega) : AlgDegLE d' x := ⟨h.1.mono hd, h.2.mono hd⟩

theorem const (c : Alg K) : AlgDegLE d (fun _ => c) := ⟨DegLE.const _, DegLE.const _⟩

theorem mk (h1 : DegLE d f) (h2 : DegLE d g) : AlgDegLE d (fun t => ((f t, g t) : Alg K)) := ⟨h1, h2⟩

theorem ofK (hs : DegLE d s) : AlgDegLE d (fun t => @Alg.ofK K (FOps.ofField K) (s t)) :=
  ⟨hs, DegLE.const _⟩

theorem addm (hx : AlgDegLE a x) (hy : AlgDegLE b y) :
    AlgDegLE (max a b) (fun t => @Alg.add K (FOps.ofField K) (x t) (y t)) :=
  ⟨hx.1.addm hy.1, hx.2.addm hy.2⟩

theorem subm (hx : AlgDegLE a x) (hy : AlgDegLE b y) :
    AlgDegLE (max a b) (fun t => @Alg.sub K (FOps.ofField K) (x t) (y t)) :=
  ⟨hx.1.subm hy.1, hx.2.subm hy.2⟩

theorem add (hx : AlgDegLE d x) (hy : AlgDegLE d y) :
    AlgDegLE d (fun t => @Alg.add K (FOps.ofField K) (x t) (y t)) :=
  ⟨hx.1.add hy.1, hx.2.add hy.2⟩

theorem mul (hx : AlgDegLE a x) (hy : AlgDegLE b y) :
    AlgDegLE (a + b) (fun t => @Alg.mul K (FOps.ofField K) (x t) (y t)) :=
  ⟨(hx.1.mul hy.1).add (((DegLE.const (d := 0) _).mul (hx.2.mul hy.2)).mono (Nat.zero_add _).le),
   (hx.1.mul hy.2).add (hx.2.mul hy.1)⟩

theorem smul (hx : AlgDegLE a x) (hs : DegLE b s) :
    AlgDegLE (a + b) (fun t => @Alg.smul K (FOps.ofField K) (x t) (s t)) :=
  ⟨hx.1.mul hs, hx.2.mul hs⟩

theorem smul_const (hx : AlgDegLE d x) (c : K) :
    AlgDegLE d (fun t => @Alg.smul K (FOps.ofField K) (x t) c) :=
  hx.smul (DegLE.const (d := 0) c)

theorem foldl_add (l : List ℕ) (F : K → ℕ → Alg K) (init : K → Alg K)
    (hi : AlgDegLE d init) (h : ∀ i, AlgDegLE d (fun t => F t i)) :
    AlgDegLE d (fun t => l.foldl (fun acc i => @Alg.add K (FOps.ofField K) acc (F t i)) (init t)) := by
  induction l generalizing init with
  | nil => exact hi
  | cons x l ih =>
    simp only [List.foldl_cons]
    exact ih _ (hi.add (h x))

theorem getElem!_map_range (n : ℕ) (F : K → ℕ → Alg K)
    (h : ∀ i, AlgDegLE d (fun t => F t i)) (j : ℕ) :
    AlgDegLE d (fun t => ((Array.range n).map (F t))[j]!) := by
  simp only [C07.getElem!_map]
  cases (Array.range n)[j]? with
  | none => exact AlgDegLE.const _
  | some x => exact h x

end AlgDegLE

/-- the length must not depend on the parameter: `append` shifts the indices of its second list by it -/
def ListDegLE (d : ℕ) (L : K → List K) : Prop :=
  (∃ n, ∀ t, (L t).length = n) ∧ ∀ i, DegLE d (fun t => (L t).getD i 0)

namespace ListDegLE
variable {a b d d' : ℕ} {L L' : K → List K} {f : K → K}

theorem mono (h : ListDegLE d L) (hd : d ≤ d' := by omega) : ListDegLE d' L :=
  ⟨h.1, fun i => (h.2 i).mono hd⟩

theorem congr (h : ListDegLE d L) (he : ∀ t, L' t = L t) : ListDegLE d L' := by
  have : L' = L := funext he
  rw [this]; exact h

theorem nil : ListDegLE d (fun _ : K => ([] : List K)) :=
  ⟨⟨0, fun _ => rfl⟩, fun _ => DegLE.zero⟩

theorem cons (hf : DegLE d f) (hL : ListDegLE d L) : ListDegLE d (fun t => f t :: L t) := by
  obtain ⟨⟨n, hn⟩, hL⟩ := hL
  exact ⟨⟨n + 1, fun t => congrArg Nat.succ (hn t)⟩, fun i => match i with
    | 0 => hf
    | i + 1 => hL i⟩

theorem singleton (hf : DegLE d f) : ListDegLE d (fun t => [f t]) := cons hf nil

theorem append (hL : ListDegLE d L) (hL' : ListDegLE d L') : ListDegLE d (fun t => L t ++ L' t) := by
  obtain ⟨⟨n, hn⟩, hL⟩ := hL
  obtain ⟨⟨n', hn'⟩, hL'⟩ := hL'
  refine ⟨⟨n + n', fun t => by simp [hn, hn']⟩, fun i => ?_⟩
  by_cases h : i < n
  · exact (hL i).congr fun t => List.getD_append _ _ _ _ (by rw [hn]; exact h)
  · exact (hL' (i - n)).congr fun t => by
      rw [List.getD_append_right _ _ _ _ (by rw [hn]; omega), hn]

theorem map_range (n : ℕ) (F : K → ℕ → K) (h : ∀ i, i < n → DegLE d (fun t => F t i)) :
    ListDegLE d (fun t => (List.range n).map (F t)) := by
  refine ⟨⟨n, fun t => by simp⟩, fun i => ?_⟩
  by_cases hi : i < n
  · exact (h i hi).congr fun t => by rw [getD_map_range, if_pos hi]
  · exact DegLE.zero.congr fun t => by rw [getD_map_range, if_neg hi]

theorem map_map_range (n : ℕ) (F : K → ℕ → K) (G : K → K → K)
    (h : ∀ i, i < n → DegLE d (fun t => G t (F t i))) :
    ListDegLE d (fun t => ((List.range n).map (F t)).map (G t)) :=
  (map_range n (fun t i => G t (F t i)) h).congr fun t => by rw [List.map_map]; rfl

theorem flatMap_range (n : ℕ) (F : K → ℕ → List K) (h : ∀ i, i < n → ListDegLE d (fun t => F t i)) :
    ListDegLE d (fun t => (List.range n).flatMap (F t)) := by
  induction n with
  | zero => exact nil
  | succ n ih =>
    refine ((ih fun i hi => h i (by omega)).append (h n (by omega))).congr fun t => ?_
    rw [List.range_succ, List.flatMap_append]; simp

theorem comps {x : K → Alg K} (hx : AlgDegLE d x) : ListDegLE d (fun t => Alg.comps (x t)) :=
  cons hx.1 (singleton hx.2)

theorem headD (hL : ListDegLE d L) (c : K) : DegLE d (fun t => (L t).headD c) := by
  obtain ⟨⟨n, hn⟩, hL⟩ := hL
  refine (DegLE.ite (n = 0) (DegLE.const c) (hL 0)).congr fun t => ?_
  rw [← hn t]
  cases L t with
  | nil => rfl
  | cons z zs => rfl

/-- one level of the multiplexer tree of `RandomAccessGate` -/
theorem foldPairs {b : K → K} (hL : ListDegLE d L) (hb : DegLE 1 b) :
    ListDegLE (d + 1) (fun t => @raFoldPairs K (FOps.ofField K) (b t) (L t)) := by
  obtain ⟨⟨n, hn⟩, hL⟩ := hL
  have hlen : ∀ t, (raFold (b t) (L t)).length = n / 2 := fun t => by rw [raFold_length, hn]
  refine ⟨⟨n / 2, hlen⟩, fun i => ?_⟩
  by_cases h : 2 * i + 1 < n
  · exact (((hL (2 * i)).mono (d' := d + 1)).add
      ((hb.mul ((hL (2 * i + 1)).sub (hL (2 * i)))).mono)).congr
        fun t => raFold_getD _ 0 _ i (by rw [hn]; exact h)
  · exact DegLE.zero.congr fun t => List.getD_eq_default _ _ ((hlen t).trans_le (by omega))

/-- each level multiplies by one bit, so `m` levels add `m` to the degree -/
theorem foldl_foldPairs (l : List ℕ) (B : K → ℕ → K)
    (hB : ∀ i, DegLE 1 (fun t => B t i)) (L : K → List K) (hL : ListDegLE d L) :
    ListDegLE (d + l.length) (fun t =>
      (l.map (B t)).foldl (fun items b => @raFoldPairs K (FOps.ofField K) b items) (L t)) := by
  induction l generalizing L d with
  | nil => exact hL
  | cons x l ih =>
    simp only [List.map_cons, List.foldl_cons, List.length_cons]
    exact (ih _ (hL.foldPairs (hB x))).mono

end ListDegLE

def ArrDegLE (d : ℕ) (S : K → Array K) : Prop :=
  (∃ n, ∀ t, (S t).size = n) ∧ ∀ j : ℕ, DegLE d (fun t => ((S t)[j]?).getD 0)

namespace ArrDegLE
variable {d d' : ℕ} {S : K → Array K}

theorem mono (h : ArrDegLE d S) (hd : d ≤ d' := by omega) : ArrDegLE d' S :=
  ⟨h.1, fun j => (h.2 j).mono hd⟩

theorem getElem! (h : ArrDegLE d S) (j : ℕ) : DegLE d (fun t => (S t)[j]!) := by
  obtain ⟨⟨n, hn⟩, h⟩ := h
  by_cases hj : j < n
  · refine (h j).congr fun t => ?_
    simp [hn, hj]
  · refine (DegLE.const default).congr fun t => ?_
    simp [hn, hj]

theorem toList (h : ArrDegLE d S) : ListDegLE d (fun t => (S t).toList) :=
  ⟨by simpa using h.1, fun i => (h.2 i).congr fun t => by simp [List.getD_eq_getElem?_getD]⟩

theorem of_getElem! (n : ℕ) (hn : ∀ t, (S t).size = n)
    (h : ∀ j, j < n → DegLE d (fun t => (S t)[j]!)) : ArrDegLE d S := by
  refine ⟨⟨n, hn⟩, fun j => ?_⟩
  by_cases hj : j < n
  · refine (h j hj).congr fun t => ?_
    simp [hn, hj]
  · refine DegLE.zero.congr fun t => ?_
    simp [hn, hj]

theorem empty : ArrDegLE d (fun _ : K => (#[] : Array K)) :=
  ⟨⟨0, fun _ => rfl⟩, fun j => DegLE.zero.congr fun t => by simp⟩

theorem map_range (n : ℕ) (F : K → ℕ → K) (h : ∀ i, i < n → DegLE d (fun t => F t i)) :
    ArrDegLE d (fun t => (Array.range n).map (F t)) :=
  of_getElem! n (fun t => by simp) fun j hj => (h j hj).congr fun t => by simp [hj]

theorem push {x : K → K} (h : ArrDegLE d S) (hx : DegLE d x) : ArrDegLE d (fun t => (S t).push (x t)) := by
  obtain ⟨n, hn⟩ := h.1
  refine of_getElem! (n + 1) (fun t => by simp [hn]) fun j hj =>
    (DegLE.ite (j < n) (h.getElem! j) hx).congr fun t => ?_
  rw [getElem!_def, getElem!_def, Array.getElem?_push, hn]
  by_cases hjn : j < n
  · rw [if_pos hjn, if_neg (Nat.ne_of_lt hjn)]
  · rw [if_neg hjn, if_pos (Nat.le_antisymm (Nat.le_of_lt_succ hj) (Nat.le_of_not_lt hjn))]

theorem set! {x : K → K} (h : ArrDegLE d S) (hx : DegLE d x) (k : ℕ) :
    ArrDegLE d (fun t => (S t).set! k (x t)) := by
  obtain ⟨n, hn⟩ := h.1
  exact of_getElem! n (fun t => by simp [hn]) fun j _ =>
    (DegLE.ite (j = k ∧ k < n) hx (h.getElem! j)).congr fun t => by rw [getElem!_set!, hn]

theorem mapIdx_add (h : ArrDegLE d S) (c : ℕ → K) :
    ArrDegLE d (fun t => (S t).mapIdx fun i x => x + c i) := by
  obtain ⟨n, hn⟩ := h.1
  refine of_getElem! n (fun t => by simp [hn]) fun j hj =>
    ((h.getElem! j).add (DegLE.const (c j))).congr fun t => ?_
  simp [hn, hj]

theorem map (h : ArrDegLE d S) (G : K → K) (hG : ∀ g : K → K, DegLE d g → DegLE d' (fun t => G (g t))) :
    ArrDegLE d' (fun t => (S t).map G) := by
  obtain ⟨n, hn⟩ := h.1
  refine of_getElem! n (fun t => by simp [hn]) fun j hj => (hG _ (h.getElem! j)).congr fun t => ?_
  simp [hn, hj]

theorem foldl_push (l : List ℕ) (F : K → ℕ → K) (hF : ∀ i, DegLE d (fun t => F t i))
    (cs : K → Array K) (h : ArrDegLE d cs) :
    ArrDegLE d (fun t => l.foldl (fun cs i => cs.push (F t i)) (cs t)) := by
  induction l generalizing cs with
  | nil => exact h
  | cons x l ih =>
    simp only [List.foldl_cons]
    exact ih _ (h.push (hF x))

end ArrDegLE

theorem foldl_range_inv {σ : Type} (P : ℕ → (K → σ) → Prop) (n : ℕ) (step : K → σ → ℕ → σ)
    (S0 : K → σ) (h0 : P 0 S0)
    (hstep : ∀ r S, r < n → P r S → P (r + 1) (fun t => step t (S t) r)) :
    P n (fun t => (List.range n).foldl (step t) (S0 t)) := by
  induction n with
  | zero => exact h0
  | succ n ih =>
    have := hstep n _ (Nat.lt_succ_self n) (ih fun r S hr => hstep r S (by omega))
    simpa only [List.range_succ, List.foldl_append, List.foldl_cons, List.foldl_nil] using this

namespace Line
variable {V : K → EvalVars K}

theorem w (hV : Line V) (i : ℕ) : DegLE 1 (fun t => @EvalVars.w K _ (V t) i) := hV.wires i
theorem c (hV : Line V) (i : ℕ) : DegLE 1 (fun t => @EvalVars.c K _ (V t) i) := hV.constants i
theorem alg (hV : Line V) (i : ℕ) : AlgDegLE 1 (fun t => @EvalVars.alg K _ (V t) i) :=
  ⟨hV.wires i, hV.wires (i + 1)⟩

end Line

section Gates
variable (V : K → EvalVars K) (hV : Line V)
include hV

theorem constant_degree_list (n : ℕ) : ListDegLE 1 (fun t => evalF (.constant n) (V t)) :=
  ListDegLE.map_range n _ fun i _ => (hV.c i).sub (hV.w i)

theorem publicInput_degree_list : ListDegLE 1 (fun t => evalF .publicInput (V t)) :=
  ListDegLE.map_range 4 _ fun i _ => (hV.w i).sub (hV.pih i)

theorem arithmetic_degree_list (n : ℕ) : ListDegLE 3 (fun t => evalF (.arithmetic n) (V t)) :=
  ListDegLE.map_range n _ fun i _ =>
    ((hV.w _).subm ((((hV.w _).mul (hV.w _)).mul (hV.c _)).addm ((hV.w _).mul (hV.c _)))).mono (by decide)

theorem arithmeticExt_degree_list (n : ℕ) : ListDegLE 3 (fun t => evalF (.arithmeticExt n) (V t)) :=
  ListDegLE.flatMap_range n _ fun i _ => ListDegLE.comps
    (((hV.alg _).subm ((((hV.alg _).mul (hV.alg _)).smul (hV.c _)).addm
      ((hV.alg _).smul (hV.c _)))).mono (by decide))

theorem mulExt_degree_list (n : ℕ) : ListDegLE 3 (fun t => evalF (.mulExt n) (V t)) :=
  ListDegLE.flatMap_range n _ fun i _ => ListDegLE.comps
    (((hV.alg _).subm (((hV.alg _).mul (hV.alg _)).smul (hV.c _))).mono (by decide))

theorem exponentiation_degree_list (n : ℕ) :
    ListDegLE 4 (fun t => evalF (.exponentiation n) (V t)) :=
  ListDegLE.append
    (ListDegLE.map_range n _ fun i _ =>
      (((DegLE.ite _ (DegLE.one (d := 2)) ((hV.w _).mul (hV.w _))).mul
        (((hV.w _).mul (hV.w _)).addm ((DegLE.one (d := 0)).subm (hV.w _)))).subm (hV.w _)).mono (by decide))
    (ListDegLE.singleton (((hV.w _).sub (hV.w _)).mono (by decide)))

omit hV in
/-- the common loop of `ReducingGate` and `ReducingExtensionGate` -/
theorem reducing_fold (l : List ℕ) (alpha : K → Alg K) (coeff accI : K → ℕ → Alg K)
    (hα : AlgDegLE 1 alpha) (hco : ∀ i, AlgDegLE 1 (fun t => coeff t i))
    (hai : ∀ i, AlgDegLE 1 (fun t => accI t i))
    (acc : K → Alg K) (cs : K → List K) (hacc : AlgDegLE 1 acc) (hcs : ListDegLE 2 cs) :
    ListDegLE 2 (fun t => (l.foldl (fun (st : Alg K × List K) i =>
      (accI t i, st.2 ++ Alg.comps (@Alg.sub K (FOps.ofField K)
        (@Alg.add K (FOps.ofField K) (@Alg.mul K (FOps.ofField K) st.1 (alpha t)) (coeff t i))
        (accI t i)))) (acc t, cs t)).2) := by
  induction l generalizing acc cs with
  | nil => exact hcs
  | cons x l ih =>
    simp only [List.foldl_cons]
    exact ih (fun t => accI t x) _ (hai x)
      (hcs.append (ListDegLE.comps ((((hacc.mul hα).addm (hco x)).subm (hai x)).mono (by decide))))

theorem reducing_degree_list (n : ℕ) : ListDegLE 2 (fun t => evalF (.reducing n) (V t)) :=
  reducing_fold (List.range n) _ (fun t i => @Alg.ofK K (FOps.ofField K) ((V t).wires[6 + i]!))
    (fun t i => ((V t).wires[redWiresAccs n i]!, (V t).wires[redWiresAccs n i + 1]!))
    (hV.alg 2) (fun i => AlgDegLE.ofK (hV.wires _)) (fun i => hV.alg _) _ _ (hV.alg 4) ListDegLE.nil

theorem reducingExt_degree_list (n : ℕ) : ListDegLE 2 (fun t => evalF (.reducingExt n) (V t)) :=
  reducing_fold (List.range n) _
    (fun t i => ((V t).wires[6 + 2 * i]!, (V t).wires[6 + 2 * i + 1]!))
    (fun t i => ((V t).wires[redExtWiresAccs n i]!, (V t).wires[redExtWiresAccs n i + 1]!))
    (hV.alg 2) (fun i => hV.alg _) (fun i => hV.alg _) _ _ (hV.alg 4) ListDegLE.nil

omit hV in
theorem mdsRowShfAlg_degree (r : ℕ) (A : K → Array (Alg K))
    (hA : ∀ j : ℕ, AlgDegLE 1 (fun t => (A t)[j]!)) :
    AlgDegLE 1 (fun t => @mdsRowShfAlg K (FOps.ofField K) _ r (A t)) :=
  (AlgDegLE.foldl_add (List.range spongeWidth)
      (fun t i => @Alg.smul K (FOps.ofField K) ((A t)[(i + r) % spongeWidth]!) ((mdsMatrixCirc[i]! : ℕ) : K))
      (fun _ => @Alg.zero K (FOps.ofField K)) (AlgDegLE.const _)
      (fun i => (hA _).smul_const _)).add
    ((hA _).smul_const _)

theorem poseidonMds_degree_list : ListDegLE 1 (fun t => evalF .poseidonMds (V t)) :=
  ListDegLE.flatMap_range spongeWidth _ fun i _ => ListDegLE.comps
    (((hV.alg _).subm (mdsRowShfAlg_degree i _
      (AlgDegLE.getElem!_map_range spongeWidth (fun t i => @EvalVars.alg K _ (V t) (2 * i))
        (fun i => hV.alg _)))).mono (by decide))

theorem randomAccess_degree_list (bits copies extra : ℕ) :
    ListDegLE (bits + 1) (fun t => evalF (.randomAccess bits copies extra) (V t)) := by
  refine ListDegLE.append (ListDegLE.flatMap_range copies _ fun copy _ => ?_)
    (ListDegLE.map_range extra _ fun i _ => ((hV.c _).sub (hV.w _)).mono)
  refine ListDegLE.append (ListDegLE.append ?_ (ListDegLE.singleton ?_)) (ListDegLE.singleton ?_)
  · -- the bits are boolean: degree 2 (and there are none when `bits = 0`)
    exact ListDegLE.map_map_range bits _ _ fun i hi =>
      ((hV.w _).mul ((hV.w _).sub (DegLE.one))).mono
  · -- the bits reconstruct the access index: degree 1
    refine DegLE.sub ?_ ((hV.w _).mono)
    refine ((DegLE.foldl_double (List.range bits).reverse
      (fun t i => (V t).wires[raWireBit bits copies extra i copy]!) (fun i => hV.wires _)
      (fun _ => 0) DegLE.zero).mono (d' := bits + 1)).congr fun t => ?_
    rw [List.map_reverse]; rfl
  · -- the multiplexer tree: degree 1 + bits
    refine DegLE.sub (ListDegLE.headD ?_ _) ((hV.w _).mono)
    refine ((ListDegLE.foldl_foldPairs (List.range bits)
      (fun t i => (V t).wires[raWireBit bits copies extra i copy]!) (fun i => hV.wires _) _
      (ListDegLE.map_range (raVecSize bits) (fun t i => (V t).wires[raWireListItem bits i copy]!)
        fun i _ => hV.wires _)).mono (by simp; omega)).congr fun t => rfl

end Gates

section Layers
variable {d : ℕ} {S : K → Array K}

theorem sboxMonomial_degree {x : K → K} (hx : DegLE 1 x) :
    DegLE 7 (fun t => @sboxMonomial K (FOps.ofField K) (x t)) :=
  (((hx.mul (hx.mul hx)).mul ((hx.mul hx).mul (hx.mul hx))).mono (by decide)).congr fun t => rfl

theorem constantLayer_degree (hS : ArrDegLE d S) (r : ℕ) :
    ArrDegLE d (fun t => @constantLayer K (FOps.ofField K) (S t) r) :=
  hS.mapIdx_add fun i => ((allRoundConstants[i + spongeWidth * r]! : ℕ) : K)

theorem partialFirstConstantLayer_degree (hS : ArrDegLE d S) :
    ArrDegLE d (fun t => @partialFirstConstantLayer K (FOps.ofField K) (S t)) :=
  hS.mapIdx_add fun i => ((fastPartialFirstRoundConstant[i]! : ℕ) : K)

theorem sboxLayer_degree (hS : ArrDegLE 1 S) :
    ArrDegLE 7 (fun t => @sboxLayer K (FOps.ofField K) (S t)) :=
  hS.map _ fun g hg => sboxMonomial_degree hg

theorem mdsRowShf_degree (hS : ArrDegLE d S) (r : ℕ) :
    DegLE d (fun t => @mdsRowShf K (FOps.ofField K) _ r (S t)) :=
  (DegLE.foldl_add (List.range spongeWidth)
      (fun t i => (S t)[(i + r) % spongeWidth]! * ((mdsMatrixCirc[i]! : ℕ) : K)) (fun _ => 0) DegLE.zero
      (fun i _ => (hS.getElem! _).mul_const _)).add
    ((hS.getElem! _).mul_const _)

theorem mdsLayer_degree (hS : ArrDegLE d S) :
    ArrDegLE d (fun t => @mdsLayer K (FOps.ofField K) _ (S t)) :=
  ArrDegLE.map_range spongeWidth _ fun r _ => mdsRowShf_degree hS r

theorem mdsPartialLayerInit_degree (hS : ArrDegLE d S) :
    ArrDegLE d (fun t => @mdsPartialLayerInit K (FOps.ofField K) _ (S t)) :=
  ArrDegLE.map_range spongeWidth _ fun c _ => DegLE.ite _ (hS.getElem! 0)
    (DegLE.foldl_add (List.range (spongeWidth - 1))
      (fun t r => (S t)[r + 1]! * (((fastPartialRoundInitialMatrix[r]!)[c - 1]! : ℕ) : K)) (fun _ => 0)
      DegLE.zero (fun i _ => (hS.getElem! _).mul_const _))

theorem mdsPartialLayerFast_degree (hS : ArrDegLE d S) (r : ℕ) :
    ArrDegLE d (fun t => @mdsPartialLayerFast K (FOps.ofField K) _ (S t) r) :=
  ArrDegLE.map_range spongeWidth _ fun i _ => DegLE.ite _
    (DegLE.foldl_add (List.range (spongeWidth - 1))
      (fun t i => (S t)[i + 1]! * (((fastPartialRoundWHats[r]!)[i]! : ℕ) : K))
      (fun t => (S t)[0]! * ((mdsMatrixCirc[0]! + mdsMatrixDiag[0]! : ℕ) : K))
      ((hS.getElem! _).mul_const _)
      (fun i _ => (hS.getElem! _).mul_const _))
    (((hS.getElem! _).mul_const _).add (hS.getElem! _))

end Layers

/-! the evaluator of `PoseidonGate` in stages (each stage maps `(state, constraints so far)`), one per
loop and over `FOps.ofField K`; `C07Poseidon.lean` cuts the executable evaluator over `GL` finer, one
`Stage` per round, to run it in step with the generator -/

def posStage1 (v : EvalVars K) : Array K × Array K :=
  (@posSwappedInputs K (FOps.ofField K) _ v,
   (List.range 4).foldl (fun cs i =>
      cs.push (v.wires[posWireSwap]! * (v.wires[posWireInput (i + 4)]! - v.wires[posWireInput i]!)
        - v.wires[posWireDelta i]!))
    #[v.wires[posWireSwap]! * (v.wires[posWireSwap]! - 1)])

/-- one full round: constant layer, the S-box inputs checked against the wires `wire` (not in the very first
round, whose inputs are not wires), S-boxes, MDS layer -/
def posFullRound (c : ℕ) (chk : Prop) [Decidable chk] (wire : ℕ → K) (acc : Array K × Array K) :
    Array K × Array K :=
  let x := if chk then
      @posCheckSboxIn K (FOps.ofField K) _ (@constantLayer K (FOps.ofField K) acc.1 c) acc.2 wire
    else (@constantLayer K (FOps.ofField K) acc.1 c, acc.2)
  (@mdsLayer K (FOps.ofField K) _ (@sboxLayer K (FOps.ofField K) x.1), x.2)

/-- one partial round: the S-box input wire `w` is checked against `state[0]`, which then becomes `s0` -/
def posPartialRound (r : ℕ) (w s0 : K) (acc : Array K × Array K) : Array K × Array K :=
  (@mdsPartialLayerFast K (FOps.ofField K) _ (acc.1.set! 0 s0) r, acc.2.push (acc.1[0]! - w))

def posStage2 (v : EvalVars K) (s : Array K × Array K) : Array K × Array K :=
  (List.range halfNFullRounds).foldl (fun acc r =>
    posFullRound r (r ≠ 0) (fun i => v.wires[posWireFullSbox0 r i]!) acc) s

def posStage3 (v : EvalVars K) (s : Array K × Array K) : Array K × Array K :=
  (List.range (nPartialRounds - 1)).foldl (fun acc r =>
    posPartialRound r v.wires[posWirePartialSbox r]!
      (@sboxMonomial K (FOps.ofField K) v.wires[posWirePartialSbox r]!
        + ((fastPartialRoundConstants[r]! : ℕ) : K)) acc)
    (@mdsPartialLayerInit K (FOps.ofField K) _ (@partialFirstConstantLayer K (FOps.ofField K) s.1), s.2)

def posStage4 (v : EvalVars K) (s : Array K × Array K) : Array K × Array K :=
  posPartialRound (nPartialRounds - 1) v.wires[posWirePartialSbox (nPartialRounds - 1)]!
    (@sboxMonomial K (FOps.ofField K) v.wires[posWirePartialSbox (nPartialRounds - 1)]!) s

def posStage5 (v : EvalVars K) (s : Array K × Array K) : Array K × Array K :=
  (List.range halfNFullRounds).foldl (fun acc r =>
    posFullRound (halfNFullRounds + nPartialRounds + r) True (fun i => v.wires[posWireFullSbox1 r i]!) acc) s

def posStage6 (v : EvalVars K) (s : Array K × Array K) : List K :=
  ((List.range spongeWidth).foldl (fun cs i => cs.push (s.1[i]! - v.wires[posWireOutput i]!)) s.2).toList

theorem evalPoseidon_stages (v : EvalVars K) :
    evalF .poseidon v
      = posStage6 v (posStage5 v (posStage4 v (posStage3 v (posStage2 v (posStage1 v))))) := by
  simp only [evalF, GateKind.evalUnfiltered]
  unfold evalPoseidon
  dsimp only
  rfl

theorem posCheckSboxIn_degree {state cs : K → Array K} (hs : ArrDegLE 7 state) (hc : ArrDegLE 7 cs)
    (wire : K → ℕ → K) (hw : ∀ i, DegLE 1 (fun t => wire t i)) :
    ArrDegLE 1 (fun t => (@posCheckSboxIn K (FOps.ofField K) _ (state t) (cs t) (wire t)).1) ∧
    ArrDegLE 7 (fun t => (@posCheckSboxIn K (FOps.ofField K) _ (state t) (cs t) (wire t)).2) := by
  have h1 : ArrDegLE 1 (fun t => (Array.range spongeWidth).map (wire t)) :=
    ArrDegLE.map_range spongeWidth _ fun i _ => hw i
  exact ⟨h1, ArrDegLE.foldl_push (List.range spongeWidth)
    (fun t i => (state t)[i]! - ((Array.range spongeWidth).map (wire t))[i]!)
    (fun i => (hs.getElem! i).sub ((h1.getElem! i).mono (by decide))) _ hc⟩

/-- the invariant of the evaluator's loops: state of degree ≤ `a`, constraints so far of degree ≤ 7 -/
def PSDegLE (a : ℕ) (S : K → Array K × Array K) : Prop :=
  ArrDegLE a (fun t => (S t).1) ∧ ArrDegLE 7 (fun t => (S t).2)

/-- a full round that checks its S-box inputs restarts from the wires (degree 1), so the state may come in
with degree 7; the first round does not, and needs the inputs themselves (degree 1) -/
theorem posFullRound_degree (c : ℕ) (chk : Prop) [Decidable chk] (wire : K → ℕ → K)
    (hw : ∀ i, DegLE 1 (fun t => wire t i)) (S : K → Array K × Array K)
    (hS : PSDegLE (if chk then 7 else 1) S) :
    PSDegLE 7 (fun t => posFullRound c chk (wire t) (S t)) := by
  unfold posFullRound
  by_cases h : chk
  · simp only [if_pos h] at hS ⊢
    have := posCheckSboxIn_degree (constantLayer_degree hS.1 c) hS.2 wire hw
    exact ⟨mdsLayer_degree (sboxLayer_degree this.1), this.2⟩
  · simp only [if_neg h] at hS ⊢
    exact ⟨mdsLayer_degree (sboxLayer_degree (constantLayer_degree hS.1 c)), hS.2⟩

theorem posPartialRound_degree (r : ℕ) (w s0 : K → K) (hw : DegLE 1 w) (hs0 : DegLE 7 s0)
    (S : K → Array K × Array K) (hS : PSDegLE 7 S) :
    PSDegLE 7 (fun t => posPartialRound r (w t) (s0 t) (S t)) :=
  ⟨mdsPartialLayerFast_degree (hS.1.set! hs0 0) r, hS.2.push ((hS.1.getElem! 0).sub (hw.mono (by decide)))⟩

section Stages
variable (V : K → EvalVars K) (hV : Line V)
include hV

theorem posSwappedInputs_degree :
    ArrDegLE 1 (fun t => @posSwappedInputs K (FOps.ofField K) _ (V t)) :=
  ArrDegLE.map_range spongeWidth _ fun i _ =>
    DegLE.ite _ ((hV.w _).add (hV.w _)) (DegLE.ite _ ((hV.w _).sub (hV.w _)) (hV.w _))

theorem posStage1_degree : PSDegLE 1 (fun t => posStage1 (V t)) :=
  ⟨posSwappedInputs_degree V hV,
   ArrDegLE.foldl_push (List.range 4)
    (fun t i => (V t).wires[posWireSwap]! * ((V t).wires[posWireInput (i + 4)]! - (V t).wires[posWireInput i]!)
      - (V t).wires[posWireDelta i]!)
    (fun i => (((hV.wires _).mul ((hV.wires _).sub (hV.wires _))).subm (hV.wires _)).mono (by decide)) _
    (ArrDegLE.empty.push (((hV.wires _).mul ((hV.wires _).sub DegLE.one)).mono (by decide)))⟩

theorem posStage2_degree (S : K → Array K × Array K) (hS : PSDegLE 1 S) :
    PSDegLE 7 (fun t => posStage2 (V t) (S t)) :=
  foldl_range_inv (fun r S => PSDegLE (if r ≠ 0 then 7 else 1) S) halfNFullRounds
    _ S hS
    fun r S _ h => posFullRound_degree r (r ≠ 0) _ (fun i => hV.wires _) S h

theorem posStage3_degree (S : K → Array K × Array K) (hS : PSDegLE 7 S) :
    PSDegLE 7 (fun t => posStage3 (V t) (S t)) :=
  foldl_range_inv (fun _ S => PSDegLE 7 S) (nPartialRounds - 1)
    _ _
    ⟨mdsPartialLayerInit_degree (partialFirstConstantLayer_degree hS.1), hS.2⟩
    fun r S _ h => posPartialRound_degree r _ _ (hV.wires _)
      ((sboxMonomial_degree (hV.wires _)).add (DegLE.const _)) S h

theorem posStage4_degree (S : K → Array K × Array K) (hS : PSDegLE 7 S) :
    PSDegLE 7 (fun t => posStage4 (V t) (S t)) :=
  posPartialRound_degree _ _ _ (hV.wires _) (sboxMonomial_degree (hV.wires _)) S hS

theorem posStage5_degree (S : K → Array K × Array K) (hS : PSDegLE 7 S) :
    PSDegLE 7 (fun t => posStage5 (V t) (S t)) :=
  foldl_range_inv (fun _ S => PSDegLE 7 S) halfNFullRounds
    _ S hS
    fun r S _ h => posFullRound_degree _ True _ (fun i => hV.wires _) S h

theorem posStage6_degree (S : K → Array K × Array K) (hS : PSDegLE 7 S) :
    ListDegLE 7 (fun t => posStage6 (V t) (S t)) :=
  (ArrDegLE.foldl_push (List.range spongeWidth) (fun t i => (S t).1[i]! - (V t).wires[posWireOutput i]!)
    (fun i => (hS.1.getElem! i).sub ((hV.wires _).mono (by decide))) _ hS.2).toList

theorem poseidon_degree_list : ListDegLE 7 (fun t => evalF .poseidon (V t)) := by
  simp only [evalPoseidon_stages]
  exact posStage6_degree V hV _ (posStage5_degree V hV _ (posStage4_degree V hV _
    (posStage3_degree V hV _ (posStage2_degree V hV _ (posStage1_degree V hV)))))

end Stages

/-- the two accumulators (evaluation, product) of `partialInterpolate` -/
def AlgPairDegLE (d : ℕ) (P : K → Alg K × Alg K) : Prop :=
  AlgDegLE d (fun t => (P t).1) ∧ AlgDegLE d (fun t => (P t).2)

/-- one barycentric pass over `m` points raises the degree of both accumulators by at most `m` -/
theorem partialInterpolate_degree (l : List ℕ) (dom wt : ℕ → ℕ) (val : K → ℕ → Alg K)
    (hval : ∀ k, AlgDegLE 1 (fun t => val t k)) (x : K → Alg K) (hx : AlgDegLE 1 x) {d : ℕ}
    (a : ℕ) (e p : K → Alg K) (he : AlgDegLE a e) (hp : AlgDegLE a p) (hd : a + l.length ≤ d) :
    AlgPairDegLE d (fun t => @partialInterpolate K (FOps.ofField K)
      (l.map fun k => (dom k, val t k, wt k)) (x t) (e t, p t)) := by
  induction l generalizing a e p with
  | nil => exact ⟨he.mono (Nat.le_of_add_right_le hd), hp.mono (Nat.le_of_add_right_le hd)⟩
  | cons k l ih =>
    have hterm : AlgDegLE 1 (fun t => @Alg.sub K (FOps.ofField K) (x t)
        (@Alg.ofK K (FOps.ofField K) ((dom k : ℕ) : K))) :=
      (hx.subm (AlgDegLE.ofK (DegLE.const (d := 0) _))).mono (by decide)
    have hv : AlgDegLE 1 (fun t => @Alg.smul K (FOps.ofField K) (val t k) ((wt k : ℕ) : K)) :=
      (hval k).smul_const _
    exact ih (a + 1) _ _ (((he.mul hterm).addm (hv.mul hp)).mono (d' := a + 1)) (hp.mul hterm)
      (by rw [List.length_cons] at hd; omega)

/-- the loop of `evalCosetInterpolation` over the intermediate chunks, its `let (…) := acc` patterns
written as projections -/
def cosetFold (bits degree : ℕ) (weights : List ℕ) (v : EvalVars K) : List K × (Alg K × Alg K) :=
  let values : Array (Alg K) :=
    (Array.range (cosetNumPoints bits)).map fun i => @EvalVars.alg K _ v (cosetStartValues + 2 * i)
  let shifted := @EvalVars.alg K _ v (cosetWiresShiftedEvaluationPoint bits degree)
  (List.range (cosetNumIntermediates bits degree)).foldl
    (fun (acc : List K × (Alg K × Alg K)) i =>
      (acc.1 ++ Alg.comps (@Alg.sub K (FOps.ofField K)
            (@EvalVars.alg K _ v (cosetWiresIntermediateEval bits i)) acc.2.1)
          ++ Alg.comps (@Alg.sub K (FOps.ofField K)
            (@EvalVars.alg K _ v (cosetWiresIntermediateProd bits degree i)) acc.2.2),
       @partialInterpolate K (FOps.ofField K)
        (@cosetTriples K _ (twoAdicSubgroup bits).toArray values weights.toArray
          (1 + (degree - 1) * (i + 1)) (min (1 + (degree - 1) * (i + 1) + degree - 1) (cosetNumPoints bits)))
        shifted
        (@EvalVars.alg K _ v (cosetWiresIntermediateEval bits i),
         @EvalVars.alg K _ v (cosetWiresIntermediateProd bits degree i))))
    (Alg.comps (@Alg.sub K (FOps.ofField K) (@EvalVars.alg K _ v (cosetStartEvaluationPoint bits))
        (@Alg.smul K (FOps.ofField K) shifted v.wires[0]!)),
     @partialInterpolate K (FOps.ofField K)
        (@cosetTriples K _ (twoAdicSubgroup bits).toArray values weights.toArray 0 degree) shifted
        (@Alg.zero K (FOps.ofField K), @Alg.one K (FOps.ofField K)))

theorem evalCoset_eq (bits degree : ℕ) (weights : List ℕ) (v : EvalVars K) :
    evalF (.cosetInterpolation bits degree weights) v =
      (cosetFold bits degree weights v).1 ++ Alg.comps (@Alg.sub K (FOps.ofField K)
        (@EvalVars.alg K _ v (cosetStartEvaluationValue bits)) (cosetFold bits degree weights v).2.1) := by
  simp only [evalF, GateKind.evalUnfiltered]
  unfold evalCosetInterpolation
  dsimp only
  rfl

theorem foldl_fst_prefix {σ β : Type} (step : List K × σ → β → List K × σ)
    (h : ∀ acc i, ∃ r, (step acc i).1 = acc.1 ++ r) (l : List β) (a : List K × σ) :
    ∃ r, (l.foldl step a).1 = a.1 ++ r := by
  induction l generalizing a with
  | nil => exact ⟨[], (List.append_nil _).symm⟩
  | cons x l ih =>
    obtain ⟨r, hr⟩ := ih (step a x)
    obtain ⟨r', hr'⟩ := h a x
    exact ⟨r' ++ r, by rw [List.foldl_cons, hr, hr', List.append_assoc]⟩

/-- the first constraint is `evaluation_point₀ − shifted₀·shift`, whatever the parameters -/
theorem cosetInterpolation_con0 (bits degree : ℕ) (weights : List ℕ) (v : EvalVars K) :
    con (.cosetInterpolation bits degree weights) v 0 = v.wires[cosetStartEvaluationPoint bits]!
      - v.wires[cosetWiresShiftedEvaluationPoint bits degree]! * v.wires[0]! := by
  obtain ⟨r, hr⟩ : ∃ r, (cosetFold bits degree weights v).1 = _ ++ r :=
    foldl_fst_prefix _ (fun acc i => ⟨_, List.append_assoc _ _ _⟩) _ _
  rw [con, evalCoset_eq, hr]
  rfl

section CosetGate
variable (V : K → EvalVars K) (hV : Line V)
include hV

theorem cosetFold_degree (bits degree : ℕ) (weights : List ℕ) (hd : 2 ≤ degree) :
    ListDegLE degree (fun t => (cosetFold bits degree weights (V t)).1) ∧
    AlgPairDegLE degree (fun t => (cosetFold bits degree weights (V t)).2) := by
  -- one pass over the points `lo .. hi`
  have hpass : ∀ (lo hi a : ℕ) (e p : K → Alg K), AlgDegLE a e → AlgDegLE a p → a + (hi - lo) ≤ degree →
      AlgPairDegLE degree (fun t => @partialInterpolate K (FOps.ofField K)
        (@cosetTriples K _ (twoAdicSubgroup bits).toArray ((Array.range (cosetNumPoints bits)).map
          fun i => @EvalVars.alg K _ (V t) (cosetStartValues + 2 * i)) weights.toArray lo hi)
        (@EvalVars.alg K _ (V t) (cosetWiresShiftedEvaluationPoint bits degree)) (e t, p t)) :=
    fun lo hi a e p he hp hle => partialInterpolate_degree (List.range (hi - lo))
      (fun k => (twoAdicSubgroup bits).toArray[lo + k]!) (fun k => weights.toArray[lo + k]!)
      (fun t k => ((Array.range (cosetNumPoints bits)).map
          fun i => @EvalVars.alg K _ (V t) (cosetStartValues + 2 * i))[lo + k]!)
      (fun k => AlgDegLE.getElem!_map_range _
        (fun t i => @EvalVars.alg K _ (V t) (cosetStartValues + 2 * i)) (fun i => hV.alg _) _)
      _ (hV.alg (cosetWiresShiftedEvaluationPoint bits degree)) a e p he hp
      (by rw [List.length_range]; exact hle)
  refine foldl_range_inv
    (fun _ (S : K → List K × (Alg K × Alg K)) =>
      ListDegLE degree (fun t => (S t).1) ∧ AlgPairDegLE degree (fun t => (S t).2))
    (cosetNumIntermediates bits degree) _ _ ⟨?_, ?_⟩ ?_
  · exact (ListDegLE.comps ((hV.alg _).subm ((hV.alg _).smul (hV.wires 0)))).mono
  · exact hpass 0 degree 0 _ _ (AlgDegLE.const _) (AlgDegLE.const _) (by omega)
  · intro r S hr ⟨h1, h2, h3⟩
    refine ⟨(h1.append (ListDegLE.comps (((hV.alg _).subm h2).mono (d' := degree)))).append
      (ListDegLE.comps (((hV.alg _).subm h3).mono (d' := degree))), ?_⟩
    exact hpass _ _ 1 _ _ (hV.alg _) (hV.alg _) (by omega)

/-- `CosetInterpolationGate`: every constraint has degree ≤ the gate's `degree` parameter, PROVIDED
`2 ≤ degree` (the constructor `with_max_degree` asserts `max_degree > 1`; the first two constraints
`evaluation_point − shifted·shift` are quadratic whatever the parameter). -/
theorem cosetInterpolation_degree_list (bits degree : ℕ) (weights : List ℕ) (hd : 2 ≤ degree) :
    ListDegLE degree (fun t => evalF (.cosetInterpolation bits degree weights) (V t)) := by
  simp only [evalCoset_eq]
  obtain ⟨h1, h2, _⟩ := cosetFold_degree V hV bits degree weights hd
  exact h1.append (ListDegLE.comps (((hV.alg _).subm h2).mono))

end CosetGate

/-- the parameter side conditions under which the declared degree is an upper bound: `BaseSumGate<B>` needs
`1 ≤ B` (see `baseSum_zero_degree_fails`) and `CosetInterpolationGate` needs `2 ≤ degree` (asserted by its
constructor, see `cosetInterpolation_low_degree_fails`) -/
def DegreeOK : GateKind → Prop
  | .baseSum b _ => 1 ≤ b
  | .cosetInterpolation _ d _ => 2 ≤ d
  | _ => True

end Deg
end P2.Lemmas.C07
