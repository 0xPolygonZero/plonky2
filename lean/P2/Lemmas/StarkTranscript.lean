/-
For C09, C09c and C09d: `Stark.getChallengesFrom` in stages. `getChallengesFrom_eq` restates
the model function as a chain of binds over named stages (challenger states `stage1`, `lookupDraw`,
`midState`; what can fail: `lookupChallengesOf`, `dummyCtlOf`, `compute_eval_vanishing_poly`) followed
by `tailFrom`; everything else about `get_challenges` is derived from that equation. Core Lean only.
-/
import P2.Model.Stark
namespace P2.Lemmas.StarkTranscript
open P2 P2.Air P2.Stark P2.Merkle

theorem foldl_length_succ {σ α : Type} (len : σ → Nat) (f : σ → α → σ) (hf : ∀ s x, len (f s x) = len s + 1)
    (l : List α) (s : σ) : len (l.foldl f s) = len s + l.length := by
  induction l generalizing s with
  | nil => rfl
  | cons x t ih => rw [List.foldl_cons, ih, hf, List.length_cons, Nat.add_right_comm, Nat.add_assoc]

theorem getN_length (s : ChSt) (n : Nat) : (Stark.getN s n).2.length = n :=
  (foldl_length_succ (σ := ChSt × List GL) (·.2.length) _ (fun _ _ => List.length_append) _ _).trans
    ((Nat.zero_add _).trans List.length_range)

/-- config, then (unless the caller did it already) the trace cap -/
def stage1 (s : ChSt) (c : Config) (p : Stark.Proof) (ign : Bool) : ChSt :=
  if ign then obs s c.observed else obs (obs s c.observed) (flattenCap p.traceCap)

/-- the lookup challenge set: handed in, or `2·num_challenges` elements drawn iff there is an aux cap -/
def lookupDraw (s : ChSt) (p : Stark.Proof) (n : Nat) (shared : Option (List (GL × GL))) :
    ChSt × Option (List (GL × GL)) :=
  match shared with
  | some sh => (s, some sh)
  | none =>
    match p.auxCap with
    | none => (s, none)
    | some _ =>
      let (s, xs) := getN s (2 * n)
      (s, some ((List.range n).map fun i => (xs.getD (2 * i) 0, xs.getD (2 * i + 1) 0)))

theorem lookupDraw_none (s : ChSt) (p : Stark.Proof) (n : Nat) :
    (lookupDraw s p n none).2.isSome = p.auxCap.isSome ∧
      ∀ ls, (lookupDraw s p n none).2 = some ls → ls.length = n := by
  unfold lookupDraw
  cases p.auxCap with
  | none => exact ⟨rfl, nofun⟩
  | some cap => exact ⟨rfl, fun ls hls => by cases hls; rw [List.length_map, List.length_range]⟩

def obsOpt (s : ChSt) (cap : Option (List Digest)) : ChSt :=
  match cap with
  | some cap => obs s (flattenCap cap)
  | none => s

/-- everything after the constraint-binding step: observe the dummy constraint evaluations `ce`,
draw the αs, observe the quotient cap, draw ζ, observe the openings, then `fri_challenges` -/
def tailFrom (s : ChSt) (ce : List GL2) (lookupSet : Option (List (GL × GL))) (c : Config)
    (p : Stark.Proof) (db : Nat) (pad : Option PadParams) : Stark.Challenges :=
  let s := obs s (flattenExt ce)
  let (s, alphas) := getN s c.numChallenges
  let s := obsOpt s p.quotientCap
  let (s, zeta) := getExt s
  let s := obs s (p.openings.toFriOpenings.flatMap flattenExt)
  ⟨lookupSet, alphas, zeta, friChallenges s p.openingProof db c.fri pad⟩

/-- the challenger state right after ζ′ is drawn, i.e. right before the dummy constraint evaluations
are observed -/
def midState (s : ChSt) (a : Air) (c : Config) (p : Stark.Proof) (shared : Option (List (GL × GL)))
    (ign : Bool) : ChSt :=
  let d := lookupDraw (stage1 s c p ign) p c.numChallenges shared
  let g := getN (obsOpt d.1 p.auxCap) c.numChallenges
  let dp := getDummyPolys g.1 a.cols ((p.openings.auxPolys.map (·.length)).getD 0) (max 2 (a.degree + 1))
  (getExt dp.1).1

/-- the lookup challenges handed to `compute_eval_vanishing_poly`: the βs of the challenge set; an AIR
with lookups and no challenge set is the `lookup_challenge_set.unwrap()` panic -/
def lookupChallengesOf (a : Air) (lookupSet : Option (List (GL × GL))) : Except String (Option (List GL)) :=
  if a.usesLookups then
    match lookupSet with
    | some ls => pure (some (ls.map (·.1)))
    | none => throw "lookup_challenge_set unwrap"
  else pure none

theorem lookupChallengesOf_isSome (a : Air) (ls : Option (List (GL × GL))) (lc : Option (List GL))
    (h : lookupChallengesOf a ls = .ok lc) (hU : a.usesLookups = true) : ls.isSome = true := by
  unfold lookupChallengesOf at h
  rw [if_pos hU] at h
  cases ls with
  | none => cases h
  | some l => rfl

theorem lookupChallengesOf_returns (a : Air) (ls : Option (List (GL × GL))) (n : Nat)
    (h : a.usesLookups = true → ∃ l, ls = some l ∧ l.length = n) :
    ∃ lc, lookupChallengesOf a ls = .ok lc ∧ ∀ chs, lc = some chs → a.usesLookups = true ∧ chs.length = n := by
  unfold lookupChallengesOf
  cases hU : a.usesLookups with
  | false => exact ⟨none, rfl, nofun⟩
  | true =>
    obtain ⟨l, rfl, hl⟩ := h hU
    exact ⟨_, rfl, fun chs e => by cases e; exact ⟨rfl, by rw [List.length_map, hl]⟩⟩

/-- do-notation lays `let x ← if …; k x` out with the continuation inside the branches -/
theorem lookupChallengesOf_bind {β : Type} (a : Air) (ls : Option (List (GL × GL)))
    (k : Option (List GL) → Except String β) :
    (do let lc ← if a.usesLookups then
            match ls with
            | some ls => pure (some (ls.map (·.1)))
            | none => throw "lookup_challenge_set unwrap"
          else pure none
        k lc) = lookupChallengesOf a ls >>= k := by
  unfold lookupChallengesOf
  cases a.usesLookups
  · rfl
  · cases ls <;> rfl

/-- the dummy CTL variables of the constraint-binding step (helper columns and Z values taken from
the dummy auxiliary openings `da`, `dan`), handed to a continuation `k`: the form in which
do-notation lays out `let x ← match …; k x` -/
def dummyCtlThen {β : Type} (ctlVars : Option (List CtlVars)) (numLookupColumns : Nat)
    (da dan : Option (List GL2)) (k : Option (List CtlVars) → Except String β) : Except String β := do
  let dummyCtl ← match ctlVars with
    | none => pure none
    | some cv => do
      let total := cv.foldl (fun acc v => acc + v.helperColumns.length) 0
      let aux ← orPanic "dummy auxiliary_polys unwrap" da
      let auxNext ← orPanic "dummy auxiliary_polys_next unwrap" dan
      let mut start := 0
      let mut out : List CtlVars := []
      for (v, i) in cv.zipIdx do
        let nh := v.helperColumns.length
        if aux.length < numLookupColumns + start + nh then throw "dummy helper slice"
        let lz ← orPanic "dummy local_z index" aux[numLookupColumns + total + i]?
        let nz ← orPanic "dummy next_z index" auxNext[numLookupColumns + total + i]?
        out := out ++ [{ v with helperColumns := (aux.drop (numLookupColumns + start)).take nh, localZ := lz, nextZ := nz }]
        start := start + nh
      pure (some out)
  k dummyCtl

def dummyCtlOf (ctlVars : Option (List CtlVars)) (numLookupColumns : Nat) (da dan : Option (List GL2)) :
    Except String (Option (List CtlVars)) :=
  dummyCtlThen ctlVars numLookupColumns da dan pure

theorem dummyCtlThen_eq {β : Type} (ctlVars : Option (List CtlVars)) (numLookupColumns : Nat)
    (da dan : Option (List GL2)) (k : Option (List CtlVars) → Except String β) :
    dummyCtlThen ctlVars numLookupColumns da dan k = dummyCtlOf ctlVars numLookupColumns da dan >>= k := by
  unfold dummyCtlOf dummyCtlThen
  cases ctlVars with
  | none => rfl
  | some cv =>
    cases da with
    | none => rfl
    | some aux =>
      cases dan with
      | none => rfl
      | some auxNext => simp only [orPanic, bind_assoc, pure_bind]

theorem getChallengesFrom_eq (s : ChSt) (a : Air) (c : Config) (pp : ProofWithPis) (pad : Option PadParams)
    (shared : Option (List (GL × GL))) (ctlVars : Option (List CtlVars)) (ign : Bool) :
    getChallengesFrom s a c pp pad shared ctlVars ign = (do
      let db ← recoverDegreeBits pp.proof c
      let ld := lookupDraw (stage1 s c pp.proof ign) pp.proof c.numChallenges shared
      let nlc ← orPanic "num_helper_columns: division by zero" (numLookupHelperColumns a c)
      let lc ← lookupChallengesOf a ld.2
      let g := getN (obsOpt ld.1 pp.proof.auxCap) c.numChallenges
      let dp := getDummyPolys g.1 a.cols ((pp.proof.openings.auxPolys.map (·.length)).getD 0)
        (max 2 (a.degree + 1))
      let d ← orPanic "dummy evals slice" dp.2
      let dummyCtl ← dummyCtlOf ctlVars nlc d.2.2.1 d.2.2.2
      let ce ← computeEvalVanishingPoly a d.1 d.2.1 d.2.2.1 d.2.2.2 lc dummyCtl pp.publicInputs g.2
        (getExt dp.1).2 db nlc
      pure (tailFrom (midState s a c pp.proof shared ign) ce ld.2 c pp.proof db pad)) := by
  simp only [← lookupChallengesOf_bind, ← dummyCtlThen_eq]
  rfl

theorem bind_ok_iff {ε α β : Type} (x : Except ε α) (f : α → Except ε β) (b : β) :
    x >>= f = .ok b ↔ ∃ a, x = .ok a ∧ f a = .ok b := by
  cases x with
  | error e => exact ⟨nofun, nofun⟩
  | ok a => exact ⟨fun h => ⟨a, rfl, h⟩, fun ⟨_, h, h'⟩ => by cases h; exact h'⟩

theorem orPanic_ok_iff {α : Type} (what : String) (x : Option α) (a : α) :
    orPanic what x = .ok a ↔ x = some a := by
  cases x with
  | none => exact ⟨nofun, nofun⟩
  | some b => exact ⟨fun h => by cases h; rfl, fun h => by cases h; rfl⟩

/-- **`get_challenges` returns exactly when every stage does**, and then with `tailFrom` applied to
the state `midState` (config, trace cap, lookup challenges, aux cap, α′, dummy ζs, ζ′), the constraint
evaluations `ce`, and the lookup challenge set drawn at the beginning -/
theorem getChallengesFrom_ok_iff (s : ChSt) (a : Air) (c : Config) (pp : ProofWithPis)
    (pad : Option PadParams) (shared : Option (List (GL × GL))) (ctlVars : Option (List CtlVars)) (ign : Bool)
    (ch : Stark.Challenges) :
    let ld := lookupDraw (stage1 s c pp.proof ign) pp.proof c.numChallenges shared
    let g := getN (obsOpt ld.1 pp.proof.auxCap) c.numChallenges
    let dp := getDummyPolys g.1 a.cols ((pp.proof.openings.auxPolys.map (·.length)).getD 0)
      (max 2 (a.degree + 1))
    getChallengesFrom s a c pp pad shared ctlVars ign = .ok ch ↔
    ∃ db nlc lc d dummyCtl ce, recoverDegreeBits pp.proof c = .ok db ∧
      numLookupHelperColumns a c = some nlc ∧ lookupChallengesOf a ld.2 = .ok lc ∧ dp.2 = some d ∧
      dummyCtlOf ctlVars nlc d.2.2.1 d.2.2.2 = .ok dummyCtl ∧
      computeEvalVanishingPoly a d.1 d.2.1 d.2.2.1 d.2.2.2 lc dummyCtl pp.publicInputs g.2
        (getExt dp.1).2 db nlc = .ok ce ∧
      ch = tailFrom (midState s a c pp.proof shared ign) ce ld.2 c pp.proof db pad := by
  rw [getChallengesFrom_eq]
  simp only [bind_ok_iff, orPanic_ok_iff, pure, Except.pure, Except.ok.injEq, exists_and_left, eq_comm (a := ch)]

theorem getChallengesFrom_ok (s : ChSt) (a : Air) (c : Config) (pp : ProofWithPis) (pad : Option PadParams)
    (shared : Option (List (GL × GL))) (ctlVars : Option (List CtlVars)) (ign : Bool) (ch : Stark.Challenges)
    (h : getChallengesFrom s a c pp pad shared ctlVars ign = .ok ch) :
    ∃ db ce, recoverDegreeBits pp.proof c = .ok db ∧
      ch = tailFrom (midState s a c pp.proof shared ign) ce
        (lookupDraw (stage1 s c pp.proof ign) pp.proof c.numChallenges shared).2 c pp.proof db pad := by
  obtain ⟨db, _, _, _, _, ce, hdb, _, _, _, _, _, e⟩ :=
    (getChallengesFrom_ok_iff s a c pp pad shared ctlVars ign ch).1 h
  exact ⟨db, ce, hdb, e⟩

end P2.Lemmas.StarkTranscript
