/-
C07 on the model's own generated row: the statement (`C07On`), how it follows, gate by gate, from
"the generated row satisfies the gate" and "every generator-written column is pinned by a constraint"
(`C07On.intro`), and what the generators' writes of algebra elements (`setAlg`) do to a row.
-/
import P2.Lemmas.C07
namespace P2.Lemmas.C07
open P2 P2.Gates

/-- **C07 for gate `g` on the row its own generators fill in** (over Goldilocks, with the model's
executable evaluator): every constraint vanishes on the generated row, and replacing the value in
any single generator-written column `k ∈ g.generatedWires` by a different value makes some
constraint non-zero. -/
def C07On (g : GateKind) (consts wires pih : Array P2.GL) : Prop :=
  (∀ c ∈ g.evalUnfiltered (⟨consts, g.generate consts wires, pih⟩ : EvalVars P2.GL), c = 0) ∧
  ∀ k ∈ g.generatedWires, ∀ x : P2.GL, x ≠ (g.generate consts wires)[k]! →
    ∃ c ∈ g.evalUnfiltered (⟨consts, (g.generate consts wires).set! k x, pih⟩ : EvalVars P2.GL),
      c ≠ 0

section
variable {K : Type} [Field K] [DecidableEq K] [Inhabited K]

theorem con_eq_zero_of_sat (g : GateKind) (v : EvalVars K) (h : Sat g v) (i : Nat) :
    con g v i = 0 := (sat_iff_con g v).1 h i

theorem exists_ne_of_con_ne (g : GateKind) (v : EvalVars K) (i : Nat) (h : con g v i ≠ 0) :
    ∃ c ∈ evalF g v, c ≠ 0 := by
  by_contra hn
  exact h (con_eq_zero_of_sat g v (fun c hc => not_not.1 fun hne => hn ⟨c, hc, hne⟩) i)

end

theorem size_setAlg (ws : Array P2.GL) (i : Nat) (x : Alg P2.GL) : (setAlg ws i x).size = ws.size := by
  simp only [setAlg, size_set!]

theorem getElem!_setAlg_fst (ws : Array P2.GL) (i : Nat) (x : Alg P2.GL) (h : i + 1 < ws.size) :
    (setAlg ws i x)[i]! = x.1 := by
  rw [setAlg, getElem!_set!_ne _ _ _ _ (Nat.ne_of_lt (Nat.lt_succ_self i)),
    getElem!_set!_self _ _ _ (Nat.lt_of_succ_lt h)]

theorem getElem!_setAlg_snd (ws : Array P2.GL) (i : Nat) (x : Alg P2.GL) (h : i + 1 < ws.size) :
    (setAlg ws i x)[i + 1]! = x.2 := by
  rw [setAlg, getElem!_set!_self _ _ _ (by rw [size_set!]; exact h)]

theorem getElem!_setAlg_ne (ws : Array P2.GL) (i j : Nat) (x : Alg P2.GL) (h : ¬ (j = i ∨ j = i + 1)) :
    (setAlg ws i x)[j]! = ws[j]! := by
  rw [setAlg, getElem!_set!_ne _ _ _ _ fun e => h (Or.inr e), getElem!_set!_ne _ _ _ _ fun e => h (Or.inl e)]

theorem getAlg_setAlg_self (ws : Array P2.GL) (i : Nat) (x : Alg P2.GL) (h : i + 1 < ws.size) :
    getAlg (setAlg ws i x) i = x :=
  Prod.ext (getElem!_setAlg_fst ws i x h) (getElem!_setAlg_snd ws i x h)

/-- `foldl_set!_spec` for writes of an algebra element to positions `p i`, `p i + 1` -/
theorem foldl_setAlg_spec (n : Nat) (p : Nat → Nat) (f : Array P2.GL → Nat → Alg P2.GL)
    (ws0 : Array P2.GL)
    (hp : ∀ i k r s, i < n → k < n → r < 2 → s < 2 → p i + r = p k + s → i = k)
    (hsz : ∀ i, i < n → p i + 1 < ws0.size)
    (hf : ∀ (ws ws' : Array P2.GL) i, i < n →
      (∀ j, (∀ k, i ≤ k → k < n → j ≠ p k ∧ j ≠ p k + 1) → ws[j]! = ws'[j]!) → f ws i = f ws' i) :
    ((List.range n).foldl (fun ws i => setAlg ws (p i) (f ws i)) ws0).size = ws0.size ∧
    (∀ i, i < n → getAlg ((List.range n).foldl (fun ws i => setAlg ws (p i) (f ws i)) ws0) (p i) =
      f ((List.range n).foldl (fun ws i => setAlg ws (p i) (f ws i)) ws0) i) ∧
    (∀ j, (∀ k, k < n → j ≠ p k ∧ j ≠ p k + 1) →
      ((List.range n).foldl (fun ws i => setAlg ws (p i) (f ws i)) ws0)[j]! = ws0[j]!) := by
  obtain ⟨h1, h2, h3⟩ := foldl_writes n (fun i j => j = p i ∨ j = p i + 1)
    (fun ws i => setAlg ws (p i) (f ws i)) ws0 (fun _ _ => size_setAlg _ _ _)
    (fun _ _ _ hj => getElem!_setAlg_ne _ _ _ _ hj)
    (fun i k j hi hk hj hj' => by
      rcases hj with rfl | rfl <;> rcases hj' with e | e
      · exact hp i k 0 0 hi hk Nat.two_pos Nat.two_pos e
      · exact hp i k 0 1 hi hk Nat.two_pos Nat.one_lt_two e
      · exact hp i k 1 0 hi hk Nat.one_lt_two Nat.two_pos e
      · exact hp i k 1 1 hi hk Nat.one_lt_two Nat.one_lt_two e)
    (fun ws ws' i j hi hj hs hs' h => by
      have hfi := hf ws ws' i hi fun j hj => h j fun k h1 h2 => not_or.2 (hj k h1 h2)
      rcases hj with rfl | rfl
      · rw [getElem!_setAlg_fst _ _ _ (hs ▸ hsz i hi), getElem!_setAlg_fst _ _ _ (hs' ▸ hsz i hi), hfi]
      · rw [getElem!_setAlg_snd _ _ _ (hs ▸ hsz i hi), getElem!_setAlg_snd _ _ _ (hs' ▸ hsz i hi), hfi])
    n (Nat.le_refl n)
  refine ⟨h1, fun i hi => Prod.ext ?_ ?_, fun j hj => h3 j fun k hk => not_or.2 (hj k hk)⟩
  · exact (h2 i _ _ hi (Or.inl rfl) h1 fun _ _ => rfl).trans
      (getElem!_setAlg_fst _ _ _ (h1 ▸ hsz i hi))
  · exact (h2 i _ _ hi (Or.inr rfl) h1 fun _ _ => rfl).trans
      (getElem!_setAlg_snd _ _ _ (h1 ▸ hsz i hi))

/-- the zero-padded row `generate` starts from has at least `m` columns -/
theorem size_pad_ge (wires : Array P2.GL) (m : Nat) :
    m ≤ (wires ++ Array.replicate (m - wires.size) (0 : P2.GL)).size := by
  simp only [Array.size_append, Array.size_replicate]; omega

/-- … and reading it, inside or outside the row, gives what reading `wires` gives (`0` outside) -/
theorem pad_getElem! (wires : Array P2.GL) (m j : Nat) :
    (wires ++ Array.replicate m (0 : P2.GL))[j]! = wires[j]! := by
  rw [getElem!_def, getElem!_def, Array.getElem?_append]
  by_cases h : j < wires.size
  · rw [if_pos h]
  · rw [if_neg h, Array.getElem?_replicate, Array.getElem?_eq_none (Nat.le_of_not_lt h)]
    split_ifs <;> rfl

section OverGL
attribute [local instance] glField

/-- `C07On` from its two halves: the generated row satisfies the gate, and every generator-written
column lies inside the row and is pinned by some constraint `j` -/
theorem C07On.intro (g : GateKind) (consts wires pih : Array P2.GL)
    (hsat : ∀ c ∈ g.evalUnfiltered (genRow g consts wires pih), c = 0)
    (hpin : ∀ k ∈ g.generatedWires, k < (g.generate consts wires).size ∧ ∃ j,
      ∀ v' : EvalVars P2.GL, DiffersOnlyAt (genRow g consts wires pih) v' k →
        con g (genRow g consts wires pih) j = 0 → con g v' j ≠ 0) :
    C07On g consts wires pih :=
  ⟨hsat, fun k hk x hx => by
    obtain ⟨hk', j, hj⟩ := hpin k hk
    rw [evalGL]
    exact exists_ne_of_con_ne g _ j (hj _ (setW_differs (genRow g consts wires pih) k x hk' hx)
      (con_eq_zero_of_sat g _ (by rw [Sat, ← evalGL]; exact hsat) j))⟩

end OverGL
end P2.Lemmas.C07
