/-
C07 over a Mathlib field: closed forms of the constraints of the arithmetic, constant and public-input
gates;
gates whose outputs are algebra elements, each pinned by its own pair of constraints (`AlgOutGate`:
closed form, satisfaction ↔ generator equations, pinning, other constraints unaffected), with the
arithmetic-extension and multiplication-extension gates as instances.
-/
import P2.Lemmas.C07
set_option linter.unusedSectionVars false
namespace P2.Lemmas.C07
open P2 P2.Gates
section
variable {K : Type} [Field K] [DecidableEq K] [Inhabited K]

theorem arithmetic_con (n : Nat) (v : EvalVars K) (i : Nat) :
    con (.arithmetic n) v i = if i < n then
      v.wires[4 * i + 3]! - (v.wires[4 * i]! * v.wires[4 * i + 1]! * v.constants[0]!
        + v.wires[4 * i + 2]! * v.constants[1]!) else 0 := by
  simp only [con, evalF, GateKind.evalUnfiltered, evalArithmetic, getD_map_range]
  rfl

theorem arithmetic_sat_iff (n : Nat) (v : EvalVars K) :
    Sat (.arithmetic n) v ↔ ∀ i, i < n →
      v.wires[4 * i + 3]! = v.wires[4 * i]! * v.wires[4 * i + 1]! * v.constants[0]!
        + v.wires[4 * i + 2]! * v.constants[1]! :=
  sat_iff_of_con _ v n _ _ (arithmetic_con n v)

theorem constant_con (n : Nat) (v : EvalVars K) (i : Nat) :
    con (.constant n) v i = if i < n then v.constants[i]! - v.wires[i]! else 0 :=
  getD_map_range n _ i 0

theorem publicInput_con (v : EvalVars K) (i : Nat) :
    con .publicInput v i = if i < 4 then v.wires[i]! - v.pih[i]! else 0 :=
  getD_map_range 4 (fun i => v.wires[i]! - v.pih[i]!) i 0

/-! ## lists of algebra components -/

theorem getD_flatMap_comps (n : Nat) (A : Nat → Alg K) (i r : Nat) (hr : r < 2) :
    ((List.range n).flatMap fun i => (A i).comps).getD (2 * i + r) 0 =
      if i < n then compAt (A i) r else 0 := by
  rw [List.getD_eq_getElem?_getD]
  by_cases h : i < n
  · rw [getElem?_flatMap_range n 2 (fun i => (A i).comps) (fun _ => rfl) i r h hr, if_pos h]
    obtain rfl | rfl : r = 0 ∨ r = 1 := Nat.le_one_iff_eq_zero_or_eq_one.1 (Nat.le_of_lt_succ hr)
    · rfl
    · rfl
  · rw [getElem?_flatMap_range_of_ge n 2 _ (fun _ => rfl) _
      (Nat.le_add_right_of_le (Nat.mul_le_mul_left 2 (Nat.le_of_not_lt h))), if_neg h]
    rfl

theorem forall_flatMap_comps_zero (n : Nat) (A : Nat → Alg K) :
    (∀ c ∈ (List.range n).flatMap fun i => (A i).comps, c = 0) ↔
      ∀ i, i < n → (A i).1 = 0 ∧ (A i).2 = 0 := by
  rw [forall_mem_flatMap_range]
  refine forall₂_congr fun i _ => ?_
  show (∀ c ∈ [(A i).1, (A i).2], c = 0) ↔ _
  simp only [List.mem_cons, List.not_mem_nil, or_false, forall_eq_or_imp, forall_eq]

/-! ## gates with algebra-valued outputs

Output `i < n`, an algebra element, sits at columns `out i`, `out i + 1`, and constraints `2i`,
`2i + 1` say that it equals `G v i`, a value computed from the constants and from columns that are
not output columns. -/

structure AlgOutGate (g : GateKind) (n : Nat) (out : Nat → Nat) (G : EvalVars K → Nat → K × K) :
    Prop where
  eval : ∀ v : EvalVars K, evalF g v = (List.range n).flatMap fun i =>
    Alg.comps ((v.wires[out i]! - (G v i).1, v.wires[out i + 1]! - (G v i).2) : Alg K)
  inj : ∀ i k r s, r < 2 → s < 2 → out i + r = out k + s → i = k ∧ r = s
  congr : ∀ (v v' : EvalVars K) i, v'.constants = v.constants →
    (∀ j, (∀ k r, r < 2 → j ≠ out k + r) → v'.wires[j]! = v.wires[j]!) → G v' i = G v i

namespace AlgOutGate
variable {g : GateKind} {n : Nat} {out : Nat → Nat} {G : EvalVars K → Nat → K × K}

theorem con (h : AlgOutGate g n out G) (v : EvalVars K) (i r : Nat) (hr : r < 2) :
    P2.Lemmas.C07.con g v (2 * i + r) =
      if i < n then v.wires[out i + r]! - compAt (G v i) r else 0 := by
  rw [P2.Lemmas.C07.con, h.eval]
  refine (getD_flatMap_comps n (fun i => ((v.wires[out i]! - (G v i).1,
    v.wires[out i + 1]! - (G v i).2) : Alg K)) i r hr).trans ?_
  obtain rfl | rfl : r = 0 ∨ r = 1 := Nat.le_one_iff_eq_zero_or_eq_one.1 (Nat.le_of_lt_succ hr)
  · rfl
  · rfl

theorem sat_iff (h : AlgOutGate g n out G) (v : EvalVars K) :
    Sat g v ↔ ∀ i, i < n → v.wires[out i]! = (G v i).1 ∧ v.wires[out i + 1]! = (G v i).2 := by
  rw [Sat, h.eval]
  refine (forall_flatMap_comps_zero n _).trans (forall₂_congr fun i _ => ?_)
  exact and_congr sub_eq_zero sub_eq_zero

theorem sat_of_alg (h : AlgOutGate g n out G) (v : EvalVars K)
    (hv : ∀ i, i < n → v.alg (out i) = G v i) : Sat g v :=
  (h.sat_iff v).2 fun i hi => ⟨congrArg Prod.fst (hv i hi), congrArg Prod.snd (hv i hi)⟩

theorem congr_out (h : AlgOutGate g n out G) (v v' : EvalVars K) (i r : Nat) (hr : r < 2)
    (hd : DiffersOnlyAt v v' (out i + r)) (q : Nat) : G v' q = G v q :=
  h.congr v v' q hd.constants fun j hj => hd.same j (hj i r hr)

theorem pinned (h : AlgOutGate g n out G) (v v' : EvalVars K) (i r : Nat) (hi : i < n) (hr : r < 2)
    (hd : DiffersOnlyAt v v' (out i + r)) (h0 : P2.Lemmas.C07.con g v (2 * i + r) = 0) :
    P2.Lemmas.C07.con g v' (2 * i + r) ≠ 0 := by
  rw [h.con _ i r hr, if_pos hi] at h0 ⊢
  rw [h.congr_out v v' i r hr hd]
  exact sub_pins h0 hd.diff

theorem others (h : AlgOutGate g n out G) (v v' : EvalVars K) (i r : Nat) (hr : r < 2)
    (hd : DiffersOnlyAt v v' (out i + r)) (j : Nat) (hj : j ≠ 2 * i + r) :
    P2.Lemmas.C07.con g v' j = P2.Lemmas.C07.con g v j := by
  obtain ⟨q, s, hs, rfl⟩ : ∃ q s, s < 2 ∧ j = 2 * q + s :=
    ⟨j / 2, j % 2, Nat.mod_lt _ Nat.two_pos, (Nat.div_add_mod j 2).symm⟩
  rw [h.con _ q s hs, h.con _ q s hs, h.congr_out v v' i r hr hd, hd.same _ fun e => by
    obtain ⟨e1, e2⟩ := h.inj q i s r hs hr e
    exact hj (by rw [e1, e2])]

end AlgOutGate

/-- blocks of `s` columns with the two output columns at offsets `o`, `o + 1`: distinct outputs
sit on distinct columns -/
theorem block_out_inj {s o : Nat} (hs : o + 2 = s) (i k r r' : Nat) (hr : r < 2) (hr' : r' < 2)
    (h : s * i + o + r = s * k + o + r') : i = k ∧ r = r' := by
  rw [Nat.add_assoc, Nat.add_assoc] at h
  obtain ⟨e1, e2⟩ := block_unique (hs ▸ Nat.add_lt_add_left hr o) (hs ▸ Nat.add_lt_add_left hr' o) h
  exact ⟨e1, Nat.add_left_cancel e2⟩

/-- … and offsets `a < o` are not output columns -/
theorem block_not_out {s o a : Nat} (hs : o + 2 = s) (ha : a < o) (i k r : Nat) (hr : r < 2) :
    s * i + a ≠ s * k + o + r := by
  rw [Nat.add_assoc]
  exact block_ne i k (hs ▸ Nat.lt_add_right 2 ha) (hs ▸ Nat.add_lt_add_left hr o)
    (Nat.ne_of_lt (Nat.lt_of_lt_of_le ha (Nat.le_add_right o r)))

/-! ## arithmetic-extension gate -/

/-- the two components of `(m0·m1)·c0 + addend·c1` in the algebra `K[X]/(X² − 7)`, with
`m0 = (a0,a1)`, `m1 = (b0,b1)`, `addend = (d0,d1)`: what `ArithmeticExtensionGenerator` writes -/
def arithExtOut (a0 a1 b0 b1 d0 d1 c0 c1 : K) : K × K :=
  ((a0 * b0 + 7 * (a1 * b1)) * c0 + d0 * c1, (a0 * b1 + a1 * b0) * c0 + d1 * c1)

/-- what `ArithmeticExtensionGenerator` writes for operation `i` of the row -/
def arithExtGen (v : EvalVars K) (i : Nat) : K × K :=
  arithExtOut v.wires[8 * i]! v.wires[8 * i + 1]! v.wires[8 * i + 2]! v.wires[8 * i + 2 + 1]!
    v.wires[8 * i + 4]! v.wires[8 * i + 4 + 1]! v.constants[0]! v.constants[1]!

theorem arithmeticExt_algOut (n : Nat) :
    AlgOutGate (K := K) (.arithmeticExt n) n (fun i => 8 * i + 6) arithExtGen where
  eval _ := rfl
  inj := block_out_inj rfl
  congr v v' i hc hw := by
    have hw' : ∀ a, a < 6 → v'.wires[8 * i + a]! = v.wires[8 * i + a]! := fun a ha =>
      hw _ fun k r hr => block_not_out rfl ha i k r hr
    have h0 : v'.wires[8 * i]! = v.wires[8 * i]! := hw' 0 (by decide)
    have h3 : v'.wires[8 * i + 2 + 1]! = v.wires[8 * i + 2 + 1]! := hw' 3 (by decide)
    have h5 : v'.wires[8 * i + 4 + 1]! = v.wires[8 * i + 4 + 1]! := hw' 5 (by decide)
    simp only [arithExtGen]
    rw [hc, h0, hw' 1 (by decide), hw' 2 (by decide), h3, hw' 4 (by decide), h5]

/-! ## multiplication-extension gate -/

/-- the generator's output for operation `i`: `(m0·m1)·c0` with `m0` at wires `6i, 6i+1` and `m1`
at `6i+2, 6i+3` -/
def mulExtGen (v : EvalVars K) (i : Nat) : K × K :=
  ((v.wires[6 * i]! * v.wires[6 * i + 2]! + 7 * (v.wires[6 * i + 1]! * v.wires[6 * i + 2 + 1]!))
      * v.constants[0]!,
   (v.wires[6 * i]! * v.wires[6 * i + 2 + 1]! + v.wires[6 * i + 1]! * v.wires[6 * i + 2]!)
      * v.constants[0]!)

theorem mulExt_algOut (n : Nat) :
    AlgOutGate (K := K) (.mulExt n) n (fun i => 6 * i + 4) mulExtGen where
  eval _ := rfl
  inj := block_out_inj rfl
  congr v v' i hc hw := by
    have hw' : ∀ a, a < 4 → v'.wires[6 * i + a]! = v.wires[6 * i + a]! := fun a ha =>
      hw _ fun k r hr => block_not_out rfl ha i k r hr
    have h0 : v'.wires[6 * i]! = v.wires[6 * i]! := hw' 0 (by decide)
    have h3 : v'.wires[6 * i + 2 + 1]! = v.wires[6 * i + 2 + 1]! := hw' 3 (by decide)
    simp only [mulExtGen]
    rw [hc, h0, hw' 1 (by decide), hw' 2 (by decide), h3]

end
end P2.Lemmas.C07
