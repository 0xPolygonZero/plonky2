/-
The field-generic PLONK pieces of `P2.Model.PlonkAlg` (selector filters, the α-combination,
`check_partial_products`, `eval_l_0`) and the builder's `arithmetic_special_cases`, over an arbitrary
Mathlib field `K` with the operations taken from it (`FOps.ofField K`).
-/
import Mathlib.Tactic.Ring
import Mathlib.Tactic.Linarith
import Mathlib.Tactic.LinearCombination
import Mathlib.Tactic.FieldSimp
import Mathlib.Tactic.NormNum
import Mathlib.Algebra.BigOperators.Fin
import Mathlib.Algebra.BigOperators.Intervals
import Mathlib.Algebra.Polynomial.Roots
import Mathlib.RingTheory.RootsOfUnity.PrimitiveRoots
import Mathlib.Algebra.CharP.Basic
import P2.Lemmas.Alg2OfList
import P2.Model.PlonkAlg
import P2.Model.Circuit
namespace P2.Circuit

/-- what the builder knows about an operand agrees with its value under the assignment -/
def Operand.Consistent {K : Type} [Zero K] (o : Operand K) : Prop :=
  (∀ c, o.knownConst = some c → o.value = c) ∧ (o.isZeroTarget = true → o.value = 0)

end P2.Circuit

namespace P2.Lemmas.PlonkAlg
open P2 P2.PlonkAlg P2.Circuit

section
variable {K : Type} [Field K]

/-- the indices `i` whose factors `i − s` make up `compute_filter`: the group's range without `row`,
and `UNUSED_SELECTOR` when there are several selector polynomials -/
def filterIdxs (row : Nat) (group : Nat × Nat) (many : Bool) : List Nat :=
  ((List.range (group.2 - group.1)).map (· + group.1)).filter (· ≠ row) ++
    (if many then [UNUSED_SELECTOR] else [])

theorem mem_filterIdxs (row lo hi : Nat) (many : Bool) (i : Nat) :
    i ∈ filterIdxs row (lo, hi) many ↔
      (lo ≤ i ∧ i < hi ∧ i ≠ row) ∨ (many = true ∧ i = UNUSED_SELECTOR) := by
  have hr : (∃ a, a < hi - lo ∧ a + lo = i) ↔ lo ≤ i ∧ i < hi :=
    ⟨fun ⟨a, h, e⟩ => e ▸ ⟨Nat.le_add_left lo a, Nat.add_lt_of_lt_sub h⟩,
      fun h => ⟨i - lo, Nat.sub_lt_sub_right h.1 h.2, Nat.sub_add_cancel h.1⟩⟩
  simp only [filterIdxs, List.mem_append, List.mem_filter, List.mem_map, List.mem_range, hr,
    decide_eq_true_eq, List.mem_ite_nil_right, List.mem_singleton, and_assoc]

theorem unused_eq : UNUSED_SELECTOR = 2 ^ 32 - 1 := by decide

theorem hinj_of_charP (p : Nat) [CharP K p] (hp : 2 ^ 32 ≤ p) :
    ∀ a b : Nat, a < 2 ^ 32 → b < 2 ^ 32 → (a : K) = (b : K) → a = b :=
  fun _ _ ha hb h => CharP.natCast_injOn_Iio K p (ha.trans_le hp) (hb.trans_le hp) h

theorem accs_zero (partials : List K) (zx zgx : K) :
    (zx :: partials ++ [zgx]).getD 0 0 = zx := rfl

theorem accs_succ_lt (partials : List K) (zx zgx : K) (i : Nat) (hi : i < partials.length) :
    (zx :: partials ++ [zgx]).getD (i + 1) 0 = partials.getD i 0 := by
  rw [List.cons_append, List.getD_cons_succ, List.getD_append _ _ _ _ hi]

theorem accs_last (partials : List K) (zx zgx : K) :
    (zx :: partials ++ [zgx]).getD (partials.length + 1) 0 = zgx := by
  rw [List.cons_append, List.getD_cons_succ, List.getD_append_right _ _ _ _ (Nat.le_refl _),
    Nat.sub_self, List.getD_cons_zero]

theorem chunksOf_length {α : Type} (d : Nat) (hd : 0 < d) (xs : List α) :
    (chunksOf d xs).length = (xs.length + d - 1) / d := by
  rw [chunksOf, if_neg (Nat.ne_of_gt hd), List.length_map, List.length_range]

theorem chunksOf_getD {α : Type} (d : Nat) (hd : 0 < d) (xs : List α) (i : Nat)
    (hi : i < (xs.length + d - 1) / d) :
    (chunksOf d xs).getD i [] = (xs.drop (i * d)).take d := by
  rw [chunksOf, if_neg (Nat.ne_of_gt hd), List.getD_eq_getElem?_getD, List.getElem?_map,
    List.getElem?_range hi]
  rfl

theorem numChunks_mul_ge (len d : Nat) (hd : 0 < d) : len ≤ (len + d - 1) / d * d := by
  have h1 := Nat.div_add_mod (len + d - 1) d
  have h2 := Nat.mod_lt (len + d - 1) hd
  rw [Nat.mul_comm] at h1
  omega

theorem take_succ_mul_prod (xs : List K) (i d : Nat) :
    (xs.take ((i + 1) * d)).prod = (xs.take (i * d)).prod * ((xs.drop (i * d)).take d).prod := by
  rw [Nat.add_mul, Nat.one_mul, List.take_add, List.prod_append]

theorem chunk_prod_ne_zero (dens : List K) (hne : ∀ x ∈ dens, x ≠ 0) (i d : Nat) :
    ((dens.drop (i * d)).take d).prod ≠ 0 :=
  List.prod_ne_zero fun h0 => hne 0 (List.mem_of_mem_drop (List.mem_of_mem_take h0)) rfl

variable [DecidableEq K]

theorem beq_iff (a b : K) : (@BEq.beq K (FOps.ofField K).toBEq a b) = true ↔ a = b :=
  decide_eq_true_iff

theorem prod_eq (xs : List K) : @FOps.prod K (FOps.ofField K) xs = xs.prod := by
  unfold FOps.prod
  rw [List.prod_eq_foldl]
  rfl

/-- `compute_filter` is a product of factors `i − s`, so it vanishes iff `s` is one of its indices -/
theorem computeFilter_eq_zero_iff (row : Nat) (group : Nat × Nat) (s : K) (many : Bool) :
    @computeFilter K (FOps.ofField K) row group s many = 0 ↔
      ∃ i ∈ filterIdxs row group many, (i : K) = s := by
  show List.foldl (fun (acc : K) (i : Nat) => acc * ((i : K) - s)) (1 : K)
    (filterIdxs row group many) = 0 ↔ _
  rw [← List.foldl_map, ← List.prod_eq_foldl, List.prod_eq_zero_iff]
  simp only [List.mem_map, sub_eq_zero, eq_comm]

theorem reduce_eq_eval (terms : List K) (α : K) :
    @reduceWithPowers K (FOps.ofField K) terms α = @Poly.eval K (FOps.ofField K) terms α := rfl

theorem reduce_nil (α : K) : @reduceWithPowers K (FOps.ofField K) [] α = 0 := rfl

theorem reduce_cons (a : K) (l : List K) (α : K) :
    @reduceWithPowers K (FOps.ofField K) (a :: l) α
      = @reduceWithPowers K (FOps.ofField K) l α * α + a := rfl

open Polynomial Alg2 in
/-- a non-zero term list is annihilated by at most `length − 1` values of `α`: they are roots of
`ofList terms` -/
theorem reduce_zeros_card (terms : List K) (h : ∃ t ∈ terms, t ≠ 0) (S : Finset K)
    (hS : ∀ α ∈ S, @reduceWithPowers K (FOps.ofField K) terms α = 0) :
    S.card ≤ terms.length - 1 := by
  have h1 := card_le_degree_of_subset_roots (p := ofList terms) (Z := S) fun α hα =>
    (mem_roots (ofList_ne_zero h)).2 ((ofList_eval terms α).trans (hS α hα))
  have h2 := ofList_natDegree_lt h
  omega

open Polynomial Alg2 in
theorem reduce_zero_set (terms : List K) (h : ∃ t ∈ terms, t ≠ 0) :
    {α : K | @reduceWithPowers K (FOps.ofField K) terms α = 0}.Finite ∧
    {α : K | @reduceWithPowers K (FOps.ofField K) terms α = 0}.ncard ≤ terms.length - 1 := by
  have e : {α : K | @reduceWithPowers K (FOps.ofField K) terms α = 0}
      = ↑((ofList terms).roots.toFinset) := by
    ext α
    rw [Finset.mem_coe, Multiset.mem_toFinset, mem_roots (ofList_ne_zero h), IsRoot.def,
      ofList_eval]
    rfl
  rw [e, Set.ncard_coe_finset]
  refine ⟨Finset.finite_toSet _, reduce_zeros_card terms h _ fun α hα => ?_⟩
  have : α ∈ {α : K | @reduceWithPowers K (FOps.ofField K) terms α = 0} := e ▸ hα
  exact this

theorem reduce_eq_sum (terms : List K) (α : K) :
    @reduceWithPowers K (FOps.ofField K) terms α = ∑ i : Fin terms.length, terms[i] * α ^ (i : Nat) :=
  C15.eval_eq_sum terms α

theorem reduce_eq_sum_range (terms : List K) (α : K) :
    @reduceWithPowers K (FOps.ofField K) terms α
      = ∑ i ∈ Finset.range terms.length, terms.getD i 0 * α ^ i :=
  C15.eval_eq_sum_range terms α

theorem reduce_terms_zero_of_many_zeros (terms : List K) (S : Finset K)
    (hcard : terms.length ≤ S.card)
    (hS : ∀ α ∈ S, @reduceWithPowers K (FOps.ofField K) terms α = 0) :
    ∀ t ∈ terms, t = 0 := by
  by_contra hne
  push Not at hne
  have h1 := reduce_zeros_card terms hne S hS
  obtain ⟨t, ht, _⟩ := hne
  have : 0 < terms.length := List.length_pos_of_mem ht
  omega

theorem reduce_of_all_zero (terms : List K) (h : ∀ t ∈ terms, t = 0) (α : K) :
    @reduceWithPowers K (FOps.ofField K) terms α = 0 := by
  induction terms with
  | nil => rfl
  | cons a l ih =>
    rw [reduce_cons, ih (fun t ht => h t (List.mem_cons_of_mem _ ht)), h a List.mem_cons_self,
      zero_mul, add_zero]

theorem check_eq (nums dens partials : List K) (zx zgx : K) (d : Nat) (hd : 0 < d)
    (hlen : nums.length = dens.length) :
    @checkPartialProducts K (FOps.ofField K) nums dens partials zx zgx d
      = (List.range ((nums.length + d - 1) / d)).map fun i =>
          (zx :: partials ++ [zgx]).getD i 0 * ((nums.drop (i * d)).take d).prod
          - (zx :: partials ++ [zgx]).getD (i + 1) 0 * ((dens.drop (i * d)).take d).prod := by
  unfold checkPartialProducts
  simp only [chunksOf_length d hd]
  apply List.map_congr_left
  intro i hi
  rw [List.mem_range] at hi
  rw [chunksOf_getD d hd nums i hi, chunksOf_getD d hd dens i (hlen ▸ hi), prod_eq, prod_eq]
  rfl

theorem check_all_zero_iff (nums dens partials : List K) (zx zgx : K) (d : Nat) (hd : 0 < d)
    (hlen : nums.length = dens.length) :
    (∀ t ∈ @checkPartialProducts K (FOps.ofField K) nums dens partials zx zgx d, t = 0) ↔
    ∀ i, i < (nums.length + d - 1) / d →
      (zx :: partials ++ [zgx]).getD i 0 * ((nums.drop (i * d)).take d).prod
        = (zx :: partials ++ [zgx]).getD (i + 1) 0 * ((dens.drop (i * d)).take d).prod := by
  rw [check_eq nums dens partials zx zgx d hd hlen]
  simp only [List.forall_mem_map, List.mem_range, sub_eq_zero]

theorem evalL0_eq (n : Nat) (x : K) :
    @evalL0 K (FOps.ofField K) n x
      = if x = 1 then 1 else (x ^ n - 1) * ((n : K) * (x - 1))⁻¹ := by
  unfold evalL0
  rw [C15.pow_eq]
  show (if (x == (1 : K)) = true then (1 : K) else (x ^ n - 1) * ((n : K) * (x - 1))⁻¹) = _
  simp only [beq_iff_eq]

theorem evalL0_of_pow_eq_one (n : Nat) (x : K) (hx : x ≠ 1) (hxn : x ^ n = 1) :
    @evalL0 K (FOps.ofField K) n x = 0 := by
  rw [evalL0_eq, if_neg hx, hxn, sub_self, zero_mul]

theorem evalL0_root (n : Nat) (ω : K) (hω : IsPrimitiveRoot ω n) (k : Nat) :
    @evalL0 K (FOps.ofField K) n (ω ^ k) = if k % n = 0 then 1 else 0 := by
  have hiff : ω ^ k = 1 ↔ k % n = 0 := by
    rw [hω.pow_eq_one_iff_dvd, Nat.dvd_iff_mod_eq_zero]
  by_cases hk : k % n = 0
  · rw [if_pos hk, evalL0_eq, if_pos (hiff.2 hk)]
  · rw [if_neg hk, evalL0_of_pow_eq_one n _ (fun h => hk (hiff.1 h))
      (by rw [← pow_mul, mul_comm, pow_mul, hω.pow_eq_one, one_pow])]

theorem evalL0_mul (n : Nat) (hn : (n : K) ≠ 0) (x : K) (hx : x ≠ 1) :
    @evalL0 K (FOps.ofField K) n x * ((n : K) * (x - 1)) = x ^ n - 1 := by
  rw [evalL0_eq, if_neg hx, inv_mul_cancel_right₀ (mul_ne_zero hn (sub_ne_zero.2 hx))]

/-- the tests and constant folds of `arithmetic_special_cases`, named: is the first term
`c0·m0·m1` (the second term `c1·ad`) known to be zero, and which constant is it known to be -/
def firstTermZero (c0 : K) (m0 m1 : Operand K) : Bool :=
  (c0 == (0 : K)) || m0.isZeroTarget || m1.isZeroTarget

def secondTermZero (c1 : K) (ad : Operand K) : Bool :=
  (c1 == (0 : K)) || ad.isZeroTarget

def firstTermConst (c0 : K) (m0 m1 : Operand K) : Option K :=
  if firstTermZero c0 m0 m1 then some 0 else
  match m0.knownConst, m1.knownConst with
  | some x, some y => some (x * y * c0)
  | _, _ => none

def secondTermConst (c1 : K) (ad : Operand K) : Option K :=
  if secondTermZero c1 ad then some 0 else ad.knownConst.map fun x => x * c1

/-- the shape of both multiplicand cases: `r` if the operand is a known constant `x` with
`x·c0 = 1`, otherwise `other` -/
def unitCase (c0 : K) (known : Option K) (r : Special K) (other : Option (Special K)) :
    Option (Special K) :=
  match known with
  | some x => if (x * c0) == (1 : K) then some r else other
  | none => other

theorem arithmeticSpecialCases_eq (c0 c1 : K) (m0 m1 ad : Operand K) :
    @arithmeticSpecialCases K (FOps.ofField K) c0 c1 m0 m1 ad =
      match firstTermConst c0 m0 m1, secondTermConst c1 ad with
      | some x, some y => some (.constant (x + y))
      | _, _ =>
        if firstTermZero c0 m0 m1 && (c1 == (1 : K)) then some .addend else
        if secondTermZero c1 ad then
          unitCase c0 m0.knownConst .multiplicand1 (unitCase c0 m1.knownConst .multiplicand0 none)
        else none := rfl

theorem unitCase_eq_some {c0 : K} {known : Option K} {r r' : Special K}
    {other : Option (Special K)} (h : unitCase c0 known r other = some r') :
    (∃ x, known = some x ∧ x * c0 = 1 ∧ r' = r) ∨ other = some r' := by
  cases known with
  | none => exact Or.inr h
  | some x =>
    change (if (x * c0) == (1 : K) then some r else other) = some r' at h
    split at h
    · next hc => exact Or.inl ⟨x, rfl, beq_iff_eq.1 hc, (Option.some.inj h).symm⟩
    · exact Or.inr h

theorem firstTermZero_sound (c0 : K) (m0 m1 : Operand K) (h0 : m0.Consistent) (h1 : m1.Consistent)
    (h : firstTermZero c0 m0 m1 = true) : c0 * m0.value * m1.value = 0 := by
  unfold firstTermZero at h
  simp only [Bool.or_eq_true, beq_iff_eq] at h
  rcases h with (h | h) | h
  · rw [h, zero_mul, zero_mul]
  · rw [h0.2 h, mul_zero, zero_mul]
  · rw [h1.2 h, mul_zero]

theorem secondTermZero_sound (c1 : K) (ad : Operand K) (ha : ad.Consistent)
    (h : secondTermZero c1 ad = true) : c1 * ad.value = 0 := by
  unfold secondTermZero at h
  simp only [Bool.or_eq_true, beq_iff_eq] at h
  rcases h with h | h
  · rw [h, zero_mul]
  · rw [ha.2 h, mul_zero]

theorem firstTermConst_sound (c0 : K) (m0 m1 : Operand K) (h0 : m0.Consistent) (h1 : m1.Consistent)
    (x : K) (h : firstTermConst c0 m0 m1 = some x) : c0 * m0.value * m1.value = x := by
  unfold firstTermConst at h
  split at h
  · next hz =>
    rw [firstTermZero_sound c0 m0 m1 h0 h1 hz]
    exact Option.some.inj h
  · split at h
    · next a b ha hb =>
      rw [h0.1 a ha, h1.1 b hb, ← Option.some.inj h, mul_comm c0, mul_right_comm]
    · nomatch h

theorem secondTermConst_sound (c1 : K) (ad : Operand K) (ha : ad.Consistent)
    (y : K) (h : secondTermConst c1 ad = some y) : c1 * ad.value = y := by
  unfold secondTermConst at h
  split at h
  · next hz =>
    rw [secondTermZero_sound c1 ad ha hz]
    exact Option.some.inj h
  · obtain ⟨a, ha', rfl⟩ := Option.map_eq_some_iff.1 h
    rw [ha.1 a ha', mul_comm]

end
end P2.Lemmas.PlonkAlg
