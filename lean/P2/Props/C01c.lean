/-
C01c: the exponentiation gadgets of `plonky2/src/gadgets/arithmetic.rs` compute `base ^ exponent`
for EVERY number of exponent bits and every gate width (repair of finding F-C01-4).

* `gateOut` is the value the `ExponentiationGate` constraints pin on the output wire (C07 proves the
  pinning; here: the value): the bits are consumed most-significant first, `cur = prev² · (bit·base + 1 − bit)`.
* `expFromBits k` is `CircuitBuilder::exp_from_bits` for a gate with `k = num_power_bits` exponent wires:
  at most `k` bits → one gate, padded with `false`; more → chunks of `k` bits, the base squared `k` times
  between chunks, the partial results multiplied together.
* `constBase` is the arithmetic-gate path of `exp_from_bits_const_base`:
  `product ← (base^(2^i) − 1)·product·bit + product`, with `base^(2^i)` obtained by `i` squarings
  (`Field::exp_power_of_2`, which cannot overflow — the repaired code no longer forms `1 << i`).

Both are proved equal to `base ^ bitsVal bits` over any commutative ring, for all lists of bits and all
`k > 0`.  Before the repair `exp_from_bits` put bit `k` on the gate's output wire whenever there were more
than `k` bits (`wire_power_bit k = 1 + k = wire_output`): the chunk loop did not exist.
-/
import Mathlib.Tactic.Ring
import Mathlib.Algebra.Ring.Basic
namespace P2.Props.C01c

variable {K : Type} [CommRing K]

/-- little-endian value of a list of bits -/
def bitsVal : List Bool → Nat
  | [] => 0
  | b :: bs => b.toNat + 2 * bitsVal bs

/-- `bit` as a field element (a `BoolTarget`'s value) -/
def bitK (b : Bool) : K := if b then 1 else 0

/-- output wire of one `ExponentiationGate` on little-endian bits (`ExponentiationGate::eval_unfiltered`:
`for i in 0..n { bit = power_bits[n-1-i]; cur = prev² · (bit·base + 1 − bit) }`, `prev₀ = 1`) -/
def gateOut (base : K) (bitsLE : List Bool) : K :=
  bitsLE.reverse.foldl (fun prev b => prev * prev * (bitK b * base + 1 - bitK b)) 1

/-- `x` squared `n` times (`builder.square` in a loop; `Field::exp_power_of_2`) -/
def sqN : Nat → K → K
  | 0, x => x
  | n + 1, x => sqN n (x * x)

/-- one gate of width `k`, unused exponent wires connected to `false` -/
def single (k : Nat) (base : K) (bits : List Bool) : K :=
  gateOut base (bits ++ List.replicate (k - bits.length) false)

/-- the chunk loop of `exp_from_bits` (`result`, `cur_base` are the loop variables; `fuel` bounds the
number of chunks and is never exhausted when `fuel ≥ bits.length`, `k > 0`) -/
def chunkLoop (k : Nat) : Nat → K → K → List Bool → K
  | 0, result, _, _ => result
  | fuel + 1, result, curBase, bits =>
    if bits.length ≤ k then result * single k curBase bits
    else chunkLoop k fuel (result * single k curBase (bits.take k)) (sqN k curBase) (bits.drop k)

/-- `CircuitBuilder::exp_from_bits` with a gate of `k` exponent wires -/
def expFromBits (k : Nat) (base : K) (bits : List Bool) : K :=
  if bits.length ≤ k then single k base bits else chunkLoop k bits.length 1 base bits

/-- arithmetic-gate path of `exp_from_bits_const_base`, loop from index `i` -/
def constBaseGo (base : K) : Nat → K → List Bool → K
  | _, product, [] => product
  | i, product, b :: bs => constBaseGo base (i + 1) ((sqN i base - 1) * product * bitK b + product) bs

def constBase (base : K) (bits : List Bool) : K := constBaseGo base 0 1 bits

theorem bitsVal_append (a b : List Bool) : bitsVal (a ++ b) = bitsVal a + 2 ^ a.length * bitsVal b := by
  induction a with
  | nil => simp [bitsVal]
  | cons x xs ih => simp only [List.cons_append, bitsVal, ih, List.length_cons, pow_succ]; ring

theorem bitsVal_replicate_false (n : Nat) : bitsVal (List.replicate n false) = 0 := by
  induction n with
  | zero => rfl
  | succ n ih => simp [List.replicate_succ, bitsVal, ih]

theorem gateOut_cons (base : K) (b : Bool) (bs : List Bool) :
    gateOut base (b :: bs) = gateOut base bs * gateOut base bs * (bitK b * base + 1 - bitK b) := by
  rw [gateOut, List.reverse_cons, List.foldl_append]
  rfl

/-- the factor a bit selects: `x` or `1` -/
theorem sel_eq_pow (x : K) (b : Bool) : bitK b * x + 1 - bitK b = x ^ b.toNat := by
  cases b <;> simp [bitK]

theorem gateOut_eq (base : K) (bits : List Bool) : gateOut base bits = base ^ bitsVal bits := by
  induction bits with
  | nil => exact (pow_zero base).symm
  | cons b bs ih =>
    rw [gateOut_cons, ih, sel_eq_pow, bitsVal, ← pow_add, ← pow_add, two_mul, Nat.add_comm]

theorem sqN_eq (n : Nat) (x : K) : sqN n x = x ^ (2 ^ n) := by
  induction n generalizing x with
  | zero => simp [sqN]
  | succ n ih => rw [sqN, ih, ← pow_two, ← pow_mul, pow_succ]; congr 1; ring

theorem single_eq (k : Nat) (base : K) (bits : List Bool) : single k base bits = base ^ bitsVal bits := by
  rw [single, gateOut_eq, bitsVal_append, bitsVal_replicate_false]; simp

theorem chunkLoop_eq (k : Nat) (hk : 0 < k) (fuel : Nat) (result curBase : K) (bits : List Bool)
    (hf : bits.length ≤ fuel) :
    chunkLoop k fuel result curBase bits = result * curBase ^ bitsVal bits := by
  induction fuel generalizing result curBase bits with
  | zero =>
    have : bits = [] := List.length_eq_zero_iff.mp (Nat.le_zero.1 hf)
    subst this
    simp [chunkLoop, bitsVal]
  | succ fuel ih =>
    rw [chunkLoop]
    split
    · rw [single_eq]
    · next hlen =>
      have hlen : k < bits.length := Nat.lt_of_not_le hlen
      rw [ih _ _ _ (by rw [List.length_drop]; omega), single_eq, sqN_eq]
      conv_rhs => rw [← List.take_append_drop k bits, bitsVal_append,
        List.length_take_of_le (Nat.le_of_lt hlen), pow_add, pow_mul]
      exact mul_assoc _ _ _

/-- **`exp_from_bits` computes `base ^ exponent`** for every list of exponent bits and every gate width `k > 0`
(`k = num_routed_wires − 2` in `ExponentiationGate::new_from_config`, capped at 63). -/
theorem expFromBits_eq (k : Nat) (hk : 0 < k) (base : K) (bits : List Bool) :
    expFromBits k base bits = base ^ bitsVal bits := by
  unfold expFromBits
  split
  · exact single_eq k base bits
  · rw [chunkLoop_eq k hk _ _ _ _ (Nat.le_refl _), one_mul]

theorem constBaseGo_eq (base : K) (i : Nat) (product : K) (bits : List Bool) :
    constBaseGo base i product bits = product * base ^ (2 ^ i * bitsVal bits) := by
  induction bits generalizing i product with
  | nil => simp [constBaseGo, bitsVal]
  | cons b bs ih =>
    rw [constBaseGo, ih, sqN_eq]
    cases b
    · simp only [bitK, Bool.false_eq_true, if_false, mul_zero, zero_add, bitsVal, Bool.toNat_false, pow_succ]
      congr 2; ring
    · simp only [bitK, if_true, mul_one, bitsVal, Bool.toNat_true]
      have : 2 ^ i * (1 + 2 * bitsVal bs) = 2 ^ i + 2 ^ (i + 1) * bitsVal bs := by rw [pow_succ]; ring
      rw [this, pow_add]
      ring

/-- **the arithmetic-gate path of `exp_from_bits_const_base` computes `base ^ exponent`** for every number of bits
(also ≥ 64: the powers `base^(2^i)` come from repeated squaring, not from a machine shift). -/
theorem constBase_eq (base : K) (bits : List Bool) : constBase base bits = base ^ bitsVal bits := by
  rw [constBase, constBaseGo_eq]; simp

/-- the constant-exponent loop of `exp_u64`: `while exponent != 0 { push(exponent & 1); exponent >>= 1 }` -/
def bitsOf (n : Nat) : List Bool :=
  if h : n = 0 then [] else (n % 2 == 1) :: bitsOf (n / 2)
decreasing_by omega

theorem bitsVal_bitsOf (n : Nat) : bitsVal (bitsOf n) = n := by
  induction n using Nat.strongRecOn with
  | _ n ih =>
    rw [bitsOf]
    split
    · subst_vars; rfl
    · next h =>
      have hb : (n % 2 == 1).toNat = n % 2 := by
        rcases Nat.mod_two_eq_zero_or_one n with h2 | h2 <;> rw [h2] <;> rfl
      rw [bitsVal, ih (n / 2) (Nat.div_lt_self (Nat.pos_of_ne_zero h) Nat.one_lt_two), hb,
        Nat.mod_add_div]

/-- **`exp_u64(base, e)` computes `base ^ e`** for every `e` and every gate width -/
theorem expU64_eq (k : Nat) (hk : 0 < k) (base : K) (e : Nat) :
    expFromBits k base (bitsOf e) = base ^ e := by
  rw [expFromBits_eq k hk, bitsVal_bitsOf]

example : expFromBits 3 (2 : Int) [true, false, true, true, false, true, true] = 2 ^ 109 := by decide
example : bitsVal [true, false, true, true, false, true, true] = 109 := by decide
example : constBase (3 : Int) [true, true, false, true] = 3 ^ 11 := by decide

end P2.Props.C01c
