/-
C20 (components): element-wise selection of lists is `if` on the whole lists (`select_struct`; for a
single value, `Props.C06.select_denotes`), and the out-of-circuit verifier-data check accepts exactly when the data embedded at the end of the public inputs equal the circuit's.
-/
import P2.Model.CircuitVerifier
namespace P2.Props.C20
open P2 P2.CircuitVerifier

/-- element-wise selection of lists (`select_hash`, `select_cap`, … are element-wise `select`) -/
theorem select_struct {α} (b : Bool) (xs ys : List α) (h : xs.length = ys.length) :
    List.zipWith (select b) xs ys = if b then xs else ys := by
  induction xs generalizing ys with
  | nil =>
    cases ys with
    | nil => cases b <;> rfl
    | cons y ys => cases h
  | cons x xs ih =>
    cases ys with
    | nil => cases h
    | cons y ys =>
      rw [List.zipWith_cons_cons, ih ys (Nat.succ.inj h)]
      cases b <;> rfl

/-- **Conditional verification verifies exactly the selected pair.** For any verification predicate
`V` (the in-circuit verifier, C06), checking `V` on the element-wise selection equals checking it on
the selected branch — the other branch does not occur in the right-hand side. -/
theorem conditional_verifies_selected {P VD} (V : P → VD → Prop) (b : Bool) (p0 p1 : P) (v0 v1 : VD) :
    V (select b p0 p1) (select b v0 v1) ↔ (if b then V p0 v0 else V p1 v1) := by
  cases b <;> simp [select]

theorem take_drop_eq_iff {α} (l a b : List α) (n : Nat) (ha : a.length = n) :
    (l.take n = a ∧ l.drop n = b) ↔ l = a ++ b :=
  ⟨fun ⟨h1, h2⟩ => by rw [← List.take_append_drop n l, h1, h2],
    fun h => by rw [h]; exact ⟨List.take_left' ha, List.drop_left' ha⟩⟩

/-- **The verifier-data check** accepts iff the public inputs are long enough and their last
`4 + 4·capLen` elements are `digest ‖ cap`. -/
theorem check_cyclic_vd_iff (pis : List GL) (capLen : Nat) (digest cap : List GL)
    (hd : digest.length = 4) :
    checkCyclicVd pis capLen digest cap = true ↔
      4 + 4 * capLen ≤ pis.length ∧ pis.drop (pis.length - (4 + 4 * capLen)) = digest ++ cap := by
  rw [checkCyclicVd, vdFromSlice]
  by_cases hl : pis.length < 4 + 4 * capLen
  · rw [if_pos hl]
    exact ⟨fun h => (nomatch h), fun h => absurd h.1 (Nat.not_le.2 hl)⟩
  · rw [if_neg hl]
    show (_ == digest && _ == cap) = true ↔ _
    rw [Bool.and_eq_true, beq_iff_eq, beq_iff_eq, take_drop_eq_iff _ _ _ 4 hd]
    exact (and_iff_right (Nat.le_of_not_lt hl)).symm

/-- a public-input list whose embedded data (its last `4 + 4·capLen` entries) differ from those of an
accepted list is rejected; the hypothesis on the lengths is not needed -/
theorem altered_embedded_vd_rejected (pis pis' : List GL) (capLen : Nat) (digest cap : List GL)
    (hd : digest.length = 4) (h : checkCyclicVd pis capLen digest cap = true)
    (_hlen : pis'.length = pis.length)
    (hne : pis'.drop (pis'.length - (4 + 4 * capLen)) ≠ pis.drop (pis.length - (4 + 4 * capLen))) :
    checkCyclicVd pis' capLen digest cap = false := by
  have h1 := (check_cyclic_vd_iff pis capLen digest cap hd).1 h
  by_cases h2 : checkCyclicVd pis' capLen digest cap = true
  · have h3 := (check_cyclic_vd_iff pis' capLen digest cap hd).1 h2
    exact absurd (h3.2.trans h1.2.symm) hne
  · simpa using h2

end P2.Props.C20
