/-
C07, over any operations record (no Mathlib): the arithmetic, constant and base-sum gates return as
many constraints as they declare, for every parameter value.  `P2/Props/C07b.lean` has all gate kinds.
-/
import P2.Model.Gates
namespace P2.Props.C07
open P2 P2.Gates

theorem arithmetic_count {K} [FOps K] [Inhabited K] (n : Nat) (v : EvalVars K) :
    ((GateKind.arithmetic n).evalUnfiltered v).length = (GateKind.arithmetic n).numConstraints := by
  simp only [GateKind.evalUnfiltered, evalArithmetic, GateKind.numConstraints, List.length_map,
    List.length_range]

theorem constant_count {K} [FOps K] [Inhabited K] (n : Nat) (v : EvalVars K) :
    ((GateKind.constant n).evalUnfiltered v).length = (GateKind.constant n).numConstraints := by
  simp only [GateKind.evalUnfiltered, evalConstant, GateKind.numConstraints, List.length_map,
    List.length_range]

theorem baseSum_count {K} [FOps K] [Inhabited K] (b l : Nat) (v : EvalVars K) :
    ((GateKind.baseSum b l).evalUnfiltered v).length = (GateKind.baseSum b l).numConstraints := by
  simp only [GateKind.evalUnfiltered, evalBaseSum, GateKind.numConstraints, List.length_cons,
    List.length_map, List.length_range, Nat.add_comm]

end P2.Props.C07
