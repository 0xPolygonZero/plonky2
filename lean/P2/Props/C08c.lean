/-
C08c (the ROW-LEVEL constraint system of plonky2's lookup argument, tied to the logUp identity of
C08b; over an arbitrary field `K`). Model and helper lemmas: `P2.Lemmas.LookupTrace`.

 T1 `sldc_chain`: the transition constraints alone give
      `z_{s−1}(lastLu) = z_{s−1}(firstLut+1) + Σ Sum terms − Σ LDC terms`.
 T2 `repaired_pin_sound` / `repaired_pin_satisfiable_iff`: with the repaired initial constraint
      (`pinIndex = s − 1`) the system is satisfiable IFF the two totals agree.
 T3 `original_pin_unsound`: with the original initial constraint (`pinIndex = 0`) and `s ≥ 2`
      the system is satisfiable for ARBITRARY terms (finding F-C08-1);
    `original_pin_sound_iff_one_poly`: for `s = 1` the two pins are the same constraint.
 T4 `verifier_rows_iff_constraints`: the cleared-denominator terms the verifier evaluates, with the
      selector values of `selectors_lookup`, are equivalent to the rational system off the combos.
 T5 `lookup_trace_sound` (+ `_mem`, `_multiset`, `_count`): accepting SLDC values for `≥ #combos`
      challenges `α` force the logUp multiset statement.
 T6 `checkLookupConstraints_structure`: the positions of these terms in the verifier model's list.
 T7 `model_rows_iff_verifier_rows`, `model_lookup_trace_sound`: at the model's field `GL2`, the SLDC
      entries of `Plonk.checkLookupConstraints` on every row ARE `VerifierRows … (s − 1)`; hence T5
      for the model's own terms.
 Non-vacuity: concrete instances over `ℚ` at the end.
-/
import P2.Props.C08b
import P2.Lemmas.LookupTrace
import P2.Lemmas.LookupStructure
import P2.Lemmas.LookupTraceGL2

namespace P2.Props.C08c
open P2 Finset P2.Lemmas.LookupTrace

variable {K : Type} [Field K]

/-- **the SLDC chain telescopes** over rows and polys (transition constraints only; any pin) -/
theorem sldc_chain (L : Layout) (sumTerm ldcTerm : ℕ → ℕ → K) (z : ℕ → ℕ → K) (pin : ℕ)
    (h : Constraints L sumTerm ldcTerm z pin) :
    z L.lastLu (L.s - 1) =
      z (L.firstLut + 1) (L.s - 1) + sumTotal L sumTerm - ldcTotal L ldcTerm := by
  have h1 := rows_telescope (fun r => z r (L.s - 1)) (fun r => ∑ k ∈ range L.s, sumTerm r k)
    L.lastLut (L.firstLut + 1) (Nat.le_succ_of_le L.hLut)
    (fun r hr1 hr2 => row_telescope L z r _ (h.sre r ⟨hr1, Nat.lt_succ_iff.1 hr2⟩))
  have h2 := rows_telescope (fun r => z r (L.s - 1)) (fun r => ∑ k ∈ range L.s, - ldcTerm r k)
    L.lastLu L.lastLut L.hLu
    (fun r hr1 hr2 => row_telescope L z r _ (h.ldc r ⟨hr1, hr2⟩))
  rw [h2, h1]
  simp only [sum_neg_distrib]
  exact (sub_eq_add_neg _ _).symm

/-- **soundness of the repaired initial constraint**: `Constraints (s − 1)` forces
`Σ_{LUT rows} Σ_{k<s} sumTerm = Σ_{LU rows} Σ_{k<s} ldcTerm` -/
theorem repaired_pin_sound (L : Layout) (sumTerm ldcTerm : ℕ → ℕ → K) (z : ℕ → ℕ → K)
    (h : Constraints L sumTerm ldcTerm z (L.s - 1)) :
    ∑ r ∈ Ico L.lastLut (L.firstLut + 1), ∑ k ∈ range L.s, sumTerm r k
      = ∑ r ∈ Ico L.lastLu L.lastLut, ∑ k ∈ range L.s, ldcTerm r k := by
  have hc := sldc_chain L sumTerm ldcTerm z _ h
  rw [h.last _ rfl, h.init _ rfl, zero_add, eq_comm, sub_eq_zero] at hc
  exact hc

/-- **completeness**: balanced terms have SLDC values satisfying the repaired system -/
theorem repaired_pin_complete (L : Layout) (sumTerm ldcTerm : ℕ → ℕ → K)
    (hbal : sumTotal L sumTerm = ldcTotal L ldcTerm) :
    ∃ z, Constraints L sumTerm ldcTerm z (L.s - 1) := by
  refine ⟨zEnd L sumTerm ldcTerm, (zEnd_transitions L sumTerm ldcTerm).1,
    (zEnd_transitions L sumTerm ldcTerm).2, ?_, ?_⟩
  · intro r hr
    rw [hr, zEnd_init, hbal, sub_self, neg_zero]
  · intro r hr
    rw [hr, zEnd_last]

theorem repaired_pin_satisfiable_iff (L : Layout) (sumTerm ldcTerm : ℕ → ℕ → K) :
    (∃ z, Constraints L sumTerm ldcTerm z (L.s - 1))
      ↔ sumTotal L sumTerm = ldcTotal L ldcTerm :=
  ⟨fun ⟨z, h⟩ => repaired_pin_sound L sumTerm ldcTerm z h, repaired_pin_complete L sumTerm ldcTerm⟩

/-- **the original initial constraint is unsound for `s ≥ 2`**: for ARBITRARY terms (any lookups
against any table) there are SLDC values satisfying every constraint. The witness starts the chain
at `z_{s−1}(firstLut+1) = −(Σ Sum terms − Σ LDC terms)` — the one value the chain reads from the
`InitSre` row, which `z_0(firstLut+1) = 0` does not constrain — exactly the adversarial prover
`verif_hooks::SLDC_COMPENSATE` of `compute_lookup_polys`. -/
theorem original_pin_unsound (L : Layout) (hs : 2 ≤ L.s) :
    ∀ sumTerm ldcTerm : ℕ → ℕ → K, ∃ z, Constraints L sumTerm ldcTerm z 0 ∧
      z (L.firstLut + 1) (L.s - 1) = - (sumTotal L sumTerm - ldcTotal L ldcTerm) := by
  intro sumTerm ldcTerm
  have hle := L.hLu.trans L.hLut
  refine ⟨zBad L sumTerm ldcTerm, ⟨fun r hr k hk => ?_, fun r hr k hk => ?_, fun r hr => ?_,
    fun r hr => ?_⟩, ?_⟩
  · rw [zBad_eq L sumTerm ldcTerm r k hr.2, zBad_prev L hs sumTerm ldcTerm r k hr.2]
    exact (zEnd_transitions L sumTerm ldcTerm).1 r hr k hk
  · have hr' : r ≤ L.firstLut := hr.2.le.trans L.hLut
    rw [zBad_eq L sumTerm ldcTerm r k hr', zBad_prev L hs sumTerm ldcTerm r k hr']
    exact (zEnd_transitions L sumTerm ldcTerm).2 r hr k hk
  · rw [hr]
    exact if_pos ⟨rfl, rfl⟩
  · rw [hr, zBad_eq L sumTerm ldcTerm _ _ hle, zEnd_last]
  · rw [zBad, if_neg fun e => by omega, zEnd_init]

/-- in particular: unbalanced terms pass the original system whenever `s ≥ 2`, whereas no SLDC
values pass the repaired one -/
theorem original_pin_accepts_unbalanced (L : Layout) (hs : 2 ≤ L.s) (sumTerm ldcTerm : ℕ → ℕ → K)
    (hne : sumTotal L sumTerm ≠ ldcTotal L ldcTerm) :
    (∃ z, Constraints L sumTerm ldcTerm z 0) ∧ ¬ ∃ z, Constraints L sumTerm ldcTerm z (L.s - 1) :=
  ⟨(original_pin_unsound L hs sumTerm ldcTerm).imp fun _ h => h.1,
   fun h => hne ((repaired_pin_satisfiable_iff L sumTerm ldcTerm).1 h)⟩

/-- for a single SLDC polynomial the original and the repaired pin are the same constraint -/
theorem original_pin_sound_iff_one_poly (L : Layout) (hs : L.s = 1) (sumTerm ldcTerm : ℕ → ℕ → K)
    (z : ℕ → ℕ → K) :
    Constraints L sumTerm ldcTerm z 0 ↔ Constraints L sumTerm ldcTerm z (L.s - 1) := by
  rw [hs]

theorem original_pin_sound_one_poly (L : Layout) (hs : L.s = 1) (sumTerm ldcTerm : ℕ → ℕ → K)
    (z : ℕ → ℕ → K) (h : Constraints L sumTerm ldcTerm z 0) :
    sumTotal L sumTerm = ldcTotal L ldcTerm :=
  repaired_pin_sound L sumTerm ldcTerm z ((original_pin_sound_iff_one_poly L hs _ _ z).1 h)

/-- the terms of `check_lookup_constraints` on the SLDC polynomials, with the selector values of
`selectors_lookup`, vanish on all rows iff the rational system holds — for `α` off the combos -/
theorem verifier_rows_iff_constraints (L : Layout) (D : Slots K) (α : K) (hα : D.Avoids L α)
    (z : ℕ → ℕ → K) (pin : ℕ) :
    VerifierRows L D α z pin ↔ Constraints L (D.sumTerm α) (D.ldcTerm α) z pin := by
  have hsre : ∀ r k,
      ind (L.transSre r) * (D.lutProd α r k * (z r k - prev L z r k) - D.lutSumProdsMul α r k) = 0
        ↔ (L.transSre r → z r k - prev L z r k = D.sumTerm α r k) := fun r k => by
    rw [ind_mul_eq_zero, sub_eq_zero, mul_comm]
    exact imp_congr_right fun hr => P2.Props.C08.sldc_step_iff _ _ _ α _
      fun i hi => hα.1 r (L.mem_lutRows.2 hr) i (mem_chunk_lt hi)
  have hldc : ∀ r k,
      ind (L.transLdc r) * (D.luProd α r k * (z r k - prev L z r k) + D.luSumProds α r k) = 0
        ↔ (L.transLdc r → z r k - prev L z r k = - D.ldcTerm α r k) := fun r k => by
    rw [ind_mul_eq_zero, add_eq_zero_iff_neg_eq, ← mul_neg, mul_comm, ← neg_eq_iff_eq_neg]
    exact imp_congr_right fun hr => P2.Props.C08.sldc_step_iff _ (D.looking r) (fun _ => 1) α _
      fun i hi => hα.2 r (L.mem_luRows.2 hr) i (mem_chunk_lt hi)
  exact ⟨fun h => ⟨fun r hr k hk => (hsre r k).1 (h.sre r k hk) hr,
      fun r hr k hk => (hldc r k).1 (h.ldc r k hk) hr,
      fun r => (ind_mul_eq_zero _ _).1 (h.init r), fun r => (ind_mul_eq_zero _ _).1 (h.last r)⟩,
    fun h => ⟨fun r k hk => (hsre r k).2 fun hr => h.sre r hr k hk,
      fun r k hk => (hldc r k).2 fun hr => h.ldc r hr k hk,
      fun r => (ind_mul_eq_zero _ _).2 (h.init r), fun r => (ind_mul_eq_zero _ _).2 (h.last r)⟩⟩

section sound
variable [DecidableEq K]

/-- for one challenge `α` off the combos: accepting SLDC values (the verifier's cleared-denominator
terms vanish on all rows, repaired pin) give the rational logUp identity at `α` -/
theorem lookup_trace_identity_at (L : Layout) (D : Slots K)
    (hlut : D.nLut ≤ L.s * D.lutDeg) (hlu : D.nLu ≤ L.s * D.luDeg)
    (α : K) (hα : α ∉ combos L D) (z : ℕ → ℕ → K) (h : VerifierRows L D α z (L.s - 1)) :
    ∑ a ∈ combos L D, (lookingCount L D a : K) / (α - a)
      = ∑ a ∈ combos L D, lookedWeight L D a / (α - a) := by
  have hc := (verifier_rows_iff_constraints L D α (avoids_of_not_mem L D α hα) z _).1 h
  have hb : sumTotal L (D.sumTerm α) = ldcTotal L (D.ldcTerm α) :=
    repaired_pin_sound L _ _ z hc
  rw [← sumTotal_eq L D hlut α, ← ldcTotal_eq L D hlu α, hb]

/-- **row-level soundness of the lookup argument (repaired pin)**.
`L` the rows of one table, `D` the wire data on them (`looked`/`mult` on LUT rows, `looking` on LU
rows, as combinations under challenge A), the SLDC chunks covering all slots. If for every `α` in a
set `T` of at least `#combos` challenges outside the combos SOME SLDC values make all the verifier's
SLDC terms vanish on all rows, then for every field element `a`:
  (number of LU slots looking up `a`) = Σ (multiplicity wires of the LUT slots holding `a`)   in `K`.

NOT covered here: that the LUT rows hold the declared table (the RE chain with challenges B, δ:
C08b `re_polynomial_binds_table`), that a combination under challenge A binds the (input, output)
pair (C08b `pair_binding`), that row-level vanishing follows from the quotient check at `ζ`
(C02/C03), several tables sharing the four selector polynomials (this is one table; the system
only involves rows `lastLu … firstLut + 1`), and the challenges being sampled together. -/
theorem lookup_trace_sound (L : Layout) (D : Slots K)
    (hlut : D.nLut ≤ L.s * D.lutDeg) (hlu : D.nLu ≤ L.s * D.luDeg)
    (T : Finset K) (hdisj : Disjoint T (combos L D)) (hcard : (combos L D).card ≤ T.card)
    (hacc : ∀ α ∈ T, ∃ z, VerifierRows L D α z (L.s - 1)) :
    ∀ a, (lookingCount L D a : K) = lookedWeight L D a := by
  intro a
  by_cases ha : a ∈ combos L D
  · refine P2.Props.C08.logup_rational_weights (combos L D) T (fun a => (lookingCount L D a : K))
      (lookedWeight L D) hdisj hcard ?_ a ha
    intro α hα
    obtain ⟨z, hz⟩ := hacc α hα
    exact lookup_trace_identity_at L D hlut hlu α (Finset.disjoint_left.1 hdisj hα) z hz
  · rw [lookingCount_eq_zero L D ha, lookedWeight_eq_zero L D ha, Nat.cast_zero]

/-- the counting form: if the multiset statement FAILS, fewer than `#combos` challenges outside the
combos have accepting SLDC values (at most `#combos` more lie in the combos) -/
theorem lookup_trace_sound_count (L : Layout) (D : Slots K)
    (hlut : D.nLut ≤ L.s * D.lutDeg) (hlu : D.nLu ≤ L.s * D.luDeg)
    (hbad : ∃ a, (lookingCount L D a : K) ≠ lookedWeight L D a)
    (T : Finset K) (hdisj : Disjoint T (combos L D))
    (hacc : ∀ α ∈ T, ∃ z, VerifierRows L D α z (L.s - 1)) :
    T.card < (combos L D).card := by
  by_contra hlt
  obtain ⟨a, ha⟩ := hbad
  exact ha (lookup_trace_sound L D hlut hlu T hdisj (not_lt.1 hlt) hacc a)

/-- **every looked-up combination is in the table rows**: when the number of lookups is below the
characteristic, each LU slot's combination equals the combination of some LUT slot with non-zero
multiplicity wire -/
theorem lookup_trace_sound_mem (L : Layout) (D : Slots K)
    (hlut : D.nLut ≤ L.s * D.lutDeg) (hlu : D.nLu ≤ L.s * D.luDeg)
    (hchar : ∀ n : ℕ, 0 < n → n ≤ (luIdx L D).card → (n : K) ≠ 0)
    (T : Finset K) (hdisj : Disjoint T (combos L D)) (hcard : (combos L D).card ≤ T.card)
    (hacc : ∀ α ∈ T, ∃ z, VerifierRows L D α z (L.s - 1)) :
    ∀ r ∈ L.luRows, ∀ i < D.nLu, ∃ r' ∈ L.lutRows, ∃ i' < D.nLut,
      D.looked r' i' = D.looking r i ∧ D.mult r' i' ≠ 0 := by
  intro r hr i hi
  have key := lookup_trace_sound L D hlut hlu T hdisj hcard hacc (D.looking r i)
  have hpos : 0 < lookingCount L D (D.looking r i) :=
    Finset.card_pos.2 ⟨(r, i), Finset.mem_filter.2 ⟨(mem_luIdx L D).2 ⟨hr, hi⟩, rfl⟩⟩
  have hne : lookedWeight L D (D.looking r i) ≠ 0 := by
    rw [← key]
    exact hchar _ hpos (Finset.card_filter_le _ _)
  obtain ⟨x, hx, hx0⟩ := Finset.exists_ne_zero_of_sum_ne_zero hne
  rw [Finset.mem_filter] at hx
  exact ⟨x.1, ((mem_lutIdx L D).1 hx.1).1, x.2, ((mem_lutIdx L D).1 hx.1).2, hx.2, hx0⟩

/-- **the multiset form**: if moreover the multiplicity wires are (casts of) naturals `m` and
lookups and multiplicities stay below a bound `N` on which `ℕ → K` is injective (C08b
`natCast_inj_below_char`), the multiset of looked-up combinations is the multiset of the LUT
slots' combinations with their multiplicities -/
theorem lookup_trace_sound_multiset (L : Layout) (D : Slots K)
    (hlut : D.nLut ≤ L.s * D.lutDeg) (hlu : D.nLu ≤ L.s * D.luDeg)
    (m : ℕ → ℕ → ℕ) (hm : ∀ x ∈ lutIdx L D, D.mult x.1 x.2 = (m x.1 x.2 : K))
    (N : ℕ) (hchar : ∀ n k : ℕ, n < N → k < N → (n : K) = (k : K) → n = k)
    (hN : (luIdx L D).card < N) (hmN : ∑ x ∈ lutIdx L D, m x.1 x.2 < N)
    (T : Finset K) (hdisj : Disjoint T (combos L D)) (hcard : (combos L D).card ≤ T.card)
    (hacc : ∀ α ∈ T, ∃ z, VerifierRows L D α z (L.s - 1)) :
    (luIdx L D).val.map (fun x => D.looking x.1 x.2)
      = ∑ x ∈ lutIdx L D, m x.1 x.2 • ({D.looked x.1 x.2} : Multiset K) := by
  ext a
  have key := lookup_trace_sound L D hlut hlu T hdisj hcard hacc a
  have hw : lookedWeight L D a
      = ((∑ x ∈ (lutIdx L D).filter (fun x => D.looked x.1 x.2 = a), m x.1 x.2 : ℕ) : K) := by
    rw [lookedWeight, Nat.cast_sum]
    exact Finset.sum_congr rfl fun x hx => hm x (Finset.mem_filter.1 hx).1
  rw [hw] at key
  have hcount := hchar _ _ (lt_of_le_of_lt (Finset.card_filter_le _ _) hN)
    (lt_of_le_of_lt (Finset.sum_le_sum_of_subset (Finset.filter_subset _ _)) hmN) key
  rw [Multiset.count_map, Multiset.count_sum']
  simp only [Multiset.count_nsmul, Multiset.count_singleton]
  rw [Finset.sum_filter] at hcount
  simp only [eq_comm (a := a), mul_ite, mul_one, mul_zero]
  rw [← hcount, Finset.card_def, Finset.filter_val]

/-- **completeness** (and non-vacuity of the hypothesis `hacc`): if the counts agree with the
declared multiplicities, EVERY challenge outside the combos has accepting SLDC values -/
theorem lookup_trace_complete (L : Layout) (D : Slots K)
    (hlut : D.nLut ≤ L.s * D.lutDeg) (hlu : D.nLu ≤ L.s * D.luDeg)
    (h : ∀ a, (lookingCount L D a : K) = lookedWeight L D a)
    (α : K) (hα : α ∉ combos L D) : ∃ z, VerifierRows L D α z (L.s - 1) := by
  have hb : sumTotal L (D.sumTerm α) = ldcTotal L (D.ldcTerm α) := by
    rw [sumTotal_eq L D hlut α, ldcTotal_eq L D hlu α]
    exact Finset.sum_congr rfl fun a _ => by rw [h a]
  obtain ⟨z, hz⟩ := repaired_pin_complete L _ _ hb
  exact ⟨z, (verifier_rows_iff_constraints L D α (avoids_of_not_mem L D α hα) z _).2 hz⟩

/-- with the ORIGINAL pin and `s ≥ 2`, EVERY challenge outside the combos has accepting SLDC
values, whatever the lookups and the table -/
theorem lookup_trace_original_pin_accepts_all (L : Layout) (hs : 2 ≤ L.s) (D : Slots K)
    (α : K) (hα : α ∉ combos L D) : ∃ z, VerifierRows L D α z 0 := by
  obtain ⟨z, hz, _⟩ := original_pin_unsound L hs (D.sumTerm α) (D.ldcTerm α)
  exact ⟨z, (verifier_rows_iff_constraints L D α (avoids_of_not_mem L D α hα) z _).2 hz⟩

end sound

section structure_
open P2.Plonk P2.Lemmas.LookupStructure

/-- **structure of `Plonk.checkLookupConstraints`** (the list the verifier model evaluates at `ζ`
for one challenge index), with `s = localZs.length − 1`, `sel i = lookupSelectors[i]`,
`z_k = localZs[k + 1]`, `zRe = localZs[0]`:
  position `0`: `sel 3 * z_{s−1}`  (LastLdc),
  position `1`: `sel 2 * z_{s−1}`  (InitSre — on the LAST SLDC polynomial: the repaired pin),
  position `2`: `sel 2 * zRe`,
  position `4 + #tables + 2·poly`:     `sel 0 * (lut_prod·(z_poly − prev) − lut_sum_prods_with_mul)`,
  position `4 + #tables + 2·poly + 1`: `sel 1 * (lu_prod·(z_poly − prev) + lu_sum_prods)`,
with `prev = nextZs[s]` (the last SLDC poly of the next row) for `poly = 0` and `z_{poly−1}`
otherwise: term by term the fields of `VerifierRows … (s − 1)`. The named pieces
(`sumTransition`, `sldcPrev`, `lutProd`, …) are the `let`s of the model, by `rfl`
(`P2.Lemmas.LookupStructure.checkLookupConstraints_eq`). -/
theorem checkLookupConstraints_structure (c : CommonData) (wires localZs nextZs sels : List GL2)
    (deltas : List P2.GL) :
    let l := checkLookupConstraints c wires localZs nextZs sels deltas
    let s := localZs.length - 1
    let sel := fun i => sels.getD i FOps.zero
    let z := fun k => localZs.getD (k + 1) FOps.zero
    let prev := fun poly => if poly = 0 then nextZs.getD (s - 1 + 1) FOps.zero else z (poly - 1)
    l[0]? = some (sel 3 * z (s - 1)) ∧
    l[1]? = some (sel 2 * z (s - 1)) ∧
    l[2]? = some (sel 2 * localZs.getD 0 FOps.zero) ∧
    ∀ poly, poly < s →
      l[4 + (c.numLookupSelectors - 4) + 2 * poly]? =
        some (sel 0 * (lutProd c wires localZs deltas poly * (z poly - prev poly)
          - lutSumProdsMul c wires localZs deltas poly)) ∧
      l[4 + (c.numLookupSelectors - 4) + 2 * poly + 1]? =
        some (sel 1 * (luProd c wires deltas poly * (z poly - prev poly)
          + luSumProds c wires deltas poly)) :=
  checkLookupConstraints_positions c wires localZs nextZs sels deltas

/-- the model's InitSre term (entry 1) is on the LAST SLDC polynomial `z_{s−1} = localZs[s]`,
`s = localZs.length − 1`; the original constraint (finding F-C08-1) had `sel 2 * z_0` there -/
theorem checkLookupConstraints_pin (c : CommonData) (wires localZs nextZs sels : List GL2)
    (deltas : List P2.GL) :
    (checkLookupConstraints c wires localZs nextZs sels deltas)[1]? =
      some (sels.getD 2 FOps.zero * localZs.getD (localZs.length - 1 - 1 + 1) FOps.zero) :=
  (checkLookupConstraints_positions c wires localZs nextZs sels deltas).2.1

end structure_

section model
open P2.Plonk P2.Lemmas.LookupTraceGL2 P2.Lemmas.GL2Field
attribute [local instance] gl2Field

/-- **the verifier model evaluates the row-level system.** `t` the trace region (wires and the
`s + 1` lookup-polynomial values per row, the four challenges), `sels` the lookup selector values
per row as `selectors_lookup` sets them for the table `L`. The SLDC entries of
`Plonk.checkLookupConstraints` (positions as in `checkLookupConstraints_structure`; local values the
row's, next values the next row's) vanish on every row iff `VerifierRows` holds — with pin `s − 1`,
the repaired initial constraint — for the slot data, `α` and SLDC values read off the trace. -/
theorem model_rows_iff_verifier_rows (t : Trace) (L : Layout) (sels : ℕ → List GL2)
    (hlen : ∀ r, (t.zs r).length = L.s + 1) (hsel : SelectorsOf L sels) :
    ModelRowsVanish t L sels ↔ VerifierRows L (t.slots L.s) t.alpha t.z (L.s - 1) := by
  have hn : ∀ r, LS.numSldc (t.zs r) = L.s := fun r => by
    rw [Lemmas.LookupStructure.numSldc, hlen r, Nat.add_sub_cancel]
  have pos := fun r => Lemmas.LookupStructure.checkLookupConstraints_positions t.c (t.wires r) (t.zs r)
    (t.zs (r + 1)) (sels r) t.deltas
  have zero : ∀ {x : Option GL2} {a : GL2}, x = some a → (x = some 0 ↔ a = 0) := fun h => by
    rw [h, Option.some_inj]
  -- on row `r` the four kinds of entries vanish iff the four `VerifierRows` expressions of the row do
  have row := fun r => and_congr (zero (pos r).1) (and_congr (zero (pos r).2.1)
    (forall₂_congr fun p (hp : p < L.s) => and_congr (zero ((pos r).2.2.2 p (hn r ▸ hp)).1)
      (zero ((pos r).2.2.2 p (hn r ▸ hp)).2)))
  simp only [fun r => (hsel r).1, fun r => (hsel r).2.1, fun r => (hsel r).2.2.1,
    fun r => (hsel r).2.2.2, hn, fun r => sumTransition_eq t L r (hlen r),
    fun r => ldcTransition_eq t L r (hlen r)] at row
  exact ⟨fun h => ⟨fun r k hk => (((row r).1 (h r)).2.2 k hk).1,
      fun r k hk => (((row r).1 (h r)).2.2 k hk).2, fun r => ((row r).1 (h r)).2.1,
      fun r => ((row r).1 (h r)).1⟩,
    fun h r => (row r).2 ⟨h.last r, h.init r, fun p hp => ⟨h.sre r p hp, h.ldc r p hp⟩⟩⟩

/-- the slot data of the model for wires `wires` and challenge A (independent of the other
challenges and of the lookup polynomials) -/
def modelSlots (c : CommonData) (wires : ℕ → List GL2) (dA : P2.GL) (s : ℕ) : Slots GL2 :=
  (Trace.mk c wires (fun _ => []) [dA]).slots s

/-- **row-level soundness for the verifier model's terms.** Wires, table layout, selectors and
challenge A fixed. If for every `α` in a set `T ⊆ GL2` of at least `#combos` points outside the
combos there are a base-field challenge `α'` with `ofBase α' = α` and lookup-polynomial values
(`s + 1` per row) for which the SLDC entries of `Plonk.checkLookupConstraints` vanish on every row,
then for every `a`: (number of LU slots whose combination is `a`) = Σ multiplicity wires of the LUT
slots whose combination is `a`; and when there are fewer than `p = GLP` LU slots, every LU slot's
combination is the combination of an LUT slot with non-zero multiplicity wire.
(`hlu`: the SLDC polys cover the LU slots, `num_sldc_polys ≥ ⌈num_lu_slots / lu_degree⌉`; the LUT
slots are covered by the definition of `lut_degree`.) Not covered: as for `lookup_trace_sound`. -/
theorem model_lookup_trace_sound (c : CommonData) (wires : ℕ → List GL2) (L : Layout)
    (sels : ℕ → List GL2) (hsel : SelectorsOf L sels) (dA dB dDelta : P2.GL)
    (hlu : c.config.numRoutedWires / 2 ≤ L.s * (c.quotientDegreeFactor - 1))
    (T : Finset GL2) (hdisj : Disjoint T (combos L (modelSlots c wires dA L.s)))
    (hcard : (combos L (modelSlots c wires dA L.s)).card ≤ T.card)
    (hacc : ∀ α ∈ T, ∃ (α' : P2.GL) (zs : ℕ → List GL2), GL2.ofBase α' = α ∧
      (∀ r, (zs r).length = L.s + 1) ∧
      ModelRowsVanish ⟨c, wires, zs, [dA, dB, α', dDelta]⟩ L sels) :
    (∀ a, (lookingCount L (modelSlots c wires dA L.s) a : GL2)
        = lookedWeight L (modelSlots c wires dA L.s) a) ∧
    ((luIdx L (modelSlots c wires dA L.s)).card < GLP →
      ∀ r ∈ L.luRows, ∀ i < c.config.numRoutedWires / 2,
        ∃ r' ∈ L.lutRows, ∃ i' < c.config.numRoutedWires / 3,
          (modelSlots c wires dA L.s).looked r' i' = (modelSlots c wires dA L.s).looking r i ∧
          (modelSlots c wires dA L.s).mult r' i' ≠ 0) := by
  have hs := L.hs
  have hlut : (modelSlots c wires dA L.s).nLut ≤ L.s * (modelSlots c wires dA L.s).lutDeg := by
    show c.config.numRoutedWires / 3
      ≤ L.s * (if L.s = 0 then 0 else (c.config.numRoutedWires / 3 + L.s - 1) / L.s)
    rw [if_neg (by omega)]
    exact lutDegree_covers _ _ hs
  have hacc' : ∀ α ∈ T, ∃ z, VerifierRows L (modelSlots c wires dA L.s) α z (L.s - 1) := by
    intro α hα
    obtain ⟨α', zs, rfl, hlen, hv⟩ := hacc α hα
    exact ⟨_, (model_rows_iff_verifier_rows ⟨c, wires, zs, [dA, dB, α', dDelta]⟩ L sels hlen hsel).1 hv⟩
  refine ⟨lookup_trace_sound L _ hlut hlu T hdisj hcard hacc', fun hp => ?_⟩
  exact lookup_trace_sound_mem L _ hlut hlu
    (fun n h0 hn => natCast_ne_zero n h0 (lt_of_le_of_lt hn hp)) T hdisj hcard hacc'

end model

/-- the layout of the concrete instances below: `s = 2`, one LU row `0`, one LUT row `1`, Noop row `2` -/
def exLayout : Layout := ⟨0, 1, 1, 2, by omega, by omega, by omega⟩

/-- on the tiny layout the system is six equations -/
theorem exLayout_constraints {sumTerm ldcTerm z : ℕ → ℕ → ℚ} {pin : ℕ}
    (h : (z 1 0 - z 2 1 = sumTerm 1 0 ∧ z 1 1 - z 1 0 = sumTerm 1 1) ∧
      (z 0 0 - z 1 1 = - ldcTerm 0 0 ∧ z 0 1 - z 0 0 = - ldcTerm 0 1) ∧
      z 2 pin = 0 ∧ z 0 1 = 0) :
    Constraints exLayout sumTerm ldcTerm z pin := by
  have two : ∀ k, k < exLayout.s → k = 0 ∨ k = 1 := fun k hk => by
    have : k < 2 := hk
    omega
  refine ⟨fun r hr k hk => ?_, fun r hr k hk => ?_, fun r hr => hr ▸ h.2.2.1,
    fun r hr => hr ▸ h.2.2.2⟩
  · obtain rfl : r = 1 := Nat.le_antisymm hr.2 hr.1
    rcases two k hk with rfl | rfl
    exacts [h.1.1, h.1.2]
  · obtain rfl : r = 0 := Nat.lt_one_iff.1 hr.2
    rcases two k hk with rfl | rfl
    exacts [h.2.1.1, h.2.1.2]

/-- balanced: LUT row contributes `1/2 + 1/3`, LU row looks up `1/2 + 1/3` -/
def exSum : ℕ → ℕ → ℚ := fun r k => if r = 1 then (if k = 0 then 1/2 else 1/3) else 0
def exLdc : ℕ → ℕ → ℚ := fun r k => if r = 0 then (if k = 0 then 1/3 else 1/2) else 0
/-- the honest accumulator: `0` on the Noop row, `1/2, 5/6` on the LUT row, `1/2, 0` on the LU row -/
def exZ : ℕ → ℕ → ℚ := fun r k =>
  if r = 1 then (if k = 0 then 1/2 else 5/6) else if r = 0 then (if k = 0 then 1/2 else 0) else 0

/-- the repaired system has a solution with balanced, non-zero terms -/
theorem ex_repaired_ok : Constraints exLayout exSum exLdc exZ 1 :=
  exLayout_constraints (by decide +kernel)

/-- UNBALANCED: the table contributes `1/2 + 1/3` but the LU row looks up `1/5 + 1/7`
(values not in the table) -/
def badLdc : ℕ → ℕ → ℚ := fun r k => if r = 0 then (if k = 0 then 1/5 else 1/7) else 0
/-- the compensating accumulator: starts at `z_1(2) = −(5/6 − 12/35) = −103/210`, `z_0(2) = 0` -/
def badZ : ℕ → ℕ → ℚ := fun r k =>
  if r = 2 then (if k = 0 then 0 else -103/210)
  else if r = 1 then (if k = 0 then 1/2 - 103/210 else 12/35)
  else if r = 0 then (if k = 0 then 1/7 else 0) else 0

/-- the bug: unbalanced terms satisfy the ORIGINAL system … -/
theorem ex_original_accepts_unbalanced : Constraints exLayout exSum badLdc badZ 0 :=
  exLayout_constraints (by decide +kernel)

/-- … but not the repaired one, with these or any other SLDC values -/
theorem ex_repaired_rejects_unbalanced : ¬ ∃ z, Constraints exLayout exSum badLdc z 1 := by
  rintro ⟨z, h⟩
  exact absurd (repaired_pin_sound exLayout exSum badLdc z h) (by decide +kernel)

end P2.Props.C08c
