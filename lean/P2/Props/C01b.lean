/-
C01 (general theorems over an arbitrary field `K`): `CircuitBuilder::arithmetic_special_cases`
(`P2.Circuit.arithmeticSpecialCases`) is sound — whenever the builder short-circuits
`arithmetic(c0, c1, x, y, z)` to an existing target or a constant, that target denotes
`c0·x·y + c1·z`. Also (F) the trivial completeness direction of the vanishing combination.
-/
import P2.Lemmas.PlonkAlg
import Mathlib.Algebra.Field.Rat
import Mathlib.Algebra.Order.Ring.Rat
namespace P2.Props.C01
open P2 P2.Circuit P2.PlonkAlg P2.Lemmas.PlonkAlg

variable {K : Type} [Field K]

/-- `Operand.Consistent o` (defined in `P2.Lemmas.PlonkAlg`): the constant the builder believes the
operand to be is its value, and the zero target has value `0` -/
theorem operand_consistent_iff (o : Operand K) :
    o.Consistent ↔ (∀ c, o.knownConst = some c → o.value = c) ∧ (o.isZeroTarget = true → o.value = 0) :=
  Iff.rfl

variable [DecidableEq K]

/-- every special case of the builder's `arithmetic` returns a target denoting `c0·x·y + c1·z` -/
theorem arithmetic_special_cases_denote (c0 c1 : K) (m0 m1 ad : Operand K)
    (h0 : m0.Consistent) (h1 : m1.Consistent) (ha : ad.Consistent) (r : Special K)
    (h : @arithmeticSpecialCases K (FOps.ofField K) c0 c1 m0 m1 ad = some r) :
    @Special.denote K m0 m1 ad r = c0 * m0.value * m1.value + c1 * ad.value := by
  rw [arithmeticSpecialCases_eq] at h
  split at h
  · next x y hx hy =>
    rw [firstTermConst_sound c0 m0 m1 h0 h1 x hx, secondTermConst_sound c1 ad ha y hy,
      ← Option.some.inj h]
    rfl
  · split at h
    · next hc =>
      rw [Bool.and_eq_true, beq_iff_eq] at hc
      rw [firstTermZero_sound c0 m0 m1 h0 h1 hc.1, hc.2, ← Option.some.inj h, zero_add, one_mul]
      rfl
    · split at h
      · next hz =>
        rw [secondTermZero_sound c1 ad ha hz, add_zero]
        -- the operand returned is the other multiplicand, whose coefficient `x·c0` is `1`
        rcases unitCase_eq_some h with ⟨x, hx, hc, rfl⟩ | h
        · rw [h0.1 x hx, mul_comm c0, hc, one_mul]
          rfl
        · rcases unitCase_eq_some h with ⟨y, hy, hc, rfl⟩ | h
          · rw [h1.1 y hy, mul_right_comm, mul_comm c0, hc, one_mul]
            rfl
          · nomatch h
      · nomatch h

/-- an operand the builder knows nothing about / knows to be the constant `c`; each result variant
occurs: -/
private def unk (v : ℚ) : Operand ℚ := ⟨v, none, false⟩
private def cst (c : ℚ) : Operand ℚ := ⟨c, some c, false⟩

example : @arithmeticSpecialCases ℚ (FOps.ofField ℚ) 2 3 (cst 5) (cst 7) (cst 11)
    = some (.constant 103) := by
  norm_num [arithmeticSpecialCases, cst, FOps.zero, FOps.one]
example : @arithmeticSpecialCases ℚ (FOps.ofField ℚ) 0 1 (unk 5) (unk 7) (unk 11) = some .addend := by
  norm_num [arithmeticSpecialCases, unk, FOps.zero, FOps.one]
example : @arithmeticSpecialCases ℚ (FOps.ofField ℚ) (1 / 5) 0 (cst 5) (unk 7) (unk 11)
    = some .multiplicand1 := by
  norm_num [arithmeticSpecialCases, unk, cst, FOps.zero, FOps.one]
example : @arithmeticSpecialCases ℚ (FOps.ofField ℚ) (1 / 7) 0 (unk 5) (cst 7) (unk 11)
    = some .multiplicand0 := by
  norm_num [arithmeticSpecialCases, unk, cst, FOps.zero, FOps.one]
example : @arithmeticSpecialCases ℚ (FOps.ofField ℚ) 2 3 (unk 5) (unk 7) (unk 11) = none := by
  norm_num [arithmeticSpecialCases, unk, FOps.zero, FOps.one]
example : (cst 5).Consistent := ⟨fun c h => by simpa [cst] using h, fun h => by simp [cst] at h⟩

/-- if every gate-constraint term, every partial-product term and every `L_0·(Z−1)` term is zero,
the α-combination is zero for every `α`, so `vanishing(ζ) = Z_H(ζ)·t(ζ)` holds with `t(ζ) = 0` -/
theorem vanishing_complete (l0Terms ppTerms gateTerms : List K)
    (h1 : ∀ t ∈ l0Terms, t = 0) (h2 : ∀ t ∈ ppTerms, t = 0) (h3 : ∀ t ∈ gateTerms, t = 0)
    (α zH : K) :
    @reduceWithPowers K (FOps.ofField K) (l0Terms ++ ppTerms ++ gateTerms) α = zH * 0 := by
  rw [mul_zero]
  apply reduce_of_all_zero
  intro t ht
  simp only [List.mem_append] at ht
  rcases ht with (ht | ht) | ht
  · exact h1 t ht
  · exact h2 t ht
  · exact h3 t ht

end P2.Props.C01
