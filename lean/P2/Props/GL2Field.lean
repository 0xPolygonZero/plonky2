/-
GL2Field: the model's quadratic extension `GL2 = GL[X]/(X² − 7)` IS a Mathlib field, and the
executable operations record `instFOpsGL2` IS `FOps.ofField GL2`. Consequently every theorem stated
over an arbitrary field `K` through `FOps.ofField K` (C02b, C05b, C09b, C10b, C07b, …) applies to
the code the verifier actually runs (challenges, openings, `ζ` live in `GL2`).

 1. `7` is a quadratic non-residue modulo `GLP` (Euler's criterion; the power is evaluated by the
    kernel through `L0.powMod`, the function already used for the Lucas primality proof);
 2. the base field: `GL.pow = ^`, `GL.inv = ⁻¹`, `instFOpsGL = FOps.ofField GL` (including
    `inv`), `GL.primitiveRoot k` is a primitive `2^k`-th root of unity;
 3. `gl2Field : Field GL2`, with every operation the model's BY `rfl`;
 4. the bridge `fops_GL2_eq`, and the derived operations (`FOps.pow`, `FOps.reduceWithPowers`,
    `GL2.ofBase` as ring homomorphism, `GL2.scalarMul`, characteristic, cardinality);
 5. MODEL-LEVEL corollaries — sections A, B, C are elaborated WITHOUT any local instance: every
    operation occurring in those statements is the model's (`GL2.zero`, `GL2.one`, `*`/`-` of
    `instFOpsGL2`, `FOps.pow`, `FOps.reduceWithPowers`, `Fri.reduceExt`, `Air.Consumer`,
    `Plonk.evalL0`, `Stark.evalL0LLast`), and no typeclass argument is left open.
-/
import P2.Lemmas.GL2Field
import P2.Props.C02b
import P2.Props.C09b
namespace P2.Props.GL2Field
open P2 P2.Lemmas.C07

/-! ## 1. seven is not a square -/

theorem seven_pow_half : (7 : ZMod GLP) ^ (GLP / 2) = -1 := Lemmas.GL2Field.seven_pow_half

/-- `X² − 7` is irreducible over Goldilocks: `7` is a quadratic non-residue -/
theorem seven_nonsquare : ¬ IsSquare (7 : ZMod GLP) := Lemmas.GL2Field.seven_nonsquare

/-- the same on the model's carrier and with the model's constant `GL2.W` -/
theorem W_nonsquare : ¬ ∃ r : P2.GL, GL2.W = r * r := fun ⟨r, hr⟩ =>
  Lemmas.GL2Field.seven_nonsquare ⟨r, hr⟩

/-- the norm form is anisotropic (all operations are the model's `Fin GLP` operations) -/
theorem norm_ne_zero (x : GL2) (hx : x ≠ GL2.zero) : x.a * x.a - GL2.W * (x.b * x.b) ≠ 0 :=
  Lemmas.GL2Field.norm_ne_zero x hx

/-- non-vacuity: the norm of `3 + 2X` is `9 − 28 = −19` -/
example : (⟨3, 2⟩ : GL2) ≠ GL2.zero := by decide
example : ((3 : P2.GL) * 3 - GL2.W * (2 * 2)) = GL.ofNat (GLP - 19) := by decide +kernel

/-! ## 2. the base field -/

section Base
attribute [local instance] glField

/-- the model's `GL.pow` (a `for` loop over the bits of `e`) is `^` of `ZMod GLP` -/
theorem GL_pow_eq (b : P2.GL) (e : Nat) : GL.pow b e = b ^ e := gl_pow_eq b e

/-- the model's `GL.inv` (Fermat) is `⁻¹` of `ZMod GLP`, including `0 ↦ 0` -/
theorem GL_inv_eq (x : P2.GL) : GL.inv x = x⁻¹ := gl_inv_eq x

/-- C07's `fops_GL_eq` without the `inv` exception -/
theorem fops_GL_eq : instFOpsGL = FOps.ofField P2.GL := fops_GL_eq_ofField

/-- `POWER_OF_TWO_GENERATOR` has order exactly `2^32` -/
theorem pow2Gen_order : orderOf (GL.pow2Gen : P2.GL) = 2 ^ 32 := Lemmas.GL2Field.pow2Gen_order

/-- `primitive_root_of_unity(k)` is a primitive `2^k`-th root of unity for every `k ≤ 32` -/
theorem primitiveRoot_primitive (k : ℕ) (hk : k ≤ 32) :
    IsPrimitiveRoot (GL.primitiveRoot k : P2.GL) (2 ^ k) :=
  Lemmas.GL2Field.primitiveRoot_primitive k hk

end Base

/-! ## 3. `GL2` is a field, with the model's operations -/

/-- the field structure (a `@[reducible] def`, to be activated with
`attribute [local instance] gl2Field`, like `glField`) -/
@[reducible] def gl2Field : Field GL2 := Lemmas.GL2Field.gl2Field

/-- the two axioms that are not ring identities, on the model's functions -/
theorem mul_inv_cancel (x : GL2) (hx : x ≠ GL2.zero) : GL2.mul x (GL2.inv x) = GL2.one :=
  Lemmas.GL2Field.mul_inv_cancel' x hx
theorem inv_zero : GL2.inv GL2.zero = GL2.zero := Lemmas.GL2Field.inv_zero'

example : GL2.mul ⟨3, 2⟩ (GL2.inv ⟨3, 2⟩) = GL2.one := by decide +kernel

section Field
attribute [local instance] glField gl2Field

/- field notation on the left; the lemmas of the same names in `P2.Lemmas.GL2Field` read the other way -/
theorem zero_def : (0 : GL2) = GL2.zero := rfl
theorem one_def : (1 : GL2) = GL2.one := rfl
theorem add_def (x y : GL2) : x + y = GL2.add x y := rfl
theorem mul_def (x y : GL2) : x * y = GL2.mul x y := rfl
theorem sub_def (x y : GL2) : x - y = GL2.sub x y := rfl
theorem neg_def (x : GL2) : -x = GL2.neg x := rfl
theorem inv_def (x : GL2) : x⁻¹ = GL2.inv x := rfl
theorem div_def (x y : GL2) : x / y = GL2.mul x (GL2.inv y) := rfl
theorem natCast_def (n : ℕ) : (n : GL2) = GL2.ofBase (GL.ofNat n) := rfl

/-! ## 4. the bridge -/

/-- the model's equality test decides equality -/
theorem beq_eq (x y : GL2) : (x == y) = decide (x = y) := Lemmas.GL2Field.beq_eq x y

/-- THE BRIDGE: the executable operations record of `GL2` is the record of the field `GL2`
(all fields, including `inv` and `beq`) -/
theorem fops_GL2_eq : instFOpsGL2 = FOps.ofField P2.GL2 := Lemmas.GL2Field.fops_GL2_eq

/-- field by field; left sides are the `FOps` operations of `instFOpsGL2`, right sides the field's -/
theorem fops_zero : (FOps.zero : GL2) = 0 := rfl
theorem fops_one : (FOps.one : GL2) = 1 := rfl
theorem fops_add (x y : GL2) :
    @HAdd.hAdd GL2 GL2 GL2 (@instHAdd GL2 instFOpsGL2.toAdd) x y = x + y := rfl
theorem fops_mul (x y : GL2) :
    @HMul.hMul GL2 GL2 GL2 (@instHMul GL2 instFOpsGL2.toMul) x y = x * y := rfl
theorem fops_sub (x y : GL2) :
    @HSub.hSub GL2 GL2 GL2 (@instHSub GL2 instFOpsGL2.toSub) x y = x - y := rfl
theorem fops_neg (x : GL2) : @Neg.neg GL2 instFOpsGL2.toNeg x = -x := rfl
theorem fops_inv (x : GL2) : (FOps.inv x : GL2) = x⁻¹ := rfl
theorem fops_ofNat (n : ℕ) : (FOps.ofNat n : GL2) = (n : GL2) := rfl
theorem fops_beq (x y : GL2) :
    @BEq.beq GL2 instFOpsGL2.toBEq x y = decide (x = y) := Lemmas.GL2Field.beq_eq x y

/-- the model's square-and-multiply -/
theorem fops_pow (x : GL2) (n : ℕ) : FOps.pow x n = x ^ n := Lemmas.GL2Field.fops_pow x n

/-- the model's Horner `reduce_with_powers` -/
theorem fops_reduceWithPowers (xs : List GL2) (α : GL2) :
    FOps.reduceWithPowers xs α = ∑ i : Fin xs.length, xs[i] * α ^ (i : ℕ) := by
  rw [Lemmas.GL2Field.fops_GL2_eq]; exact Lemmas.PlonkAlg.reduce_eq_sum xs α
theorem fops_reduceWithPowers_range (xs : List GL2) (α : GL2) :
    FOps.reduceWithPowers xs α = ∑ i ∈ Finset.range xs.length, xs.getD i 0 * α ^ i :=
  Lemmas.GL2Field.fops_reduceWithPowers_range xs α
theorem fops_reduceWithPowers_mapIdx (xs : List GL2) (α : GL2) :
    FOps.reduceWithPowers xs α = (xs.mapIdx fun i x => x * α ^ i).sum := by
  induction xs with
  | nil => rfl
  | cons x xs ih =>
    have h : FOps.reduceWithPowers (x :: xs) α = FOps.reduceWithPowers xs α * α + x := rfl
    rw [h, ih, List.mapIdx_cons, List.sum_cons, pow_zero, mul_one, add_comm]
    congr 1
    have e : (List.mapIdx (fun i x => x * α ^ i) xs).sum * α
        = ((List.mapIdx (fun i x => x * α ^ i) xs).map (fun b => b * α)).sum := by
      rw [List.sum_map_mul_right (f := fun b => b), List.map_id']
    rw [e]
    congr 1
    apply List.ext_getElem (by simp)
    intro i h1 h2
    simp only [List.getElem_map, List.getElem_mapIdx]
    rw [pow_succ, mul_assoc]

/-- `Fri.reduceExt` and `PlonkAlg.reduceWithPowers` are the same function -/
theorem reduceExt_eq (xs : List GL2) (α : GL2) :
    Fri.reduceExt xs α = FOps.reduceWithPowers xs α := rfl
theorem plonkAlg_reduceWithPowers_eq (xs : List GL2) (α : GL2) :
    PlonkAlg.reduceWithPowers xs α = FOps.reduceWithPowers xs α := rfl

/-- `GL2.ofBase` as a ring homomorphism `GL →+* GL2` (`toFun` is `GL2.ofBase` by `rfl`) -/
def ofBaseHom : P2.GL →+* GL2 := Lemmas.GL2Field.ofBaseHom
theorem ofBaseHom_apply (x : P2.GL) : ofBaseHom x = GL2.ofBase x := rfl
theorem ofBase_injective : Function.Injective GL2.ofBase := fun _ _ h => congrArg GL2.a h
theorem ofBase_add (x y : P2.GL) : GL2.ofBase (x + y) = GL2.ofBase x + GL2.ofBase y :=
  Lemmas.GL2Field.ofBaseHom.map_add' x y
theorem ofBase_mul (x y : P2.GL) : GL2.ofBase (x * y) = GL2.ofBase x * GL2.ofBase y :=
  Lemmas.GL2Field.ofBaseHom.map_mul' x y
theorem ofBase_pow (x : P2.GL) (n : ℕ) : GL2.ofBase (GL.pow x n) = GL2.ofBase x ^ n :=
  Lemmas.GL2Field.ofBase_GLpow x n
theorem ofBase_inv (x : P2.GL) : GL2.ofBase (GL.inv x) = (GL2.ofBase x)⁻¹ := by
  rw [gl_inv_eq]; exact map_inv₀ Lemmas.GL2Field.ofBaseHom x

/-- the `GL`-algebra structure whose `algebraMap` is `GL2.ofBase` -/
@[reducible] def gl2Algebra : Algebra P2.GL GL2 := Lemmas.GL2Field.gl2Algebra
theorem algebraMap_apply (x : P2.GL) : @algebraMap P2.GL GL2 _ _ gl2Algebra x = GL2.ofBase x := rfl

/-- `scalar_mul` is multiplication by the embedded scalar -/
theorem scalarMul_eq (x : GL2) (s : P2.GL) : GL2.scalarMul x s = x * GL2.ofBase s :=
  (Lemmas.StarkAlg.scalarMul_eq x s).trans (Lemmas.GL2Field.mul_comm' _ x)

/-- `GL2 = GL ⊕ GL·X` with `X² = 7` -/
theorem X_sq : (⟨0, 1⟩ : GL2) * ⟨0, 1⟩ = GL2.ofBase GL2.W := by
  apply Lemmas.GL2Field.ext' <;>
    simp only [mul_def, Lemmas.GL2Field.mul_a, Lemmas.GL2Field.mul_b, Lemmas.GL2Field.ofBase_a,
      Lemmas.GL2Field.ofBase_b] <;> ring
theorem decomp (x : GL2) : x = GL2.ofBase x.a + GL2.ofBase x.b * ⟨0, 1⟩ := by
  apply Lemmas.GL2Field.ext' <;>
    simp only [mul_def, add_def, Lemmas.GL2Field.add_a, Lemmas.GL2Field.add_b, Lemmas.GL2Field.mul_a,
      Lemmas.GL2Field.mul_b, Lemmas.GL2Field.ofBase_a, Lemmas.GL2Field.ofBase_b] <;> ring

theorem charP : CharP GL2 GLP := Lemmas.GL2Field.gl2CharP
theorem natCast_eq_zero_iff (n : ℕ) : (n : GL2) = 0 ↔ GLP ∣ n :=
  Lemmas.GL2Field.natCast_eq_zero_iff n
/-- the side condition `hinj` of C02b's filter theorems holds in `GL2` -/
theorem hinj : ∀ a b : Nat, a < 2 ^ 32 → b < 2 ^ 32 → (a : GL2) = (b : GL2) → a = b :=
  haveI := Lemmas.GL2Field.gl2CharP
  Lemmas.PlonkAlg.hinj_of_charP GLP (by norm_num)

theorem card : @Fintype.card GL2 Lemmas.GL2Field.gl2Fintype = GLP ^ 2 := by
  rw [Fintype.card_congr Lemmas.GL2Field.equivProd, Fintype.card_prod, Fintype.card_fin, pow_two]
theorem natCard : Nat.card GL2 = GLP ^ 2 := by
  rw [Nat.card_eq_fintype_card, card]

/-- the image of `primitive_root_of_unity(k)` is a primitive `2^k`-th root of unity of `GL2` -/
theorem ofBase_primitiveRoot_primitive (k : ℕ) (hk : k ≤ 32) :
    IsPrimitiveRoot (GL2.ofBase (GL.primitiveRoot k)) (2 ^ k) :=
  Lemmas.GL2Field.ofBase_primitiveRoot_primitive k hk

end Field

/-! ## 5. corollaries at the model's own types

No local instance is active from here on: `*`, `-`, `==` on `GL2` can only be those of
`instFOpsGL2`; `Lemmas.GL2Field.gl2Field` appears in proofs only. -/

section ModelLevel
open P2.Air P2.PlonkAlg

/-! ### A. the α-combination (C02b §B at `K := GL2`) -/

/-- C02b `terms_zero_of_many_zeros` for the model's `FOps.reduceWithPowers` on `List GL2`: if the
α-combination vanishes for at least `terms.length` distinct `α ∈ GL2`, every term is zero -/
theorem reduceWithPowers_terms_zero_of_many_zeros (terms : List GL2) (S : Finset GL2)
    (hcard : terms.length ≤ S.card)
    (hS : ∀ α ∈ S, FOps.reduceWithPowers terms α = GL2.zero) : ∀ t ∈ terms, t = GL2.zero := by
  have := @Lemmas.PlonkAlg.reduce_terms_zero_of_many_zeros GL2 Lemmas.GL2Field.gl2Field _ terms S hcard
  rw [← Lemmas.GL2Field.fops_GL2_eq] at this
  exact this hS

/-- C02b `reduceWithPowers_zeros_card` -/
theorem reduceWithPowers_zeros_card (terms : List GL2) (h : ∃ t ∈ terms, t ≠ GL2.zero)
    (S : Finset GL2) (hS : ∀ α ∈ S, FOps.reduceWithPowers terms α = GL2.zero) :
    S.card ≤ terms.length - 1 :=
  Lemmas.GL2Field.m_reduce_zeros_card terms h S hS

/-- C02b `reduceWithPowers_zero_set`: a non-zero term list is annihilated by at most
`length − 1` of the `p²` possible challenges -/
theorem reduceWithPowers_zero_set (terms : List GL2) (h : ∃ t ∈ terms, t ≠ GL2.zero) :
    {α : GL2 | FOps.reduceWithPowers terms α = GL2.zero}.Finite ∧
    {α : GL2 | FOps.reduceWithPowers terms α = GL2.zero}.ncard ≤ terms.length - 1 :=
  Lemmas.GL2Field.m_reduce_zero_set terms h

/-- the form `eval_vanishing_poly` uses (`Plonk.evalVanishingPoly` ends with
`ch.alphas.map fun a => Fri.reduceExt terms (GL2.ofBase a)`): BASE-field challenges -/
theorem reduceExt_terms_zero_of_many_base_alphas (terms : List GL2) (S : Finset P2.GL)
    (hcard : terms.length ≤ S.card)
    (hS : ∀ a ∈ S, Fri.reduceExt terms (GL2.ofBase a) = GL2.zero) : ∀ t ∈ terms, t = GL2.zero := by
  apply reduceWithPowers_terms_zero_of_many_zeros terms (S.image GL2.ofBase)
  · rw [Finset.card_image_of_injective _ ofBase_injective]; exact hcard
  · intro α hα
    obtain ⟨a, ha, rfl⟩ := Finset.mem_image.1 hα
    exact hS a ha

/-- … and its counting form: a non-zero term list survives at most `length − 1` of the `p`
base-field challenges -/
theorem reduceExt_base_zeros_card (terms : List GL2) (h : ∃ t ∈ terms, t ≠ GL2.zero)
    (S : Finset P2.GL) (hS : ∀ a ∈ S, Fri.reduceExt terms (GL2.ofBase a) = GL2.zero) :
    S.card ≤ terms.length - 1 := by
  by_contra hc
  obtain ⟨t, ht, hne⟩ := h
  exact hne (reduceExt_terms_zero_of_many_base_alphas terms S (by omega) hS t ht)

/-! ### B. the STARK constraint consumer (C09b §A at `K := GL2`) -/

/-- C09b `consumer_all_zero_of_many_alphas` for the model's `Air.Consumer GL2` -/
theorem consumer_all_zero_of_many_alphas (alphas : List GL2) (z l0 ll : GL2) (cs : List GL2)
    (hcard : cs.length ≤ alphas.toFinset.card)
    (h : ∀ a ∈ (cs.foldl Consumer.constraint (Consumer.new alphas z l0 ll)).accs, a = GL2.zero) :
    ∀ c ∈ cs, c = GL2.zero := by
  have := @C09b.consumer_all_zero_of_many_alphas GL2 Lemmas.GL2Field.gl2Field _ alphas z l0 ll cs hcard
  rw [← Lemmas.GL2Field.fops_GL2_eq] at this
  exact this h

/-- C09b `consumer_acc_zero_mem`: a non-zero constraint list passes only for challenges in a set
of at most `length − 1` elements -/
theorem consumer_acc_zero_mem (alphas : List GL2) (z l0 ll : GL2) (cs : List GL2)
    (hne : ∃ c ∈ cs, c ≠ GL2.zero)
    (h : ∀ a ∈ (cs.foldl Consumer.constraint (Consumer.new alphas z l0 ll)).accs, a = GL2.zero) :
    ∃ B : Finset GL2, B.card ≤ cs.length - 1 ∧ ∀ α ∈ alphas, α ∈ B := by
  have := @C09b.consumer_acc_zero_mem GL2 Lemmas.GL2Field.gl2Field _ alphas z l0 ll cs hne
  rw [← Lemmas.GL2Field.fops_GL2_eq] at this
  exact this h

/-- C09b `consumer_accs_eq_reduce`: accumulator `i` is `reduce_with_powers` of the reversed
constraint list at `α_i` -/
theorem consumer_accs_eq_reduce (alphas : List GL2) (z l0 ll : GL2) (cs : List GL2) :
    (cs.foldl Consumer.constraint (Consumer.new alphas z l0 ll)).accs
      = alphas.map fun α => FOps.reduceWithPowers cs.reverse α := by
  have := @C09b.consumer_accs_eq_reduce GL2 Lemmas.GL2Field.gl2Field _ alphas z l0 ll cs
  rw [← Lemmas.GL2Field.fops_GL2_eq] at this
  exact this

/-- the consumer as `Stark.consumerAt` builds it: base-field challenges embedded by `GL2.ofBase` -/
theorem consumer_all_zero_of_many_base_alphas (alphas : List P2.GL) (z l0 ll : GL2) (cs : List GL2)
    (hcard : cs.length ≤ alphas.toFinset.card)
    (h : ∀ a ∈ (cs.foldl Consumer.constraint
        (Consumer.new (alphas.map GL2.ofBase) z l0 ll)).accs, a = GL2.zero) :
    ∀ c ∈ cs, c = GL2.zero := by
  apply consumer_all_zero_of_many_alphas (alphas.map GL2.ofBase) z l0 ll cs _ h
  have e : (alphas.map GL2.ofBase).toFinset = alphas.toFinset.image GL2.ofBase := by
    ext x; simp
  rw [e, Finset.card_image_of_injective _ ofBase_injective]
  exact hcard

/-- the interpreted AIR (`Air.evalConstraints`, the model of `eval_packed_generic` for the DSL
AIRs): if every accumulator is zero and there are at least as many distinct challenges as
constraints, every weighted constraint value is zero -/
theorem air_constraints_zero_of_many_alphas (a : Air) (lv nv pis : Array GL2) (alphas : List GL2)
    (z l0 ll : GL2) (hcard : a.constraints.length ≤ alphas.toFinset.card)
    (h : ∀ acc ∈ (a.evalConstraints lv nv pis (Consumer.new alphas z l0 ll)).accs,
      acc = GL2.zero) :
    ∀ p ∈ a.constraints,
      Lemmas.StarkAlg.weigh z l0 ll p.1 (p.2.eval lv nv pis) = GL2.zero := by
  rw [Lemmas.StarkAlg.evalConstraints_eq] at h
  intro p hp
  apply consumer_all_zero_of_many_alphas alphas z l0 ll _ (by rw [List.length_map]; exact hcard) h
  exact List.mem_map.2 ⟨p, hp, rfl⟩

/-! ### C. the Lagrange selectors (C02b §D, C09b §B at `K := GL2`, at the model's roots of unity) -/

theorem evalL0_one (n : ℕ) : Plonk.evalL0 n GL2.one = GL2.one :=
  (Lemmas.GL2Field.m_evalL0_eq n GL2.one).trans (if_pos rfl)

/-- C02b `evalL0_root` for the model's `Plonk.evalL0` (= `PlonkAlg.evalL0` on `GL2`) on the model's
subgroup: at the `j`-th power of `primitive_root_of_unity(k)` (embedded by `GL2.ofBase`), `L_0` of
the subgroup of order `2^k` is the indicator of `j ≡ 0` -/
theorem evalL0_root (k : ℕ) (hk : k ≤ 32) (j : ℕ) :
    Plonk.evalL0 (2 ^ k) (GL2.ofBase (GL.pow (GL.primitiveRoot k) j))
      = if j % 2 ^ k = 0 then GL2.one else GL2.zero := by
  rw [Lemmas.GL2Field.ofBase_GLpow]
  have := @Lemmas.PlonkAlg.evalL0_root GL2 Lemmas.GL2Field.gl2Field _ (2 ^ k) _
    (ofBase_primitiveRoot_primitive k hk) j
  rw [← Lemmas.GL2Field.fops_GL2_eq] at this
  exact this

/-- C02b `evalL0_mul`: off the point 1, `L_0(x)·n·(x − 1) = x^n − 1` (`n` not a multiple of `p`;
`FOps.pow` is the model's square-and-multiply) -/
theorem evalL0_mul (n : ℕ) (hn : ¬ GLP ∣ n) (x : GL2) (hx : x ≠ GL2.one) :
    Plonk.evalL0 n x * (GL2.ofBase (GL.ofNat n) * (x - GL2.one)) = FOps.pow x n - GL2.one := by
  have := @Lemmas.PlonkAlg.evalL0_mul GL2 Lemmas.GL2Field.gl2Field _ n
    ((Lemmas.GL2Field.natCast_eq_zero_iff n).not.2 hn) x hx
  rw [← Lemmas.GL2Field.fops_GL2_eq] at this
  rw [Lemmas.GL2Field.fops_pow]
  exact this

/-- C02b `evalL0_of_pow_eq_one`: every other `n`-th root of unity of `GL2` is a zero of `L_0` -/
theorem evalL0_of_pow_eq_one (n : ℕ) (x : GL2) (hx : x ≠ GL2.one)
    (hxn : FOps.pow x n = GL2.one) : Plonk.evalL0 n x = GL2.zero := by
  rw [Lemmas.GL2Field.fops_pow] at hxn
  have := @Lemmas.PlonkAlg.evalL0_of_pow_eq_one GL2 Lemmas.GL2Field.gl2Field _ n x hx hxn
  rw [← Lemmas.GL2Field.fops_GL2_eq] at this
  exact this

/-- C09b `l0_eq_evalL0` / `lLast_eq_evalL0` for the model's `Stark.evalL0LLast` itself (not the
twin `evalL0LLastK`): whenever `eval_l_0_and_l_last` returns, `log N ≤ 32`, the point is neither
the first nor the last row's point, `L_0` is PLONK's `eval_l_0(x)`, `L_last` is `eval_l_0(g·x)`,
and `z_last = x − g⁻¹ ≠ 0` -/
theorem evalL0LLast_ok_spec (logN : ℕ) (x : GL2) (r : GL2 × GL2 × GL2)
    (h : Stark.evalL0LLast logN x = .ok r) :
    logN ≤ 32 ∧ x ≠ GL2.one ∧ GL2.scalarMul x (GL.primitiveRoot logN) ≠ GL2.one ∧
    r.1 = Plonk.evalL0 (2 ^ logN) x ∧
    r.2.1 = Plonk.evalL0 (2 ^ logN) (GL2.scalarMul x (GL.primitiveRoot logN)) ∧
    r.2.2 = x - GL2.ofBase (GL.inv (GL.primitiveRoot logN)) ∧
    r.2.2 ≠ GL2.zero := by
  let _ := glField
  let _ := Lemmas.GL2Field.gl2Field
  have hne : ¬ ∃ e, Stark.evalL0LLast logN x = .error e := fun ⟨e, he⟩ => by
    rw [h] at he; cases he
  rw [C09b.evalL0LLast_error_iff, not_or, Nat.not_lt, Lemmas.GL2Field.beq_eq,
    decide_eq_true_eq] at hne
  obtain ⟨hlog, hd⟩ := hne
  have hr := C09b.evalL0LLast_ok logN x r h
  obtain ⟨h0, h1⟩ := mul_ne_zero_iff.1 hd
  have hx : x ≠ 1 := fun e => right_ne_zero_of_mul h0 (sub_eq_zero.2 e)
  have hgx : GL2.scalarMul x (GL.primitiveRoot logN) ≠ 1 := fun e =>
    right_ne_zero_of_mul h1 (sub_eq_zero.2 e)
  have hg := primitiveRoot_primitive logN hlog
  refine ⟨hlog, hx, hgx, ?_, ?_, ?_, ?_⟩
  · rw [Lemmas.GL2Field.m_evalL0_eq, if_neg hx, hr, ← Lemmas.GL2Field.fops_pow]; rfl
  · have hp : (GL2.scalarMul x (GL.primitiveRoot logN)) ^ (2 ^ logN) = x ^ (2 ^ logN) := by
      rw [scalarMul_eq, mul_pow, ← Lemmas.GL2Field.ofBase_pow, hg.pow_eq_one]
      exact mul_one _
    rw [Lemmas.GL2Field.m_evalL0_eq, if_neg hgx, hr, hp, ← Lemmas.GL2Field.fops_pow]; rfl
  · rw [hr]
  · rw [hr]
    show x - GL2.ofBase (GL.inv (GL.primitiveRoot logN)) ≠ 0
    rw [ofBase_inv, sub_ne_zero]
    intro e
    apply hgx
    rw [scalarMul_eq, e]
    exact inv_mul_cancel₀ ((map_ne_zero Lemmas.GL2Field.ofBaseHom).2 (hg.ne_zero (by positivity)))

/-- C09b `l0_mul` for the model's function -/
theorem evalL0LLast_l0_mul (logN : ℕ) (x : GL2) (r : GL2 × GL2 × GL2)
    (h : Stark.evalL0LLast logN x = .ok r) :
    r.1 * (GL2.ofBase (GL.ofNat (2 ^ logN)) * (x - GL2.one))
      = FOps.pow x (2 ^ logN) - GL2.one := by
  obtain ⟨_, hx, _, h1, _⟩ := evalL0LLast_ok_spec logN x r h
  rw [h1]
  exact evalL0_mul _ ((Lemmas.GL2Field.natCast_eq_zero_iff _).not.1
    (Lemmas.GL2Field.two_pow_ne_zero logN)) x hx

/-- C09b `l0_of_pow_eq_one` / `lLast_of_pow_eq_one` for the model's function: on the trace domain
(where it returns at all) both Lagrange values vanish -/
theorem evalL0LLast_on_subgroup (logN : ℕ) (x : GL2) (r : GL2 × GL2 × GL2)
    (h : Stark.evalL0LLast logN x = .ok r) (hx : FOps.pow x (2 ^ logN) = GL2.one) :
    r.1 = GL2.zero ∧ r.2.1 = GL2.zero := by
  let _ := Lemmas.GL2Field.gl2Field
  obtain ⟨hl, hx1, hgx, h1, h2, _⟩ := evalL0LLast_ok_spec logN x r h
  refine ⟨h1 ▸ evalL0_of_pow_eq_one _ x hx1 hx, ?_⟩
  rw [h2]
  apply evalL0_of_pow_eq_one _ _ hgx
  rw [Lemmas.GL2Field.fops_pow] at hx ⊢
  rw [scalarMul_eq, mul_pow, ← Lemmas.GL2Field.ofBase_pow, (primitiveRoot_primitive logN hl).pow_eq_one, hx]
  exact mul_one _

/-! ### non-vacuity of A, B, C -/

/-- non-vacuity (A): `X² − 3X + 2` (coefficients `[2, −3, 1]`) vanishes at `1` and `2`, and two
zeros is what the bound allows for three terms -/
example : ({⟨1, 0⟩, ⟨2, 0⟩} : Finset GL2).card ≤ 3 - 1 :=
  reduceWithPowers_zeros_card [⟨2, 0⟩, GL2.neg ⟨3, 0⟩, ⟨1, 0⟩] ⟨⟨1, 0⟩, by simp, by decide⟩ _ (by
    intro α hα
    simp only [Finset.mem_insert, Finset.mem_singleton] at hα
    rcases hα with rfl | rfl <;> decide +kernel)
/-- the hypotheses of `reduceWithPowers_terms_zero_of_many_zeros` are satisfiable -/
example : ∀ t ∈ [GL2.zero, GL2.zero], t = GL2.zero :=
  reduceWithPowers_terms_zero_of_many_zeros _ {⟨1, 0⟩, ⟨2, 1⟩}
    (by rw [Finset.card_pair (by decide)]; decide) (by
    intro α hα
    simp only [Finset.mem_insert, Finset.mem_singleton] at hα
    rcases hα with rfl | rfl <;> decide +kernel)
/-- … and of the base-field form -/
example : ({1, 2} : Finset P2.GL).card ≤ 3 - 1 :=
  reduceExt_base_zeros_card [⟨2, 0⟩, GL2.neg ⟨3, 0⟩, ⟨1, 0⟩] ⟨⟨1, 0⟩, by simp, by decide⟩ _ (by
    intro α hα
    simp only [Finset.mem_insert, Finset.mem_singleton] at hα
    rcases hα with rfl | rfl <;> decide +kernel)
/-- non-vacuity (B): constraints `[0, 0]`, challenges `5` and `7 + X` -/
example : ∀ c ∈ [GL2.zero, GL2.zero], c = GL2.zero :=
  consumer_all_zero_of_many_alphas [⟨5, 0⟩, ⟨7, 1⟩] GL2.zero GL2.zero GL2.zero _
    (by
      have e : ([⟨5, 0⟩, ⟨7, 1⟩] : List GL2).toFinset = {⟨5, 0⟩, ⟨7, 1⟩} := by simp
      rw [e, Finset.card_pair (by decide)]; decide)
    (by decide +kernel)
/-- … and a non-zero constraint list `[1, −3, 2]` (`x² − 3x + 2`) passing for `α = 1, 2` -/
example : ∃ B : Finset GL2, B.card ≤ 3 - 1 ∧ ∀ α ∈ [(⟨1, 0⟩ : GL2), ⟨2, 0⟩], α ∈ B :=
  consumer_acc_zero_mem [⟨1, 0⟩, ⟨2, 0⟩] GL2.zero GL2.zero GL2.zero
    [⟨1, 0⟩, GL2.neg ⟨3, 0⟩, ⟨2, 0⟩] ⟨⟨1, 0⟩, by simp, by decide⟩ (by decide +kernel)
/-- what the consumer computes on `[1, −3, 2]` at `α = 2, 10`: `0` and `72` -/
example : ([⟨1, 0⟩, GL2.neg ⟨3, 0⟩, ⟨2, 0⟩].foldl Consumer.constraint
    (Consumer.new [(⟨2, 0⟩ : GL2), ⟨10, 0⟩] GL2.zero GL2.zero GL2.zero)).accs
      = [GL2.zero, ⟨72, 0⟩] := by decide +kernel

/-- non-vacuity (C): `N = 2`, rows at `1, −1`; `x = −1` is the second row -/
example : Plonk.evalL0 (2 ^ 1) (GL2.ofBase (GL.pow (GL.primitiveRoot 1) 1)) = GL2.zero :=
  evalL0_root 1 (by norm_num) 1
example : GL.pow (GL.primitiveRoot 1) 1 = GL.ofNat (GLP - 1) := by decide +kernel
example : Plonk.evalL0 2 ⟨3, 0⟩ = ⟨2, 0⟩ := by decide +kernel
example : Plonk.evalL0 2 ⟨3, 0⟩ * (GL2.ofBase (GL.ofNat 2) * ((⟨3, 0⟩ : GL2) - GL2.one))
    = FOps.pow ⟨3, 0⟩ 2 - GL2.one := evalL0_mul 2 (by norm_num) ⟨3, 0⟩ (by decide)
/-- `eval_l_0_and_l_last` returns at `log N = 1`, `x = 2` (C09b) -/
example : ∃ r, Stark.evalL0LLast 1 (⟨2, 0⟩ : GL2) = .ok r := by
  cases he : Stark.evalL0LLast 1 (⟨2, 0⟩ : GL2) with
  | ok r => exact ⟨r, rfl⟩
  | error e => exact absurd ((C09b.evalL0LLast_error_iff 1 _).1 ⟨e, he⟩) (by decide +kernel)

end ModelLevel

end P2.Props.GL2Field
