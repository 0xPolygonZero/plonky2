/-
C12 (batch Merkle trees): completeness of `BatchMerkleTree::new` / `open_batch` / `values` /
`verify_batch_merkle_proof_to_cap` (model `P2.Model.BatchMerkle`) for ANY number of matrices of
strictly decreasing heights `2^k0 > 2^k1 > … > 2^km ≥ 2^c`, for an arbitrary hasher and an arbitrary
digest embedding `toVec`. The file opens in namespace `P2.Props.C12` with the lemmas on `batchFold`
and on one stage of `batchBuild` (`stage_eq`, `newLeaves`) that `P2.Props.C12c` (which imports this file for its two-matrix
corollary) also uses; the theorems on any number of matrices follow in `P2.Props.C12d`.
-/
import P2.Model.BatchMerkle
import P2.Props.C12b
namespace P2.Props.C12
open P2 P2.Merkle P2.BatchMerkle P2.Lemmas.Merkle

variable {D : Type}

/-- with nothing left to fold in and a height counter that cannot pass zero, the loop of
`verify_batch_merkle_proof_to_cap` is `foldPath` -/
theorem batchFold_nil (h : Hasher (List GL) D) (toVec : D → List GL) (ovf : Bool) :
    ∀ (π : List D) (cur : D) (ht idx : Nat), π.length ≤ ht →
      batchFold h toVec ovf cur ht idx [] π =
        some ((foldPath h cur idx π).1, (foldPath h cur idx π).2, []) := by
  intro π
  induction π with
  | nil => intro cur ht idx _; rfl
  | cons s rest ih =>
    intro cur ht idx hlen
    cases ht with
    | zero => exact absurd hlen (Nat.not_succ_le_zero _)
    | succ ht =>
      simp only [batchFold, foldPath, Nat.add_one_ne_zero, false_and, if_false, Nat.add_sub_cancel]
      exact ih _ _ _ (Nat.le_of_succ_le_succ hlen)

/-- the first `ht − g` siblings (at least one) of a batch proof are folded like a plain path; the
row of height `g` is folded in right after the last of them -/
theorem batchFold_prefix (h : Hasher (List GL) D) (toVec : D → List GL) (ovf : Bool)
    (row : List GL) (g : Nat) (r : List (List GL × Nat)) (π1 : List D) :
    ∀ (π0 : List D) (cur : D) (ht idx : Nat), π0 ≠ [] → ht = g + π0.length →
      batchFold h toVec ovf cur ht idx ((row, g) :: r) (π0 ++ π1) =
        batchFold h toVec ovf (h.hashLeaf (toVec (foldPath h cur idx π0).1 ++ row)) g
          (foldPath h cur idx π0).2 r π1 := by
  intro π0
  induction π0 with
  | nil => intro _ _ _ hne _; exact absurd rfl hne
  | cons s t ih =>
    intro cur ht idx _ hht
    subst hht
    rw [List.length_cons, ← Nat.add_assoc]
    simp only [List.cons_append, batchFold, Nat.add_one_ne_zero, false_and, if_false, foldPath,
      Nat.add_sub_cancel]
    cases t with
    | nil => simp [foldPath]
    | cons s2 t2 =>
      rw [if_neg (by simp)]
      exact ih _ _ _ (by simp) rfl

theorem log2Strict_pow (k : Nat) : log2Strict (2 ^ k) = some k := by
  unfold log2Strict
  have : 2 ^ k ≠ 0 := Nat.ne_of_gt (Nat.two_pow_pos k)
  simp [Nat.log2_two_pow]

theorem mapM_id_some {α : Type} (l : List α) : (l.map some).mapM id = some l := by
  induction l with
  | nil => rfl
  | cons a t ih => simp [List.mapM_cons, ih]

theorem capOf_length {L : Type} (h : Hasher L D) (k c : Nat) (leaves : List L)
    (hl : leaves.length = 2 ^ k) (hc : c ≤ k) : (capOf h k c leaves).length = 2 ^ c := by
  rw [capOf_eq_lv, lv_length, List.length_map, hl, Nat.pow_div (Nat.sub_le k c) (by decide),
    Nat.sub_sub_self hc]

theorem stage_eq (h : Hasher (List GL) D) (k c : Nat) (leaves : List (List GL))
    (hl : leaves.length = 2 ^ k) (hc : c ≤ k) :
    stage h k c leaves = some ((build h k c leaves).1, capOf h k c leaves) := by
  have hcap := cap_eq_levelwise h k c leaves hl hc
  unfold stage
  cases hb : build h k c leaves with
  | mk ds capO =>
    rw [hb] at hcap
    simp only at hcap
    subst hcap
    simp only [mapM_id_some, Option.map_some]

/-- the leaves of the second stage: `cap_hash.to_vec() ++ row` -/
def newLeaves (toVec : D → List GL) (cap : List D) (m : List (List GL)) : List (List GL) :=
  (cap.zip m).map fun (c, row) => toVec c ++ row

end P2.Props.C12

namespace P2.Props.C12d
open P2 P2.Merkle P2.BatchMerkle P2.Lemmas.Merkle P2.Props.C12

variable {D : Type}

/-- the `next_cap_height` of the stage that is followed by matrices of heights `ks` -/
def nH (c : Nat) : List Nat → Nat
  | [] => c
  | k :: _ => k

/-- the digest buffer written from the stage with leaves `lv` (`2^k` of them) on, when matrices
`rest` of heights `ks` follow and the final cap height is `c` -/
def hDigs (h : Hasher (List GL) D) (toVec : D → List GL) (c : Nat) :
    Nat → List (List GL) → List (List (List GL)) → List Nat → List D
  | k, lv, m :: rest, k' :: ks =>
    (build h k k' lv).1 ++ hDigs h toVec c k' (newLeaves toVec (capOf h k k' lv) m) rest ks
  | k, lv, _, _ => (build h k c lv).1

/-- the final cap (same arguments as `hDigs`) -/
def hCap (h : Hasher (List GL) D) (toVec : D → List GL) (c : Nat) :
    Nat → List (List GL) → List (List (List GL)) → List Nat → List D
  | k, lv, m :: rest, k' :: ks =>
    hCap h toVec c k' (newLeaves toVec (capOf h k k' lv) m) rest ks
  | k, lv, _, _ => capOf h k c lv

/-- the shape hypothesis in inductive form: the current stage has height `k`, the following
matrices `rest` have `2^k'` rows for the strictly decreasing heights `ks` below `k`, all `≥ c` -/
inductive Shape (c : Nat) : Nat → List (List (List GL)) → List Nat → Prop
  | nil (k : Nat) : c ≤ k → Shape c k [] []
  | cons (k k' : Nat) (m : List (List GL)) (rest : List (List (List GL))) (ks : List Nat) :
      m.length = 2 ^ k' → k' < k → Shape c k' rest ks → Shape c k (m :: rest) (k' :: ks)

theorem Shape.le {c k : Nat} {rest : List (List (List GL))} {ks : List Nat}
    (hs : Shape c k rest ks) : c ≤ k := by
  induction hs with
  | nil k hc => exact hc
  | cons k k' m rest ks _ hk _ ih => omega

theorem Shape.nH_le {c k : Nat} {rest : List (List (List GL))} {ks : List Nat}
    (hs : Shape c k rest ks) : nH c ks ≤ k := by
  cases hs with
  | nil k hc => exact hc
  | cons k k' m rest ks _ hk _ => exact Nat.le_of_lt hk

theorem shape_of (c : Nat) : ∀ (rest : List (List (List GL))) (ks : List Nat) (k : Nat),
    rest.map List.length = ks.map (2 ^ ·) → (k :: ks).Pairwise (· > ·) →
    (∀ x ∈ k :: ks, c ≤ x) → Shape c k rest ks := by
  intro rest
  induction rest with
  | nil =>
    intro ks k hl _ hc
    cases ks with
    | nil => exact Shape.nil k (hc k (by simp))
    | cons _ _ => simp at hl
  | cons m rest ih =>
    intro ks k hl hd hc
    cases ks with
    | nil => simp at hl
    | cons k' ks =>
      simp only [List.map_cons, List.cons.injEq] at hl
      rw [List.pairwise_cons] at hd
      exact Shape.cons k k' m rest ks hl.1 (hd.1 k' (by simp)) (ih ks k' hl.2 hd.2
        (fun x hx => hc x (by simp [hx])))

theorem idx_lt {i k0 k : Nat} (hi : i < 2 ^ k0) (hk : k ≤ k0) : i / 2 ^ (k0 - k) < 2 ^ k := by
  apply Nat.div_lt_of_lt_mul
  rw [← Nat.pow_add, Nat.sub_add_cancel hk]; exact hi

theorem idx_div (i : Nat) {k0 k c : Nat} (hc : c ≤ k) (hk : k ≤ k0) :
    i / 2 ^ (k0 - k) / 2 ^ (k - c) = i / 2 ^ (k0 - c) := by
  rw [Nat.div_div_eq_div_mul, ← Nat.pow_add, Nat.sub_add_sub_cancel hk hc]

/-- what the induction over the stages uses of one `fill_digests_buf` stage and of
`merkle_tree_prove` on it -/
theorem stage_facts (h : Hasher (List GL) D) (k n : Nat) (lv : List (List GL))
    (hl : lv.length = 2 ^ k) (hn : n ≤ k) (j : Nat) (hj : j < 2 ^ k) :
    stage h k n lv = some ((build h k n lv).1, capOf h k n lv) ∧
    (capOf h k n lv).length = 2 ^ n ∧
    (build h k n lv).1.length = 2 * (2 ^ k - 2 ^ n) ∧
    ∃ π, merkleTreeProve j (2 ^ k) k n (build h k n lv).1 = some π ∧ π.length = k - n ∧
      ∀ leaf, lv[j]? = some leaf →
        (capOf h k n lv)[j / 2 ^ (k - n)]? = some (foldPath h (h.hashLeaf leaf) j π).1 ∧
        (foldPath h (h.hashLeaf leaf) j π).2 = j / 2 ^ (k - n) := by
  refine ⟨stage_eq h k n lv hl hn, capOf_length h k n lv hl hn,
    build_fst_length h k n lv hl hn, ?_⟩
  obtain ⟨π, hp, hπ, hsib⟩ := merkleTreeProve_build h k n lv hl hn j hj
  refine ⟨π, hp, hπ, fun leaf hleaf => ?_⟩
  have hf := foldPath_lv h π (lv.map h.hashLeaf) j (h.hashLeaf leaf)
    (by rw [List.getElem?_map, hleaf]; rfl) (hπ ▸ hsib)
  rw [hπ, ← capOf_eq_lv] at hf
  exact ⟨hf, hπ ▸ foldPath_snd h π _ j⟩

theorem newLeaves_length (toVec : D → List GL) (cap : List D) (m : List (List GL)) (n : Nat)
    (hc : cap.length = n) (hm : m.length = n) : (newLeaves toVec cap m).length = n := by
  simp [newLeaves, hc, hm]

theorem newLeaves_getElem? (toVec : D → List GL) (cap : List D) (m : List (List GL)) (j : Nat)
    (d : D) (row : List GL) (hd : cap[j]? = some d) (hr : m[j]? = some row) :
    (newLeaves toVec cap m)[j]? = some (toVec d ++ row) := by
  unfold newLeaves
  rw [List.getElem?_map]
  have : (cap.zip m)[j]? = some (d, row) := by
    rw [List.getElem?_zip_eq_some]; exact ⟨hd, hr⟩
  rw [this]; rfl

theorem nexts_split (c : Nat) (ks : List Nat) : ks ++ [c] = nH c ks :: (ks ++ [c]).tail := by
  cases ks <;> rfl

/-- the loop of `new` after the stage on `lv` writes the honest buffer and returns the honest cap -/
theorem later_spec (h : Hasher (List GL) D) (toVec : D → List GL) {c k : Nat}
    {rest : List (List (List GL))} {ks : List Nat} (hs : Shape c k rest ks) :
    ∀ (lv : List (List GL)) (pre : List D), lv.length = 2 ^ k →
      laterStages h toVec rest (ks ++ [c]).tail (pre ++ (build h k (nH c ks) lv).1)
          (capOf h k (nH c ks) lv) =
        some (pre ++ hDigs h toVec c k lv rest ks, hCap h toVec c k lv rest ks) := by
  induction hs with
  | nil k hc => intro lv pre _; rfl
  | cons k k' m rest ks hm hk hs' ih =>
    intro lv pre hl
    have hcap := capOf_length h k k' lv hl (Nat.le_of_lt hk)
    have hnl := newLeaves_length toVec _ m _ hcap hm
    have hst := stage_eq h k' (nH c ks) _ hnl hs'.nH_le
    show laterStages h toVec (m :: rest) (ks ++ [c]) (pre ++ (build h k k' lv).1)
      (capOf h k k' lv) = _
    rw [nexts_split c ks]
    simp only [laterStages, hm, log2Strict_pow]
    rw [show ((capOf h k k' lv).zip m).map (fun x => toVec x.1 ++ x.2) =
      newLeaves toVec (capOf h k k' lv) m from rfl, hst]
    simp only
    rw [ih _ _ hnl]
    simp [hDigs, hCap]

/-- the body of the loop of `open_batch` over `cap_heights.windows(2)` -/
def openStep (digests : List D) (leafIndex initial : Nat) (acc : Option (List D × Nat))
    (w : Nat × Nat) : Option (List D × Nat) :=
  match acc with
  | none => none
  | some (sibs, pos) =>
    let (cur, next) := w
    let num := 2 * (2 ^ cur - 2 ^ next)
    if digests.length < pos + num then none else
    match merkleTreeProve (leafIndex / 2 ^ (initial - cur)) (2 ^ cur) cur next
        ((digests.drop pos).take num) with
    | none => none
    | some p => some (sibs ++ p, pos + num)

/-- the windows of `cap_heights` from the stage of height `k` on -/
def wins (k : Nat) (ks : List Nat) (c : Nat) : List (Nat × Nat) :=
  (k :: (ks ++ [c])).zip (ks ++ [c])

theorem batchOpen_eq (i k0 : Nat) (ks : List Nat) (c : Nat) (digs : List D) :
    batchOpen i (k0 :: ks) (2 ^ c) digs =
      ((wins k0 ks c).foldl (openStep digs i k0) (some ([], 0))).map (·.1) := by
  simp only [batchOpen, log2Strict_pow, List.head?_cons]
  rfl

/-- one honest step of the loop: the stage buffer `ds` sits at position `pre.length` -/
theorem openStep_honest (pre ds post sibs π : List D) (i k0 k n : Nat)
    (hd : ds.length = 2 * (2 ^ k - 2 ^ n))
    (hp : merkleTreeProve (i / 2 ^ (k0 - k)) (2 ^ k) k n ds = some π) :
    openStep (pre ++ (ds ++ post)) i k0 (some (sibs, pre.length)) (k, n) =
      some (sibs ++ π, (pre ++ ds).length) := by
  have e : ((pre ++ (ds ++ post)).drop pre.length).take (2 * (2 ^ k - 2 ^ n)) = ds := by
    rw [List.drop_left, ← hd]; exact List.take_left
  simp only [openStep, e, hp, List.length_append, hd]
  rw [if_neg (by omega)]

/-- From the stage of height `k ≤ k0` with leaves `lv` on (followed by matrices `rest` of heights
`ks`): the final cap has `2^c` entries; there is a sibling list `π` of length `k − c` which the
remaining iterations of `open_batch(i)` append to what they have; and the loop of
`verify_batch_merkle_proof_to_cap`, started at the hash of leaf `i >> (k0 − k)` of this stage with
the rows of the remaining matrices still to fold in, ends with entry `i >> (k0 − c)` of the cap. -/
theorem tail_spec (h : Hasher (List GL) D) (toVec : D → List GL) (ovf : Bool)
    (k0 i : Nat) (hi : i < 2 ^ k0) {c k : Nat} {rest : List (List (List GL))} {ks : List Nat}
    (hs : Shape c k rest ks) :
    ∀ (lv : List (List GL)), lv.length = 2 ^ k → k ≤ k0 →
      (hCap h toVec c k lv rest ks).length = 2 ^ c ∧
      ∃ π : List D, π.length = k - c ∧
        (∀ pre sibs, (wins k ks c).foldl (openStep (pre ++ hDigs h toVec c k lv rest ks) i k0)
            (some (sibs, pre.length)) =
          some (sibs ++ π, (pre ++ hDigs h toVec c k lv rest ks).length)) ∧
        (∀ (leaf : List GL) (rows : List (List GL)), lv[i / 2 ^ (k0 - k)]? = some leaf →
          rows.map some = (rest.zip ks).map (fun p => p.1[i / 2 ^ (k0 - p.2)]?) →
          ∃ d, (hCap h toVec c k lv rest ks)[i / 2 ^ (k0 - c)]? = some d ∧
            batchFold h toVec ovf (h.hashLeaf leaf) k (i / 2 ^ (k0 - k)) (rows.zip ks) π =
              some (d, i / 2 ^ (k0 - c), [])) := by
  induction hs with
  | nil k hc =>
    intro lv hl hk
    obtain ⟨_, hcap, hd, π, hp, hπ, hv⟩ := stage_facts h k c lv hl hc _ (idx_lt hi hk)
    refine ⟨hcap, π, hπ, ?_, ?_⟩
    · intro pre sibs
      show List.foldl _ _ [(k, c)] = _
      simp only [List.foldl_cons, List.foldl_nil]
      have := openStep_honest pre (build h k c lv).1 [] sibs π i k0 k c hd hp
      rw [List.append_nil] at this
      exact this
    · intro leaf rows hleaf hrows
      obtain ⟨h1, h2⟩ := hv leaf hleaf
      have hr : rows = [] := by simpa using hrows
      subst hr
      rw [idx_div i hc hk] at h1 h2
      refine ⟨_, h1, ?_⟩
      show batchFold h toVec ovf _ k _ [] π = _
      rw [batchFold_nil h toVec ovf π _ _ _ (hπ ▸ Nat.sub_le k c), h2]
  | cons k k' m rest ks hm hk' hs' ih =>
    intro lv hl hk
    have hc' := hs'.le
    obtain ⟨_, hcap, hd, π0, hp0, hπ0, hv0⟩ :=
      stage_facts h k k' lv hl (Nat.le_of_lt hk') _ (idx_lt hi hk)
    have hnl := newLeaves_length toVec _ m _ hcap hm
    have hk'' := Nat.le_of_lt hk'
    obtain ⟨hcapL, π1, hπ1, hopen, hver⟩ := ih _ hnl (Nat.le_trans hk'' hk)
    refine ⟨hcapL, π0 ++ π1, ?_, ?_, ?_⟩
    · rw [List.length_append, hπ0, hπ1, Nat.sub_add_sub_cancel hk'' hc']
    · intro pre sibs
      show List.foldl (openStep (pre ++ ((build h k k' lv).1 ++
          hDigs h toVec c k' (newLeaves toVec (capOf h k k' lv) m) rest ks)) i k0) _
        ((k, k') :: wins k' ks c) = some (_, (pre ++ ((build h k k' lv).1 ++
          hDigs h toVec c k' (newLeaves toVec (capOf h k k' lv) m) rest ks)).length)
      rw [List.foldl_cons, openStep_honest pre _ _ sibs π0 i k0 k k' hd hp0]
      have := hopen (pre ++ (build h k k' lv).1) (sibs ++ π0)
      simpa only [List.append_assoc] using this
    · intro leaf rows hleaf hrows
      obtain ⟨h1, h2⟩ := hv0 leaf hleaf
      rw [idx_div i hk'' hk] at h1 h2
      cases rows with
      | nil => simp at hrows
      | cons row rows' =>
        simp only [List.zip_cons_cons, List.map_cons, List.cons.injEq] at hrows
        obtain ⟨hrow, hrows'⟩ := hrows
        have hleaf' := newLeaves_getElem? toVec _ m _ _ row h1 hrow.symm
        obtain ⟨d, hd1, hd2⟩ := hver _ rows' hleaf' hrows'
        refine ⟨d, hd1, ?_⟩
        have hne : π0 ≠ [] := List.ne_nil_of_length_pos (hπ0 ▸ Nat.sub_pos_of_lt hk')
        show batchFold h toVec ovf _ k _ ((row, k') :: rows'.zip ks) (π0 ++ π1) = _
        rw [batchFold_prefix h toVec ovf row k' _ π1 π0 _ k _ hne (hπ0 ▸ (Nat.add_sub_of_le hk'').symm), h2]
        exact hd2

theorem mapM_log2 (mats : List (List (List GL))) (ks : List Nat)
    (hl : mats.map List.length = ks.map (2 ^ ·)) :
    mats.mapM (fun m => log2Strict m.length) = some ks := by
  show mats.mapM (log2Strict ∘ List.length) = some ks
  rw [← List.mapM_map, hl, List.mapM_map]
  exact (mapM_option_map _ id ks (fun k _ => log2Strict_pow k)).trans (congrArg some ks.map_id)

theorem all_dec : ∀ (hs : List Nat), hs.Pairwise (· > ·) →
    (hs.zip hs.tail).all (fun (a, b) => decide (b < a)) = true := by
  intro hs
  induction hs with
  | nil => intro _; rfl
  | cons a t ih =>
    intro hp
    cases t with
    | nil => rfl
    | cons b t' =>
      rw [List.pairwise_cons] at hp
      have h1 : b < a := hp.1 b (by simp)
      have h2 := ih hp.2
      simp only [List.tail_cons, List.zip_cons_cons, List.all_cons, Bool.and_eq_true,
        decide_eq_true_eq] at h2 ⊢
      exact ⟨h1, h2⟩

theorem checkShape_ok (mats : List (List (List GL))) (ks : List Nat) (c : Nat)
    (hl : mats.map List.length = ks.map (2 ^ ·)) (hne : ks ≠ []) (hd : ks.Pairwise (· > ·))
    (hc : ∀ x ∈ ks, c ≤ x) : checkShape mats c = some ks := by
  unfold checkShape
  rw [mapM_log2 mats ks hl]
  simp only
  rw [List.getLast?_eq_some_getLast hne]
  simp only
  rw [if_pos]
  rw [Bool.and_eq_true]
  exact ⟨all_dec ks hd, decide_eq_true (hc _ (List.getLast_mem hne))⟩

theorem rows_exist {k0 i : Nat} (hi : i < 2 ^ k0) {c k : Nat} {rest : List (List (List GL))}
    {ks : List Nat} (hs : Shape c k rest ks) : k ≤ k0 →
    ∃ rows : List (List GL),
      rows.map some = (rest.zip ks).map (fun p => p.1[i / 2 ^ (k0 - p.2)]?) := by
  induction hs with
  | nil k _ => intro _; exact ⟨[], rfl⟩
  | cons k k' m rest ks hm hk' _ ih =>
    intro hk
    obtain ⟨rows, hr⟩ := ih (by omega)
    have hlt : i / 2 ^ (k0 - k') < m.length := by rw [hm]; exact idx_lt hi (by omega)
    exact ⟨m[i / 2 ^ (k0 - k')] :: rows, by
      simp only [List.map_cons, List.zip_cons_cons, hr, List.getElem?_eq_getElem hlt]⟩

/-- **Completeness of batch Merkle trees for any number of matrices.** For matrices `m0 :: rest`
of `2^k0 > 2^k1 > … > 2^km` rows (`k0 :: ks` strictly decreasing) and every cap height `c ≤ km`,
`BatchMerkleTree::new` succeeds and returns a cap of `2^c` entries; for every leaf index `i < 2^k0`,
`open_batch(i)` returns `k0 − c` siblings, `values(i)` returns row `i >> (k0 − kj)` of matrix `j`
for every `j` (all in range), and `verify_batch_merkle_proof_to_cap` accepts these rows with these
siblings against the tree's cap — for every hasher, every embedding `toVec`, both overflow modes. -/
theorem batch_complete [DecidableEq D] (h : Hasher (List GL) D) (toVec : D → List GL)
    (ovf : Bool) (m0 : List (List GL)) (rest : List (List (List GL))) (k0 : Nat) (ks : List Nat)
    (c : Nat) (hl0 : m0.length = 2 ^ k0) (hl : rest.map List.length = ks.map (2 ^ ·))
    (hdec : (k0 :: ks).Pairwise (· > ·)) (hc : ∀ k ∈ k0 :: ks, c ≤ k)
    (i : Nat) (hi : i < 2 ^ k0) :
    ∃ digs cap π vals, batchBuild h toVec (m0 :: rest) c = some (digs, cap, k0 :: ks) ∧
      cap.length = 2 ^ c ∧
      batchOpen i (k0 :: ks) cap.length digs = some π ∧ π.length = k0 - c ∧
      values (m0 :: rest) (k0 :: ks) i = some vals ∧
      vals.map some = ((m0 :: rest).zip (k0 :: ks)).map (fun p => p.1[i / 2 ^ (k0 - p.2)]?) ∧
      verifyBatch h toVec ovf vals (k0 :: ks) i cap π = .ok := by
  have hs := shape_of c rest ks k0 hl hdec hc
  obtain ⟨hcapL, π, hπ, hopen, hver⟩ := tail_spec h toVec ovf k0 i hi hs m0 hl0 (Nat.le_refl _)
  obtain ⟨rows, hrows⟩ := rows_exist hi hs (Nat.le_refl _)
  have e : i / 2 ^ (k0 - k0) = i := by simp
  rw [e] at hver
  have hil : i < m0.length := by omega
  have hleaf : m0[i]? = some m0[i] := List.getElem?_eq_getElem hil
  obtain ⟨d, hd1, hd2⟩ := hver _ rows hleaf hrows
  have hvals : (m0[i] :: rows).map some =
      ((m0 :: rest).zip (k0 :: ks)).map (fun p => p.1[i / 2 ^ (k0 - p.2)]?) := by
    simp only [List.map_cons, List.zip_cons_cons, hrows, e, hleaf]
  refine ⟨hDigs h toVec c k0 m0 rest ks, hCap h toVec c k0 m0 rest ks, π, m0[i] :: rows,
    ?_, hcapL, ?_, hπ, ?_, hvals, ?_⟩
  · -- BatchMerkleTree::new
    have hshape : checkShape (m0 :: rest) c = some (k0 :: ks) :=
      checkShape_ok _ _ c (by simp [hl0, hl]) (by simp) hdec hc
    have hlater := later_spec h toVec hs m0 [] hl0
    simp only [List.nil_append] at hlater
    simp only [batchBuild, hshape, List.tail_cons]
    rw [nexts_split c ks]
    simp only [stage_eq h k0 (nH c ks) m0 hl0 hs.nH_le, hlater, Option.map_some]
  · -- open_batch
    rw [hcapL, batchOpen_eq]
    have := hopen [] []
    simp only [List.nil_append, List.length_nil] at this
    rw [this]; rfl
  · -- values
    unfold values
    simp only [List.head?_cons]
    rw [← mapM_id_some (m0[i] :: rows), hvals, List.mapM_map]
    rfl
  · -- verify_batch_merkle_proof_to_cap
    have hlen : rows.length = ks.length := by
      have a := congrArg List.length hrows
      have b := congrArg List.length hl
      simp only [List.length_map, List.length_zip] at a b
      omega
    unfold verifyBatch
    simp only [List.length_cons, hlen, ne_eq, not_true_eq_false, if_false, List.zip_cons_cons,
      hd2, List.isEmpty_nil, Bool.not_true, Bool.false_eq_true, hd1, if_true]

/-- the `values` clause of `batch_complete` read entry by entry: entry `j` of the opened rows is
row `i >> (k0 − kj)` of matrix `j`, and that row index is in range -/
theorem vals_pointwise (mats : List (List (List GL))) (ks : List Nat) (vals : List (List GL))
    (i k0 : Nat)
    (hv : vals.map some = (mats.zip ks).map (fun p => p.1[i / 2 ^ (k0 - p.2)]?))
    (j : Nat) (m : List (List GL)) (k : Nat) (hm : mats[j]? = some m) (hk : ks[j]? = some k) :
    ∃ hlt : i / 2 ^ (k0 - k) < m.length, vals[j]? = some m[i / 2 ^ (k0 - k)] := by
  have hz : (mats.zip ks)[j]? = some (m, k) := by
    rw [List.getElem?_zip_eq_some]; exact ⟨hm, hk⟩
  have := congrArg (·[j]?) hv
  simp only [List.getElem?_map, hz, Option.map_some] at this
  cases hvj : vals[j]? with
  | none => rw [hvj] at this; simp at this
  | some v =>
    rw [hvj] at this
    simp only [Option.map_some, Option.some.injEq] at this
    obtain ⟨hlt, e⟩ := List.getElem?_eq_some_iff.mp this.symm
    exact ⟨hlt, by rw [e]⟩

/-- `batch_complete` for a plain list of matrices `mats` with heights `ks` (first height `k0`) -/
theorem batch_complete_list [DecidableEq D] (h : Hasher (List GL) D) (toVec : D → List GL)
    (ovf : Bool) (mats : List (List (List GL))) (ks : List Nat) (k0 c : Nat)
    (hl : mats.map List.length = ks.map (2 ^ ·)) (hk0 : ks.head? = some k0)
    (hdec : ks.Pairwise (· > ·)) (hc : ∀ k ∈ ks, c ≤ k) (i : Nat) (hi : i < 2 ^ k0) :
    ∃ digs cap π vals, batchBuild h toVec mats c = some (digs, cap, ks) ∧
      cap.length = 2 ^ c ∧
      batchOpen i ks cap.length digs = some π ∧ π.length = k0 - c ∧
      values mats ks i = some vals ∧
      vals.map some = (mats.zip ks).map (fun p => p.1[i / 2 ^ (k0 - p.2)]?) ∧
      verifyBatch h toVec ovf vals ks i cap π = .ok := by
  cases ks with
  | nil => simp at hk0
  | cons k ks =>
    simp only [List.head?_cons, Option.some.injEq] at hk0
    subst hk0
    cases mats with
    | nil => simp at hl
    | cons m0 rest =>
      simp only [List.map_cons, List.cons.injEq] at hl
      exact batch_complete h toVec ovf m0 rest k ks c hl.1 hl.2 hdec hc i hi

end P2.Props.C12d
