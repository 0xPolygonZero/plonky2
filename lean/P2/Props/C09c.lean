/-
C09 (c): the Fiat–Shamir transcript of the STARK verifier (`Stark.getChallenges`) as a history of
challenger operations — what is absorbed, in which order relative to each challenge, and
injectivity of the absorbed data in every component. The C04 theorems on `Challenger.run`
(causality `run_prefix`, `state_dependence`, …) apply to these histories.

Imports Mathlib transitively (through `P2.Lemmas.C04`): write `P2.GL`.
-/
import P2.Lemmas.PoseidonEval
import P2.Lemmas.StarkSchedule
import P2.Props.C04b
import P2.Props.C09
namespace P2.Props.C09c
open P2 P2.Stark P2.Challenger P2.Lemmas.C04 P2.Lemmas.C13 P2.Lemmas.StarkTranscript
  P2.Lemmas.StarkSchedule

/-- outputs of the operations `post` when they follow the history `pre` -/
theorem run_drop (pre post : List Op) :
    (run Stark.perm (pre ++ post)).drop (drawn pre) = (runFrom Stark.perm (runState Stark.perm pre).1 post).2 := by
  rw [run_eq_runState, runState, runFrom_append, ← runFrom_length Stark.perm (init Stark.perm) pre]
  exact List.drop_left

/-- the operations of a single-table `get_challenges` up to and including ζ′: public inputs, the
configuration, the trace cap, [lookup challenges, aux cap — iff the proof has an aux cap], α′, the
dummy ζs, ζ′ -/
def headOf (a : Air.Air) (c : Config) (pp : ProofWithPis) : List Op :=
  Op.obs pp.publicInputs :: headOps c pp.proof none false (dummyZetaCount a pp.proof)

/-- history before the αs are drawn: …, then the (dummy) constraint evaluations `ce` -/
def preAlphas (a : Air.Air) (c : Config) (pp : ProofWithPis) (ce : List GL2) : List Op :=
  headOf a c pp ++ [Op.obs (flattenExt ce)]

/-- history before ζ is drawn: …, the αs, then the quotient cap (if any) -/
def preZeta (a : Air.Air) (c : Config) (pp : ProofWithPis) (ce : List GL2) : List Op :=
  preAlphas a c pp ce ++ [Op.get c.numChallenges] ++
    (match pp.proof.quotientCap with
     | some cap => [Op.obs (flattenCap cap)]
     | none => [])

/-- history before `fri_challenges`: …, ζ, then all openings -/
def preFri (a : Air.Air) (c : Config) (pp : ProofWithPis) (ce : List GL2) : List Op :=
  preZeta a c pp ce ++ [Op.get 2, Op.obs (pp.proof.openings.toFriOpenings.flatMap flattenExt)]

/-- history before the lookup challenges are drawn -/
def preLookup (c : Config) (pp : ProofWithPis) : List Op :=
  [Op.obs pp.publicInputs, Op.obs c.observed, Op.obs (flattenCap pp.proof.traceCap)]

theorem preZeta_eq (a : Air.Air) (c : Config) (pp : ProofWithPis) (ce : List GL2) :
    preZeta a c pp ce = preAlphas a c pp ce ++ [Op.get c.numChallenges] ++ capOps pp.proof.quotientCap := by
  unfold preZeta
  cases pp.proof.quotientCap <;> rfl

theorem preFri_eq (a : Air.Air) (c : Config) (pp : ProofWithPis) (ce : List GL2) :
    preFri a c pp ce = headOf a c pp ++ tailOps c pp.proof ce := by
  rw [preFri, preZeta_eq, preAlphas, tailOps]
  simp only [List.append_assoc, List.cons_append, List.nil_append]

theorem state_headOf (a : Air.Air) (c : Config) (pp : ProofWithPis) :
    (runState Stark.perm (headOf a c pp)).1 =
      midState (obs (Challenger.init Stark.perm) pp.publicInputs) a c pp.proof none false := by
  rw [midState_eq, headOf, runState, runFrom_cons_obs]

/-- **Order of the transcript.** Whenever `get_challenges` returns `ch` there is a list `ce` (the
constraint evaluations on the dummy openings) such that
* the lookup challenges (if the proof has an aux cap) are the `2·num_challenges` elements squeezed
  right after `public inputs, config, trace cap`;
* the αs are squeezed right after `preAlphas` (… aux cap, α′, dummy ζs, ζ′, `ce`);
* ζ is squeezed right after `preZeta` (… αs, **quotient cap**);
* the FRI challenges are `fri_challenges` run from the state after `preFri` (… ζ, **all openings**). -/
theorem getChallenges_order (a : Air.Air) (c : Config) (pp : ProofWithPis) (pad : Option PadParams)
    (ch : Stark.Challenges) (h : getChallenges a c pp pad = .ok ch) :
    ∃ db ce, recoverDegreeBits pp.proof c = .ok db ∧
      ch.lookupSet = (match pp.proof.auxCap with
        | none => none
        | some _ =>
          let xs := (run Stark.perm (preLookup c pp ++ [Op.get (2 * c.numChallenges)]))
          some ((List.range c.numChallenges).map fun i => (xs.getD (2 * i) 0, xs.getD (2 * i + 1) 0))) ∧
      ch.alphas = (run Stark.perm (preAlphas a c pp ce ++ [Op.get c.numChallenges])).drop
        (drawn (preAlphas a c pp ce)) ∧
      ch.zeta = mkExt ((run Stark.perm (preZeta a c pp ce ++ [Op.get 2])).drop (drawn (preZeta a c pp ce))) ∧
      ch.fri = friChallenges (runState Stark.perm (preFri a c pp ce)).1 pp.proof.openingProof db c.fri pad := by
  obtain ⟨db, ce, hdb, hch⟩ := getChallengesFrom_ok _ a c pp pad none none false ch h
  refine ⟨db, ce, hdb, ?_⟩
  have hmid := state_headOf a c pp
  subst hch
  refine ⟨?_, ?_, ?_, ?_⟩
  · unfold tailFrom
    simp only [lookupDraw, stage1, Bool.false_eq_true, if_false]
    cases pp.proof.auxCap with
    | none => rfl
    | some cap =>
      simp only []
      rw [run_eq_runState, runState]
      simp only [preLookup, List.cons_append, List.nil_append, runFrom_cons_obs, runFrom_get]
  · rw [run_drop, preAlphas, runState, runFrom_append_state, ← runState, hmid, runFrom_get, runFrom_cons_obs, runFrom_nil]
    rfl
  · rw [run_drop, preZeta_eq, preAlphas, runState, runFrom_append_state, runFrom_append_state,
      runFrom_append_state, ← runState, hmid, runFrom_get, runFrom_get, runFrom_cons_obs, runFrom_nil, ← obsOpt_eq]
    rfl
  · rw [preFri_eq, runState, runFrom_append_state, ← runState, hmid, tailFrom_eq]

theorem preAlphas_observes (a : Air.Air) (c : Config) (pp : ProofWithPis) (ce : List GL2) :
    observed (preAlphas a c pp ce) =
      pp.publicInputs ++ c.observed ++ flattenCap pp.proof.traceCap ++
      flattenCap (pp.proof.auxCap.getD []) ++ flattenExt ce := by
  rw [preAlphas, observed, P2.Props.C04.observed_append, headOf, P2.Props.C04.observed,
    ← observed, headOps_observed]
  simp only [P2.Props.C04.observed, Bool.false_eq_true, if_false, List.append_nil, List.append_assoc]

theorem preZeta_observes (a : Air.Air) (c : Config) (pp : ProofWithPis) (ce : List GL2) :
    observed (preZeta a c pp ce) =
      pp.publicInputs ++ c.observed ++ flattenCap pp.proof.traceCap ++
      flattenCap (pp.proof.auxCap.getD []) ++ flattenExt ce ++ flattenCap (pp.proof.quotientCap.getD []) := by
  rw [preZeta_eq, observed, P2.Props.C04.observed_append, P2.Props.C04.observed_append, ← observed,
    preAlphas_observes, observed_capOps]
  exact congrArg (· ++ _) (List.append_nil _)

/-- **Coverage.** The history before `fri_challenges` absorbs, in this order: the public inputs,
the configuration (security bits, number of challenges, all FRI parameters), the trace cap, the
auxiliary cap, the constraint evaluations on the dummy openings (which depend on the public inputs
and on α′, ζ′), the quotient cap and every opening. -/
theorem stark_schedule_observes (a : Air.Air) (c : Config) (pp : ProofWithPis) (ce : List GL2) :
    observed (preFri a c pp ce) =
      pp.publicInputs ++ c.observed ++ flattenCap pp.proof.traceCap ++
      flattenCap (pp.proof.auxCap.getD []) ++ flattenExt ce ++ flattenCap (pp.proof.quotientCap.getD []) ++
      pp.proof.openings.toFriOpenings.flatMap flattenExt := by
  rw [preFri, observed, P2.Props.C04.observed_append, ← observed, preZeta_observes]
  exact congrArg (_ ++ ·) (List.append_nil _)

theorem preLookup_observes (c : Config) (pp : ProofWithPis) :
    observed (preLookup c pp) = pp.publicInputs ++ c.observed ++ flattenCap pp.proof.traceCap := by
  simp only [preLookup, observed, P2.Props.C04.observed, List.append_nil, List.append_assoc]

/-- **Injectivity.** Two transcripts with component-wise equal lengths coincide only if every
component coincides: public inputs, configuration, trace cap, aux cap, constraint evaluations,
quotient cap and all openings. -/
theorem stark_observed_inj (a a' : Air.Air) (c c' : Config) (pp pp' : ProofWithPis) (ce ce' : List GL2)
    (l1 : pp.publicInputs.length = pp'.publicInputs.length)
    (l2 : c.observed.length = c'.observed.length)
    (l3 : (flattenCap pp.proof.traceCap).length = (flattenCap pp'.proof.traceCap).length)
    (l4 : (flattenCap (pp.proof.auxCap.getD [])).length = (flattenCap (pp'.proof.auxCap.getD [])).length)
    (l5 : ce.length = ce'.length)
    (l6 : (flattenCap (pp.proof.quotientCap.getD [])).length =
      (flattenCap (pp'.proof.quotientCap.getD [])).length)
    (h : observed (preFri a c pp ce) = observed (preFri a' c' pp' ce')) :
    pp.publicInputs = pp'.publicInputs ∧ c.observed = c'.observed ∧
    flattenCap pp.proof.traceCap = flattenCap pp'.proof.traceCap ∧
    flattenCap (pp.proof.auxCap.getD []) = flattenCap (pp'.proof.auxCap.getD []) ∧ ce = ce' ∧
    flattenCap (pp.proof.quotientCap.getD []) = flattenCap (pp'.proof.quotientCap.getD []) ∧
    pp.proof.openings.toFriOpenings.flatten = pp'.proof.openings.toFriOpenings.flatten := by
  rw [stark_schedule_observes, stark_schedule_observes] at h
  have l5' : (flattenExt ce).length = (flattenExt ce').length := by
    simp [flattenExt, List.length_flatMap, l5]
  obtain ⟨e1, e2, e3, e4, e5, e6, e7⟩ := append_inj7 _ _ _ _ _ _ _ _ _ _ _ _ _ _ l1 l2 l3 l4 l5' l6 h
  refine ⟨e1, e2, e3, e4, flattenExt_inj _ _ e5, e6, flattenExt_inj _ _ ?_⟩
  rw [← flatMap_flattenExt, ← flatMap_flattenExt]
  exact e7

/-- two proofs for the same AIR/configuration that differ in the public inputs, the trace cap, the
aux cap, the quotient cap or any opening (caps of the same numbers of well-formed digests, same
number of public inputs) have different transcripts before `fri_challenges`, whatever constraint
evaluations `ce`, `ce'` (equally many) the two transcripts absorb -/
theorem transcripts_differ (a : Air.Air) (c : Config) (pp pp' : ProofWithPis) (ce ce' : List GL2)
    (kce : ce.length = ce'.length)
    (kp : pp.publicInputs.length = pp'.publicInputs.length)
    (ht : ∀ d ∈ pp.proof.traceCap, d.length = 4) (ht' : ∀ d ∈ pp'.proof.traceCap, d.length = 4)
    (ha : ∀ d ∈ pp.proof.auxCap.getD [], d.length = 4) (ha' : ∀ d ∈ pp'.proof.auxCap.getD [], d.length = 4)
    (hq : ∀ d ∈ pp.proof.quotientCap.getD [], d.length = 4)
    (hq' : ∀ d ∈ pp'.proof.quotientCap.getD [], d.length = 4)
    (kt : pp.proof.traceCap.length = pp'.proof.traceCap.length)
    (ka : (pp.proof.auxCap.getD []).length = (pp'.proof.auxCap.getD []).length)
    (kq : (pp.proof.quotientCap.getD []).length = (pp'.proof.quotientCap.getD []).length)
    (hne : pp.publicInputs ≠ pp'.publicInputs ∨ pp.proof.traceCap ≠ pp'.proof.traceCap ∨
      pp.proof.auxCap.getD [] ≠ pp'.proof.auxCap.getD [] ∨
      pp.proof.quotientCap.getD [] ≠ pp'.proof.quotientCap.getD [] ∨
      pp.proof.openings.toFriOpenings.flatten ≠ pp'.proof.openings.toFriOpenings.flatten) :
    observed (preFri a c pp ce) ≠ observed (preFri a c pp' ce') := by
  intro h
  have fl : ∀ (x y : List Merkle.Digest), (∀ d ∈ x, d.length = 4) → (∀ d ∈ y, d.length = 4) →
      x.length = y.length → (flattenCap x).length = (flattenCap y).length :=
    fun x y hx hy hxy => (flattenCap_length x hx).trans (hxy ▸ (flattenCap_length y hy).symm)
  obtain ⟨e1, _, e3, e4, _, e6, e7⟩ := stark_observed_inj a a c c pp pp' ce ce' kp rfl
    (fl _ _ ht ht' kt) (fl _ _ ha ha' ka) kce (fl _ _ hq hq' kq) h
  rcases hne with h | h | h | h | h
  · exact h e1
  · exact h (flattenCap_inj _ _ ht ht' e3)
  · exact h (flattenCap_inj _ _ ha ha' e4)
  · exact h (flattenCap_inj _ _ hq hq' e6)
  · exact h e7

/-- … in particular when they absorb the same constraint evaluations -/
theorem statement_or_cap_changes_transcript (a : Air.Air) (c : Config) (pp pp' : ProofWithPis) (ce : List GL2)
    (kp : pp.publicInputs.length = pp'.publicInputs.length)
    (ht : ∀ d ∈ pp.proof.traceCap, d.length = 4) (ht' : ∀ d ∈ pp'.proof.traceCap, d.length = 4)
    (ha : ∀ d ∈ pp.proof.auxCap.getD [], d.length = 4) (ha' : ∀ d ∈ pp'.proof.auxCap.getD [], d.length = 4)
    (hq : ∀ d ∈ pp.proof.quotientCap.getD [], d.length = 4)
    (hq' : ∀ d ∈ pp'.proof.quotientCap.getD [], d.length = 4)
    (kt : pp.proof.traceCap.length = pp'.proof.traceCap.length)
    (ka : (pp.proof.auxCap.getD []).length = (pp'.proof.auxCap.getD []).length)
    (kq : (pp.proof.quotientCap.getD []).length = (pp'.proof.quotientCap.getD []).length)
    (hne : pp.publicInputs ≠ pp'.publicInputs ∨ pp.proof.traceCap ≠ pp'.proof.traceCap ∨
      pp.proof.auxCap.getD [] ≠ pp'.proof.auxCap.getD [] ∨
      pp.proof.quotientCap.getD [] ≠ pp'.proof.quotientCap.getD [] ∨
      pp.proof.openings.toFriOpenings.flatten ≠ pp'.proof.openings.toFriOpenings.flatten) :
    observed (preFri a c pp ce) ≠ observed (preFri a c pp' ce) :=
  transcripts_differ a c pp pp' ce ce rfl kp ht ht' ha ha' hq hq' kt ka kq hne

/-- **Order of the FRI part of the transcript** (no padding). With `outs` the outputs of `friOps`
(FRI α; per commit-phase cap: observe the cap, draw its β; observe the final polynomial; observe
the PoW witness; draw the PoW response; draw the query indices) run right after `preFri`:
`ch.fri.alpha = mkExt outs`, `β_i = mkExt (outs.drop (2+2i))`, the PoW response is
`outs[2+2·#caps]`, the query indices are the remaining outputs reduced mod the LDE size.
Together with `friOps_beta_split` / `friOps_pow_split` (which operation produces which output) and
causality of the challenger (`P2.Props.C04.run_prefix`): cap `i` is absorbed before `β_i`, the final
polynomial and the PoW witness before the PoW response, and that before the query indices. -/
theorem getChallenges_fri_order (a : Air.Air) (c : Config) (pp : ProofWithPis)
    (ch : Stark.Challenges) (h : getChallenges a c pp none = .ok ch) :
    ∃ db ce, recoverDegreeBits pp.proof c = .ok db ∧
      ch.alphas = (run Stark.perm (preAlphas a c pp ce ++ [Op.get c.numChallenges])).drop
        (drawn (preAlphas a c pp ce)) ∧
      ch.zeta = mkExt ((run Stark.perm (preZeta a c pp ce ++ [Op.get 2])).drop (drawn (preZeta a c pp ce))) ∧
      ch.fri = friOfOuts
        ((run Stark.perm (preFri a c pp ce ++ friOps pp.proof.openingProof c.fri.numQueryRounds)).drop
          (drawn (preFri a c pp ce)))
        pp.proof.openingProof.commitCaps.length (2 ^ ((db + c.fri.rateBits) % 64)) := by
  obtain ⟨db, ce, hdb, _, h2, h3, h4⟩ := getChallenges_order a c pp none ch h
  exact ⟨db, ce, hdb, h2, h3, by rw [h4, friChallenges_eq, run_drop]⟩

/-- the `get 2` that produces `β_i` (outputs `2+2i`, `2+2i+1` of `friOps`) comes right after the
observation of commit-phase cap `i` (and after all earlier caps) -/
theorem friOps_beta_split (fp : Fri.Proof) (nq i : Nat) (hi : i < fp.commitCaps.length) :
    ∃ pre post, friOps fp nq = pre ++ [Op.get 2] ++ post ∧ drawn pre = 2 + 2 * i ∧
      pre = [Op.get 2] ++ ((fp.commitCaps.take i).flatMap fun cap => [Op.obs (flattenCap cap), Op.get 2]) ++
        [Op.obs (flattenCap fp.commitCaps[i])] := by
  refine ⟨_, ((fp.commitCaps.drop (i + 1)).flatMap fun cap => [Op.obs (flattenCap cap), Op.get 2]) ++
    [Op.obs (flattenExt fp.finalPoly), Op.obs [fp.powWitness], Op.get 1, Op.get nq], ?_, ?_, rfl⟩
  · have hc : fp.commitCaps = fp.commitCaps.take i ++ fp.commitCaps[i] :: fp.commitCaps.drop (i + 1) := by
      rw [List.getElem_cons_drop, List.take_append_drop]
    rw [friOps]
    conv => lhs; rw [hc]
    simp only [List.flatMap_append, List.flatMap_cons, List.append_assoc, List.cons_append, List.nil_append]
  · rw [drawn_append, drawn_append, drawn_capsOps, List.length_take, Nat.min_eq_left (Nat.le_of_lt hi)]
    rfl

/-- the `get 1` producing the PoW response (output `2+2·#caps` of `friOps`) comes right after the
observations of the final polynomial and of the PoW witness; the query indices come after it -/
theorem friOps_pow_split (fp : Fri.Proof) (nq : Nat) :
    ∃ pre, friOps fp nq = pre ++ [Op.get 1] ++ [Op.get nq] ∧ drawn pre = 2 + 2 * fp.commitCaps.length ∧
      pre = [Op.get 2] ++ (fp.commitCaps.flatMap fun cap => [Op.obs (flattenCap cap), Op.get 2]) ++
        [Op.obs (flattenExt fp.finalPoly), Op.obs [fp.powWitness]] := by
  refine ⟨_, ?_, ?_, rfl⟩
  · simp only [friOps, List.append_assoc, List.cons_append, List.nil_append]
  · rw [drawn_append, drawn_append, drawn_capsOps]
    rfl

/-- coverage of the FRI messages: every commit-phase cap, every final-polynomial coefficient, the
PoW witness -/
theorem friOps_observes (fp : Fri.Proof) (nq : Nat) :
    observed (friOps fp nq) =
      fp.commitCaps.flatMap flattenCap ++ flattenExt fp.finalPoly ++ [fp.powWitness] :=
  P2.Props.C04.fri_schedule_observes fp nq

/-- injectivity of the FRI part: for commit-phase caps of a fixed shape (`m` digests of 4 elements)
and final polynomials of the same length, equal transcripts force equal caps, final polynomial and
PoW witness -/
theorem friOps_observed_inj (fp fp' : Fri.Proof) (nq nq' m : Nat) (hm : 0 < m)
    (hc : ∀ cap ∈ fp.commitCaps, cap.length = m ∧ ∀ d ∈ cap, d.length = 4)
    (hc' : ∀ cap ∈ fp'.commitCaps, cap.length = m ∧ ∀ d ∈ cap, d.length = 4)
    (hn : fp.commitCaps.length = fp'.commitCaps.length)
    (hf : fp.finalPoly.length = fp'.finalPoly.length)
    (h : observed (friOps fp nq) = observed (friOps fp' nq')) :
    fp.commitCaps = fp'.commitCaps ∧ fp.finalPoly = fp'.finalPoly ∧ fp.powWitness = fp'.powWitness :=
  P2.Props.C04.fri_observed_inj fp fp' nq nq' m hm hc hc' hn hf h

open P2.Props.C09 in
/-- `get_challenges` returns on the tiny proof of `P2.Props.C09` (Poseidon evaluated by the kernel) -/
theorem tiny_getChallenges : ∃ ch, getChallenges tinyAir tinyCfg tinyProof none = .ok ch :=
  isOk_exists _ (by
    -- the kernel is slow on the permutation over `Fin`: lay it bare and put `evalPerm` in its place
    delta getChallenges getChallengesFrom friChallenges getDummyPolys getExts getExt Stark.obs Stark.getN Stark.perm
    rw [Lemmas.PoseidonEval.poseidonPerm_eq]
    decide +kernel)

open P2.Props.C09 in
example : ∃ (ch : Stark.Challenges) (db : Nat) (ce : List GL2), recoverDegreeBits tinyProof.proof tinyCfg = .ok db ∧
    ch.alphas = (run Stark.perm (preAlphas tinyAir tinyCfg tinyProof ce ++ [Op.get tinyCfg.numChallenges])).drop
      (drawn (preAlphas tinyAir tinyCfg tinyProof ce)) := by
  obtain ⟨ch, h⟩ := tiny_getChallenges
  obtain ⟨db, ce, h1, _, h2, _⟩ := getChallenges_order _ _ _ _ ch h
  exact ⟨ch, db, ce, h1, h2⟩

open P2.Props.C09 in
example : observed (preFri tinyAir tinyCfg tinyProof []) ≠
    observed (preFri tinyAir tinyCfg { tinyProof with publicInputs := [4] } []) :=
  have ht : ∀ d ∈ tinyProof.proof.traceCap, d.length = 4 := by decide
  have hq : ∀ d ∈ tinyProof.proof.quotientCap.getD [], d.length = 4 := by decide
  statement_or_cap_changes_transcript tinyAir tinyCfg tinyProof { tinyProof with publicInputs := [4] } [] rfl
    ht ht nofun nofun hq hq rfl rfl rfl (Or.inl (by decide))

open P2.Props.C09 in
example : ∃ (ch : Stark.Challenges) (db : Nat) (ce : List GL2), ch.fri = friOfOuts
    ((run Stark.perm (preFri tinyAir tinyCfg tinyProof ce ++
      friOps tinyProof.proof.openingProof tinyCfg.fri.numQueryRounds)).drop
        (drawn (preFri tinyAir tinyCfg tinyProof ce)))
    tinyProof.proof.openingProof.commitCaps.length (2 ^ ((db + tinyCfg.fri.rateBits) % 64)) := by
  obtain ⟨ch, h⟩ := tiny_getChallenges
  obtain ⟨db, ce, _, _, _, h4⟩ := getChallenges_fri_order _ _ _ ch h
  exact ⟨ch, db, ce, h4⟩

example : ∃ pre post, friOps ⟨[[[1,2,3,4]], [[5,6,7,8]]], [], [], 0⟩ 3 = pre ++ [Op.get 2] ++ post ∧
    drawn pre = 4 :=
  let ⟨pre, post, h1, h2, _⟩ := friOps_beta_split ⟨[[[1,2,3,4]], [[5,6,7,8]]], [], [], 0⟩ 3 1 (Nat.lt_succ_self 1)
  ⟨pre, post, h1, h2⟩

/-- the hypotheses of `friOps_observed_inj` are satisfiable (the equation itself is between proofs
and holds by proof irrelevance: what is checked is that the arguments elaborate) -/
example : friOps_observed_inj ⟨[[[1,2,3,4]]], [], [⟨1, 0⟩], 7⟩ ⟨[[[1,2,3,4]]], [], [⟨1, 0⟩], 7⟩ 3 3 1
    (by decide) (by decide) (by decide) rfl rfl rfl = ⟨rfl, rfl, rfl⟩ := rfl

end P2.Props.C09c
