/-
C19: order-independence logic. Where the builder iterates hash containers (the gate set, the
constant map) it sorts by an injective key; sorting any permutation of the same elements yields the
same list, so the results are functions of the SET, not of the iteration order.
-/
import Mathlib.Data.List.Sort
import Mathlib.Data.List.Perm.Basic
import Mathlib.Data.List.Rotate
import Mathlib.Data.List.Find
namespace P2.Props.C19
open List

/-- **Sorting is canonical.** For a total, transitive, antisymmetric order (e.g. `≤` on an injective
key such as `(degree, id)` for gates or the canonical value for constants), merge sort of two lists
that are permutations of each other gives the same list. -/
theorem sort_canonical {α : Type} (r : α → α → Prop) [DecidableRel r]
    [Std.Total r] [IsTrans α r] [Std.Antisymm r] (l₁ l₂ : List α) (h : l₁.Perm l₂) :
    l₁.mergeSort (r · ·) = l₂.mergeSort (r · ·) := by
  apply Perm.eq_of_pairwise' (r := r)
  · exact pairwise_mergeSort' r l₁
  · exact pairwise_mergeSort' r l₂
  · exact ((mergeSort_perm l₁ _).trans h).trans (mergeSort_perm l₂ _).symm

/-- with keys: if the key function is injective, sorting by `key a ≤ key b` is canonical (the induced
relation is antisymmetric) — stated for `Nat` keys -/
theorem sort_by_key_canonical {α : Type} (key : α → Nat) (hinj : Function.Injective key)
    (l₁ l₂ : List α) (h : l₁.Perm l₂) :
    l₁.mergeSort (fun a b => decide (key a ≤ key b)) = l₂.mergeSort (fun a b => decide (key a ≤ key b)) := by
  have : Std.Total (fun a b : α => key a ≤ key b) := ⟨fun a b => Nat.le_total _ _⟩
  have : IsTrans α (fun a b => key a ≤ key b) := ⟨fun a b c => Nat.le_trans⟩
  have : Std.Antisymm (fun a b : α => key a ≤ key b) := ⟨fun a b h1 h2 => hinj (Nat.le_antisymm h1 h2)⟩
  exact sort_canonical (fun a b => key a ≤ key b) l₁ l₂ h

/-- non-vacuity: `id` is an injective key on `Nat` and `[3,1,2]` is a permutation of `[2,3,1]` -/
example : [3, 1, 2].mergeSort (fun a b => decide (a ≤ b)) = [2, 3, 1].mergeSort (fun a b => decide (a ≤ b)) :=
  sort_by_key_canonical id (fun _ _ h => h) _ _ (by decide)

/-- `get_sigma_map`'s `neighbors` table: for every class, each member is mapped to the next one,
cyclically (`subset[n] ↦ subset[(n+1) % len]`); the table is filled class after class in the
iteration order of a hash map (`partition.into_values()`). -/
def classPairs (c : List Nat) : List (Nat × Nat) := c.zip (c.rotate 1)

def neighborPairs (classes : List (List Nat)) : List (Nat × Nat) := classes.flatMap classPairs

/-- the value the finished hash map holds for `w`: the LAST insertion with key `w` -/
def neighbor (classes : List (List Nat)) (w : Nat) : Option Nat :=
  ((neighborPairs classes).reverse.find? (fun p => p.1 == w)).map (·.2)

theorem classPairs_keys (c : List Nat) : (classPairs c).map (·.1) = c := by
  unfold classPairs
  rw [List.map_fst_zip]
  simp

theorem neighborPairs_keys (classes : List (List Nat)) :
    (neighborPairs classes).map (·.1) = classes.flatten := by
  induction classes with
  | nil => rfl
  | cons c cs ih =>
    simp only [neighborPairs, flatMap_cons, map_append, flatten_cons] at *
    rw [classPairs_keys, ih]

/-- with duplicate-free keys, looking a key up does not depend on the order of the entries -/
theorem find_perm {l₁ l₂ : List (Nat × Nat)} (hp : l₁.Perm l₂) (hnd : (l₁.map (·.1)).Nodup) (w : Nat) :
    l₁.find? (fun p => p.1 == w) = l₂.find? (fun p => p.1 == w) :=
  find?_eq_find?_of_perm hp fun _ ha _ hb =>
    inj_on_of_nodup_map hnd ha.1 hb.1 ((beq_iff_eq.1 ha.2).trans (beq_iff_eq.1 hb.2).symm)

/-- **The sigma map does not depend on the order in which the hash map yields the classes.**
If the classes are pairwise disjoint and duplicate-free (they are the blocks of a partition of the
routed wires), any permutation of the class list produces the same `neighbors` table. -/
theorem neighbor_order_indep (cs₁ cs₂ : List (List Nat)) (h : cs₁.Perm cs₂)
    (hnd : cs₁.flatten.Nodup) (w : Nat) : neighbor cs₁ w = neighbor cs₂ w := by
  have hp : (neighborPairs cs₁).reverse.Perm (neighborPairs cs₂).reverse :=
    (reverse_perm _).trans ((h.flatMap_right _).trans (reverse_perm _).symm)
  unfold neighbor
  rw [find_perm hp (by rwa [map_reverse, nodup_reverse, neighborPairs_keys])]

/-- non-vacuity / shape: two classes, two orders, the cyclic successor -/
example : neighbor [[0, 5, 2], [1, 4]] 2 = some 0 ∧ neighbor [[1, 4], [0, 5, 2]] 2 = some 0
    ∧ neighbor [[1, 4], [0, 5, 2]] 4 = some 1 ∧ neighbor [[3]] 3 = some 3 := by decide

end P2.Props.C19
