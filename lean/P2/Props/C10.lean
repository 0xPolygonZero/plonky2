/-
C10: the mathematical meaning of the trace-level lookup semantics `Air.firstBadLookup` and of the
cross-table-lookup semantics `CtlSpec.holds` (both in `P2/Model/Air.lean`).

Both functions keep an association list (value ↦ accumulated weight) that they update with
`bump` / `bumpTuple`, and finally test "all stored weights are 0". The theorems below say what
that computes: for EVERY value `v` (resp. tuple `t`), the sum over all rows of the multiplicities
with which `v` is looked up equals the sum of the multiplicities with which the table offers it.

All weights live in `GL = Fin GLP`; every sum below is a sum in `GL`, i.e. MODULO the Goldilocks
prime p. A filter value is an arbitrary field element, not a 0/1 flag, and a value looked up p times
with multiplicity 1 counts as not looked up at all.
-/
import P2.Lemmas.StarkLookup
namespace P2.Props.C10
open P2 P2.Air P2.Lemmas.StarkLookup

/-! ### the quantities the model evaluates on row `r` -/

/-- local row `r` (missing row reads as the empty row) -/
def lvAt (rows : Array (Array GL)) (r : Nat) : Array GL := rows.getD r #[]
/-- next row, cyclically -/
def nvAt (rows : Array (Array GL)) (r : Nat) : Array GL := rows.getD ((r + 1) % rows.size) #[]

/-- value of a column combination on row `r` (`Column::eval_with_next`, next row cyclic) -/
def colVal (c : ColSpec) (rows : Array (Array GL)) (r : Nat) : GL :=
  c.evalWithNext (fun x => x) (lvAt rows r) (nvAt rows r)
/-- value of a filter on row `r` -/
def filterVal (f : FilterSpec) (rows : Array (Array GL)) (r : Nat) : GL :=
  f.eval (fun x => x) (lvAt rows r) (nvAt rows r)

/-! ### lookups inside one table -/

/-- looking side of row `r`: one (column value, filter value) pair per (column, filter) -/
def lookingRowEvents (l : LookupSpec) (rows : Array (Array GL)) (r : Nat) : List (GL × GL) :=
  (l.columns.zip l.filters).map fun cf => (colVal cf.1 rows r, filterVal cf.2 rows r)

/-- table side of row `r`: (table value, frequency value) -/
def tableRowEvent (l : LookupSpec) (rows : Array (Array GL)) (r : Nat) : GL × GL :=
  (colVal l.table rows r, colVal l.freq rows r)

/-- everything `firstBadLookup` bumps for lookup `l`, in order: per row the looking pairs, then the
table value with the NEGATED frequency -/
def lookupEvents (l : LookupSpec) (rows : Array (Array GL)) : List (GL × GL) :=
  (List.range rows.size).flatMap fun r =>
    lookingRowEvents l rows r ++ [((tableRowEvent l rows r).1, 0 - (tableRowEvent l rows r).2)]

/-- all looking events of the trace -/
def lookingEvents (l : LookupSpec) (rows : Array (Array GL)) : List (GL × GL) :=
  (List.range rows.size).flatMap (lookingRowEvents l rows)
/-- all table events of the trace (positive frequencies) -/
def tableEvents (l : LookupSpec) (rows : Array (Array GL)) : List (GL × GL) :=
  (List.range rows.size).map (tableRowEvent l rows)

/-- the association list `firstBadLookup` builds for lookup `l` (its inner fold, verbatim) -/
def lookupTable (l : LookupSpec) (rows : Array (Array GL)) : List (GL × GL) :=
  let n := rows.size
  let id : GL → GL := fun x => x
  (List.range n).foldl (fun (m : List (GL × GL)) r =>
    let lv := rows.getD r #[]
    let nv := rows.getD ((r + 1) % n) #[]
    let m := (l.columns.zip l.filters).foldl (fun m (c, f) =>
      bump m (c.evalWithNext id lv nv) (f.eval id lv nv)) m
    bump m (l.table.evalWithNext id lv nv) (0 - l.freq.evalWithNext id lv nv)) []

/-- `firstBadLookup` is: first lookup whose association list has a non-zero entry -/
theorem firstBadLookup_eq (a : Air) (rows : Array (Array GL)) :
    a.firstBadLookup rows = (a.lookups.zipIdx).findSome? fun li =>
      if (lookupTable li.1 rows).all (fun p => p.2 == 0) then none else some li.2 := rfl

/-- **the inner fold of `firstBadLookup` is "bump every event of `lookupEvents`, in order"** -/
theorem lookupTable_eq (l : LookupSpec) (rows : Array (Array GL)) :
    lookupTable l rows = (lookupEvents l rows).foldl (fun m e => bump m e.1 e.2) [] := by
  unfold lookupEvents lookingRowEvents
  simp only [List.foldl_flatMap, List.foldl_append, List.foldl_map, List.foldl_cons,
    List.foldl_nil]
  rfl

/-- the lookup `l` holds on the trace: every value has total weight 0 (mod p) -/
theorem lookupTable_all_zero_iff (l : LookupSpec) (rows : Array (Array GL)) :
    (lookupTable l rows).all (fun p => p.2 == 0) = true ↔
      ∀ v : GL, weight (lookupEvents l rows) v = 0 := by
  rw [lookupTable_eq]
  simp only [bump_eq]
  exact bumpAll_all_zero_iff (lookupEvents l rows)

theorem findSome?_zipIdx_none {α : Type} (P : α → Bool) (xs : List α) (k : Nat) :
    (xs.zipIdx k).findSome? (fun xi => if P xi.1 then none else some xi.2) = none ↔
      ∀ x ∈ xs, P x = true := by
  induction xs generalizing k with
  | nil => simp only [List.zipIdx_nil, List.findSome?_nil, List.not_mem_nil, false_imp_iff,
      implies_true]
  | cons x xs ih =>
    rw [List.zipIdx_cons, List.findSome?_cons]
    cases hx : P x with
    | true =>
      simp only [if_true, ih, List.mem_cons, forall_eq_or_imp, hx, true_and]
    | false =>
      simp only [Bool.false_eq_true, if_false, List.mem_cons, forall_eq_or_imp, hx, false_and,
        reduceCtorEq]

theorem findSome?_zipIdx_some {α : Type} (P : α → Bool) (xs : List α) (k i : Nat) :
    (xs.zipIdx k).findSome? (fun xi => if P xi.1 then none else some xi.2) = some i ↔
      ∃ j, i = k + j ∧ (∃ x, xs[j]? = some x ∧ P x = false) ∧ ∀ y ∈ xs.take j, P y = true := by
  induction xs generalizing k with
  | nil => exact ⟨fun h => (nomatch h), fun ⟨j, _, ⟨x, hx, _⟩, _⟩ => (nomatch hx)⟩
  | cons x xs ih =>
    rw [List.zipIdx_cons, List.findSome?_cons]
    cases hx : P x with
    | false =>
      simp only [Bool.false_eq_true, if_false, Option.some.injEq]
      constructor
      · rintro rfl
        exact ⟨0, rfl, ⟨x, rfl, hx⟩, fun y hy => nomatch hy⟩
      · rintro ⟨j, rfl, _, hall⟩
        cases j with
        | zero => rfl
        | succ j => exact absurd (hall x List.mem_cons_self) (by rw [hx]; exact Bool.false_ne_true)
    | true =>
      simp only [if_true]
      rw [ih (k + 1)]
      constructor
      · rintro ⟨j, rfl, hy, hall⟩
        exact ⟨j + 1, Nat.add_right_comm k 1 j, hy, List.forall_mem_cons.2 ⟨hx, hall⟩⟩
      · rintro ⟨j, rfl, ⟨y, hy, hPy⟩, hall⟩
        cases j with
        | zero =>
          cases hy
          rw [hx] at hPy
          cases hPy
        | succ j =>
          exact ⟨j, (Nat.add_right_comm k 1 j).symm, ⟨y, hy, hPy⟩,
            fun z hz => hall z (List.mem_cons_of_mem _ hz)⟩

/-- **`firstBadLookup = none`, sum form.** No lookup is reported iff for every declared lookup and
every field element `v`, the weights of all events with key `v` — filter values of the looking
columns that evaluate to `v`, and NEGATED frequencies of the rows whose table value is `v` — sum to
0 in `GL` (mod p). -/
theorem firstBadLookup_none_iff (a : Air) (rows : Array (Array GL)) :
    a.firstBadLookup rows = none ↔
      ∀ l ∈ a.lookups, ∀ v : GL,
        wsum (((lookupEvents l rows).filter (·.1 == v)).map (·.2)) = 0 := by
  rw [firstBadLookup_eq,
    findSome?_zipIdx_none (fun l => (lookupTable l rows).all (fun p => p.2 == 0)) a.lookups 0]
  simp only [lookupTable_all_zero_iff, weight_eq_wsum]

/-- splitting the events of a lookup into looking side minus table side -/
theorem weight_lookupEvents (l : LookupSpec) (rows : Array (Array GL)) (v : GL) :
    weight (lookupEvents l rows) v =
      weight (lookingEvents l rows) v + (0 - weight (tableEvents l rows) v) := by
  unfold lookupEvents lookingEvents tableEvents
  rw [weight_flatMap_append, ← weight_map_neg, List.map_map, List.map_eq_flatMap]
  rfl

/-- lookup `l` holds on the trace: looking multiset = table multiset, weights mod p -/
def LookupHolds (l : LookupSpec) (rows : Array (Array GL)) : Prop :=
  ∀ v : GL, weight (lookingEvents l rows) v = weight (tableEvents l rows) v

/-- **`firstBadLookup = none`, multiset form.** For every lookup and every value `v`: the total
multiplicity (mod p) with which the looking columns take the value `v` equals the total
frequency (mod p) of the rows whose table value is `v`. -/
theorem firstBadLookup_none_iff_weights (a : Air) (rows : Array (Array GL)) :
    a.firstBadLookup rows = none ↔
      ∀ l ∈ a.lookups, ∀ v : GL,
        weight (lookingEvents l rows) v = weight (tableEvents l rows) v := by
  rw [firstBadLookup_none_iff]
  simp only [← weight_eq_wsum, weight_lookupEvents, gl_add_neg_eq_zero]

theorem lookupTable_all_zero_iff_holds (l : LookupSpec) (rows : Array (Array GL)) :
    (lookupTable l rows).all (fun p => p.2 == 0) = true ↔ LookupHolds l rows := by
  rw [lookupTable_all_zero_iff]
  simp only [LookupHolds, weight_lookupEvents, gl_add_neg_eq_zero]

/-- **`firstBadLookup = some i`**: lookup number `i` exists and does not hold, and all earlier
lookups hold -/
theorem firstBadLookup_some_iff (a : Air) (rows : Array (Array GL)) (i : Nat) :
    a.firstBadLookup rows = some i ↔
      (∃ l, a.lookups[i]? = some l ∧ ¬ LookupHolds l rows) ∧
        ∀ l ∈ a.lookups.take i, LookupHolds l rows := by
  rw [firstBadLookup_eq,
    findSome?_zipIdx_some (fun l => (lookupTable l rows).all (fun p => p.2 == 0)) a.lookups 0 i]
  simp only [Nat.zero_add, exists_eq_left', ← lookupTable_all_zero_iff_holds, Bool.not_eq_true]

/-- **`firstBadLookup = none`, written out.** For every lookup and every value `v`,
`Σ_rows Σ_(col,filter) [col(row) = v]·filter(row) = Σ_rows [table(row) = v]·freq(row)` in `GL`
(mod p); columns and filters are paired positionally (`zip`: surplus columns or filters are
ignored), next rows are cyclic. -/
theorem firstBadLookup_none_iff_sums (a : Air) (rows : Array (Array GL)) :
    a.firstBadLookup rows = none ↔
      ∀ l ∈ a.lookups, ∀ v : GL,
        wsum ((List.range rows.size).map fun r =>
          wsum ((l.columns.zip l.filters).map fun cf =>
            if colVal cf.1 rows r == v then filterVal cf.2 rows r else 0))
        = wsum ((List.range rows.size).map fun r =>
            if colVal l.table rows r == v then colVal l.freq rows r else 0) := by
  rw [firstBadLookup_none_iff_weights]
  simp only [lookingEvents, tableEvents, lookingRowEvents, tableRowEvent, weight_flatMap_eq_wsum,
    weight_map_eq_wsum]
  exact Iff.rfl

/-! ### cross-table lookups -/

/-- the events of one side: per row of its table, (tuple of column values, ± filter value) -/
def sideEvents (traces : Array (Array (Array GL))) (s : CtlSide) (neg : Bool) :
    List (List GL × GL) :=
  let rows := traces.getD s.table #[]
  (List.range rows.size).map fun r =>
    (s.columns.map fun col => colVal col rows r,
      if neg then 0 - filterVal s.filter rows r else filterVal s.filter rows r)

/-- everything `CtlSpec.holds` bumps, in order: the looking sides (positive), then the looked side
(negated) -/
def ctlEvents (c : CtlSpec) (traces : Array (Array (Array GL))) : List (List GL × GL) :=
  c.looking.flatMap (fun s => sideEvents traces s false) ++ sideEvents traces c.looked true

/-- **`holds` is "bump every event of `ctlEvents`, then test all-zero"** -/
theorem holds_eq (c : CtlSpec) (traces : Array (Array (Array GL))) :
    c.holds traces =
      ((ctlEvents c traces).foldl (fun m e => bumpTuple m e.1 e.2) []).all (fun p => p.2 == 0) := by
  unfold ctlEvents sideEvents
  simp only [List.foldl_append, List.foldl_flatMap, List.foldl_map]
  rfl

/-- **`holds`, sum form**: every tuple has total weight 0 (mod p) -/
theorem holds_iff (c : CtlSpec) (traces : Array (Array (Array GL))) :
    c.holds traces = true ↔
      ∀ t : List GL, wsum (((ctlEvents c traces).filter (·.1 == t)).map (·.2)) = 0 := by
  rw [holds_eq]
  simp only [← weight_eq_wsum, bumpTuple_eq]
  exact bumpAll_all_zero_iff (ctlEvents c traces)

theorem sideEvents_neg (traces : Array (Array (Array GL))) (s : CtlSide) :
    sideEvents traces s true = (sideEvents traces s false).map fun p => (p.1, 0 - p.2) := by
  unfold sideEvents
  rw [List.map_map]
  rfl

/-- **`holds`, multiset form**: for every tuple `t`, the total multiplicity (mod p) of `t` among
the filtered rows of all looking tables equals its total multiplicity among the filtered rows of
the looked table -/
theorem holds_iff_weights (c : CtlSpec) (traces : Array (Array (Array GL))) :
    c.holds traces = true ↔
      ∀ t : List GL,
        weight (c.looking.flatMap fun s => sideEvents traces s false) t =
          weight (sideEvents traces c.looked false) t := by
  rw [holds_iff]
  simp only [← weight_eq_wsum, ctlEvents, weight_append, sideEvents_neg, weight_map_neg,
    gl_add_neg_eq_zero]

/-- **`holds`, written out**: `Σ_(looking side s) Σ_(rows of table s) [tuple_s(row) = t]·filter_s(row)
= Σ_(rows of the looked table) [tuple(row) = t]·filter(row)` in `GL` (mod p) -/
theorem holds_iff_sums (c : CtlSpec) (traces : Array (Array (Array GL))) :
    c.holds traces = true ↔
      ∀ t : List GL,
        wsum (c.looking.map fun s =>
          wsum ((List.range (traces.getD s.table #[]).size).map fun r =>
            if (s.columns.map fun col => colVal col (traces.getD s.table #[]) r) == t
            then filterVal s.filter (traces.getD s.table #[]) r else 0))
        = wsum ((List.range (traces.getD c.looked.table #[]).size).map fun r =>
            if (c.looked.columns.map fun col => colVal col (traces.getD c.looked.table #[]) r) == t
            then filterVal c.looked.filter (traces.getD c.looked.table #[]) r else 0) := by
  rw [holds_iff_weights]
  simp only [sideEvents, weight_flatMap_eq_wsum, weight_map_eq_wsum, Bool.false_eq_true, if_false,
    iff_self]

/-! ### non-vacuity: concrete instances evaluated by `decide` -/

section Examples

/-- column 0 is looked up in column 1 with frequencies in column 2; the filter is column 3 -/
def exLookup : LookupSpec :=
  { columns := [⟨[(0, 1)], [], 0⟩], table := ⟨[(1, 1)], [], 0⟩, freq := ⟨[(2, 1)], [], 0⟩,
    filters := [⟨[], [⟨[(3, 1)], [], 0⟩]⟩] }
def exAir : Air :=
  { cols := 4, pis := 0, degree := 3, constraints := [], lookups := [exLookup],
    requiresCtls := false }

/-- 5 looked up twice, offered with frequency 2 (and 7 offered with frequency 0): holds -/
def exGood : Array (Array GL) := #[#[5, 5, 2, 1], #[5, 7, 0, 1]]
/-- same with frequency 1: fails -/
def exBad : Array (Array GL) := #[#[5, 5, 1, 1], #[5, 7, 0, 1]]
/-- the sums are mod p: 5 looked up twice with filter value −1 = p − 1, offered with frequency
p − 2 -/
def exModP : Array (Array GL) :=
  #[#[5, 5, 18446744069414584319, 18446744069414584320], #[5, 7, 0, 18446744069414584320]]

example : exAir.firstBadLookup exGood = none := by decide
example : exAir.firstBadLookup exBad = some 0 := by decide
example : exAir.firstBadLookup exModP = none := by decide
example : lookupEvents exLookup exGood = [(5, 1), (5, 0 - 2), (5, 1), (7, 0)] := by decide
example : lookingEvents exLookup exGood = [(5, 1), (5, 1)] := by decide
example : tableEvents exLookup exGood = [(5, 2), (7, 0)] := by decide
/-- the right-hand side of `firstBadLookup_none_iff_weights` is really decided by the data: at
`v = 5` the two sides are 2 = 2 on `exGood` and 2 ≠ 1 on `exBad` -/
example : weight (lookingEvents exLookup exGood) 5 = weight (tableEvents exLookup exGood) 5 := by
  decide
example : weight (lookingEvents exLookup exBad) 5 ≠ weight (tableEvents exLookup exBad) 5 := by
  decide
example : ¬ LookupHolds exLookup exBad := fun h => absurd (h 5) (by decide)
/-- the theorem applied: from the computed `none`, the multiset equation for every value -/
example (v : GL) : weight (lookingEvents exLookup exGood) v = weight (tableEvents exLookup exGood) v :=
  (firstBadLookup_none_iff_weights exAir exGood).1 (by decide) exLookup (List.mem_singleton.2 rfl) v

/-- tables 0 and 1 (columns: value, filter) look up their filtered values in table 2 -/
def exCtl : CtlSpec :=
  { looking := [⟨0, [⟨[(0, 1)], [], 0⟩], ⟨[], [⟨[(1, 1)], [], 0⟩]⟩⟩,
                ⟨1, [⟨[(0, 1)], [], 0⟩], ⟨[], [⟨[(1, 1)], [], 0⟩]⟩⟩],
    looked := ⟨2, [⟨[(0, 1)], [], 0⟩], ⟨[], [⟨[(1, 1)], [], 0⟩]⟩⟩ }
/-- {3, 4} ∪ {4} (the row with filter 0 is ignored) = {4 (twice), 3}, in another order -/
def exCtlGood : Array (Array (Array GL)) :=
  #[#[#[3, 1], #[4, 1]], #[#[4, 1], #[9, 0]], #[#[4, 2], #[3, 1]]]
def exCtlBad : Array (Array (Array GL)) :=
  #[#[#[3, 1], #[4, 1]], #[#[4, 1], #[9, 1]], #[#[4, 2], #[3, 1]]]

example : exCtl.holds exCtlGood = true := by decide
example : exCtl.holds exCtlBad = false := by decide
example : ctlEvents exCtl exCtlGood =
    [([3], 1), ([4], 1), ([4], 1), ([9], 0), ([4], 0 - 2), ([3], 0 - 1)] := by decide
example : weight (exCtl.looking.flatMap fun s => sideEvents exCtlBad s false) [9] ≠
    weight (sideEvents exCtlBad exCtl.looked false) [9] := by decide

end Examples

end P2.Props.C10
