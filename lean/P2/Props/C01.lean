/-
C01: `Circuit.evalProg` is a left fold over the operations. Evaluating `a ++ b` is evaluating `a`, then
`b` from the state reached, and every step appends exactly one variable: the value of a variable does
not depend on later operations.
-/
import P2.Model.Circuit
namespace P2.Props.C01
open P2 P2.Circuit

/-- the fold behind `evalProg`, from an arbitrary state -/
def evalFrom (tables : List (List (Nat × Nat))) (st : Array GL × List GL) (ops : List Op) :
    Option (Array GL × List GL) :=
  ops.foldlM (fun (acc : Array GL × List GL) op => do
    let x ← stepOp tables acc.1 op
    let pis := match op with | .pub _ => acc.2 ++ [x] | _ => acc.2
    pure (acc.1.push x, pis)) st

theorem evalProg_eq (p : Prog) : evalProg p = evalFrom p.tables (#[], []) p.ops := rfl

/-- evaluating `a ++ b` is evaluating `a`, then `b` from the state reached -/
theorem evalFrom_append (tables : List (List (Nat × Nat))) (st : Array GL × List GL) (a b : List Op) :
    evalFrom tables st (a ++ b) = (evalFrom tables st a).bind fun st' => evalFrom tables st' b := by
  unfold evalFrom
  rw [List.foldlM_append]
  rfl

/-- every step appends exactly one variable -/
theorem evalFrom_size (tables : List (List (Nat × Nat))) :
    ∀ (ops : List Op) (st st' : Array GL × List GL), evalFrom tables st ops = some st' →
      st'.1.size = st.1.size + ops.length := by
  intro ops
  induction ops with
  | nil =>
    intro st st' h
    obtain rfl : st = st' := Option.some.inj h
    rfl
  | cons op rest ih =>
    intro st st' h
    simp only [evalFrom, List.foldlM_cons] at h
    cases hs : stepOp tables st.1 op with
    | none => simp [hs] at h
    | some x =>
      simp only [hs] at h
      rw [ih _ _ h, Array.size_push, List.length_cons, Nat.add_assoc, Nat.add_comm 1]

end P2.Props.C01
