/-
C05: decision logic of the FRI verifier model (`P2.Model.Fri`) stated outright, and the arity
schedule. Every statement is for arbitrary proofs, instances, parameters and challenges.
The proximity soundness of FRI itself is NOT proved here (see DESIGN.md, trusted base).
-/
import P2.Model.Fri
namespace P2.Props.C05
open P2 P2.Fri P2.Merkle

theorem firstBad_accept_iff (vs : List Verdict) : firstBad vs = .accept ↔ ∀ v ∈ vs, v = .accept := by
  induction vs with
  | nil => simp [firstBad]
  | cons v rest ih =>
    cases v with
    | accept => simp [firstBad, ih]
    | reject s => simp [firstBad]
    | panic s => simp [firstBad]

/-- a rejection/panic reported by `firstBad` is one of the listed checks' verdicts -/
theorem firstBad_mem (vs : List Verdict) (h : firstBad vs ≠ .accept) : firstBad vs ∈ vs := by
  induction vs with
  | nil => simp [firstBad] at h
  | cons v rest ih =>
    cases v with
    | accept =>
      simp only [firstBad] at h ⊢
      exact List.mem_cons_of_mem _ (ih h)
    | reject s => simp [firstBad]
    | panic s => simp [firstBad]

/-- what `verify_fri_proof` and `verify_batch_fri_proof` do after shape validation: proof of work,
number of query rounds, then the rounds in order -/
theorem rounds_accept_iff {α : Type} (pow : Bool) (n len : Nat) (l : List α) (f : α → Verdict) :
    (if !pow then Verdict.reject "pow" else if n ≠ len then .reject "num-queries"
      else firstBad (l.map f)) = .accept ↔ pow = true ∧ n = len ∧ ∀ x ∈ l, f x = .accept := by
  cases pow
  · simp
  by_cases hn : n = len
  · simp [hn, firstBad_accept_iff]
  · simp [hn]

/-- **Acceptance is the conjunction of all checks** (top level): shape validation, proof of work,
query count, and every query round. -/
theorem verify_accept_iff (inst : Instance) (openings : List (List GL2)) (ch : Challenges)
    (caps : List (List Digest)) (proof : Proof) (p : FriParams) :
    verify inst openings ch caps proof p = .accept ↔
      validateShape proof inst p = .accept ∧
      powOk ch.powResponse p.config.powBits = true ∧
      p.config.numQueryRounds = proof.queries.length ∧
      ∀ xq ∈ ch.queryIndices.zip proof.queries,
        queryRound inst ch (openings.map fun vals => reduceExt vals ch.alpha) caps proof xq.1 xq.2 p = .accept := by
  unfold verify
  cases hs : validateShape proof inst p with
  | accept =>
    simp only [true_and]
    exact rounds_accept_iff _ _ _ _ _
  | reject s => exact ⟨fun h => (nomatch h), fun h => (nomatch h.1)⟩
  | panic s => exact ⟨fun h => (nomatch h), fun h => (nomatch h.1)⟩

/-- an insufficient proof-of-work response is rejected, whatever else the proof contains -/
theorem bad_pow_rejected (inst : Instance) (openings : List (List GL2)) (ch : Challenges)
    (caps : List (List Digest)) (proof : Proof) (p : FriParams)
    (h : powOk ch.powResponse p.config.powBits = false) :
    verify inst openings ch caps proof p ≠ .accept :=
  fun hacc => Bool.false_ne_true
    (h.symm.trans ((verify_accept_iff inst openings ch caps proof p).1 hacc).2.1)

/-- accepted initial checks: every initial Merkle opening verifies against its cap -/
theorem initialChecks_accept {initial : List (List GL × List Digest)} {caps : List (List Digest)} {x : Nat}
    (h : firstBad (initialChecks initial caps x) = .accept) :
    ∀ lc ∈ initial.zip caps, verifyToCap digestHasher lc.1.1 x lc.2 lc.1.2 = .ok := by
  rintro ⟨⟨leaf, mp⟩, cap⟩ hlc
  have := (firstBad_accept_iff _).1 h _ (List.mem_map_of_mem hlc)
  dsimp only at this ⊢
  generalize verifyToCap digestHasher leaf x cap mp = o at this ⊢
  cases o
  · rfl
  · cases this
  · cases this

/-- **Acceptance of one query round** implies each named check of that round:
every initial Merkle opening verifies against its cap, the combination of the openings is defined,
the whole reduction chain passes, and the final polynomial evaluates to the last folded value. -/
theorem queryRound_accept (inst : Instance) (ch : Challenges) (red : List GL2)
    (caps : List (List Digest)) (proof : Proof) (x0 : Nat) (q : QueryRound) (p : FriParams)
    (h : queryRound inst ch red caps proof x0 q p = .accept) :
    (∀ lc ∈ q.initial.zip caps, verifyToCap digestHasher lc.1.1 x0 lc.2 lc.1.2 = .ok) ∧
    ∃ old0 lastEval xf,
      combineInitial inst q.initial ch.alpha
        (GL.multGen * GL.pow (GL.primitiveRoot p.ldeBits) (BitRev.bitrev p.ldeBits x0)) red p = some old0 ∧
      stepsFrom proof ch q p.arityBits 0 x0
        (GL.multGen * GL.pow (GL.primitiveRoot p.ldeBits) (BitRev.bitrev p.ldeBits x0)) old0
          = (.accept, lastEval, xf) ∧
      (Poly.eval proof.finalPoly (GL2.ofBase xf) == lastEval) = true := by
  revert h
  fun_cases queryRound inst ch red caps proof x0 q p
  case case2 hfb _ _ old0 hc lastEval xf hst hf =>
    exact fun _ => ⟨initialChecks_accept hfb, old0, lastEval, xf, hc, hst, hf⟩
  case case4 hne _ => exact fun h => (hne h).elim
  case case5 hne => exact fun h => (hne h).elim
  all_goals nofun

/-- **One reduction layer**: if the chain from layer `i` is accepted then at layer `i` the queried
evaluation equals the value carried from the previous layer (consistency), the coset's Merkle
opening verifies against that layer's cap at the coset index, and the chain continues from the
interpolated value `compute_evaluation` at the point `x^arity`. -/
theorem stepsFrom_accept_cons (proof : Proof) (ch : Challenges) (q : QueryRound)
    (ab : Nat) (rest : List Nat) (i xIndex : Nat) (x : GL) (oldEval lastEval : GL2) (xf : GL)
    (h : stepsFrom proof ch q (ab :: rest) i xIndex x oldEval = (.accept, lastEval, xf)) :
    ∃ st e beta cap,
      q.steps[i]? = some st ∧ st.evals[xIndex % 2 ^ ab]? = some e ∧ (e == oldEval) = true ∧
      ch.betas[i]? = some beta ∧ proof.commitCaps[i]? = some cap ∧
      verifyToCap digestHasher (st.evals.flatMap fun v => [v.a, v.b]) (xIndex / 2 ^ ab) cap st.merkleProof = .ok ∧
      stepsFrom proof ch q rest (i + 1) (xIndex / 2 ^ ab) (GL.pow x (2 ^ ab))
        (computeEvaluation x (xIndex % 2 ^ ab) ab st.evals beta) = (.accept, lastEval, xf) := by
  -- along the definition of `stepsFrom`: only the branch in which every check passes can accept.
  -- The branches are numbered in the order of the definition and `case` names their variables and
  -- hypotheses in the order of the corresponding premise of `Fri.stepsFrom.fun_cases` (`#check` it)
  generalize hl : ab :: rest = l at h
  revert hl h
  fun_cases stepsFrom proof ch q l i xIndex x oldEval
  case case9 _ _ _ st e beta cap hs hb hcap _ _ he hv _ hcons =>
    rintro ⟨⟩ h
    exact ⟨st, e, beta, cap, hs, he, by simpa using hcons, hb, hcap, hv, h⟩
  all_goals rintro ⟨⟩ ⟨⟩

/-- with no reduction layers the chain returns the combined value unchanged -/
theorem stepsFrom_nil (proof : Proof) (ch : Challenges) (q : QueryRound) (i xIndex : Nat) (x : GL)
    (oldEval : GL2) : stepsFrom proof ch q [] i xIndex x oldEval = (.accept, oldEval, x) := rfl

theorem foldl_add (l : List Nat) (s : Nat) : l.foldl (· + ·) s = s + l.foldl (· + ·) 0 := by
  induction l generalizing s with
  | nil => rfl
  | cons y t ih => rw [List.foldl_cons, List.foldl_cons, ih, ih (0 + y), Nat.zero_add, Nat.add_assoc]

theorem constantArityBits_spec (a f rateBits capHeight : Nat) :
    ∀ fuel degreeBits l, constantArityBits a f rateBits capHeight fuel degreeBits = some l →
      (∀ x ∈ l, x = a) ∧ l.foldl (· + ·) 0 ≤ degreeBits := by
  intro fuel degreeBits
  fun_induction constantArityBits a f rateBits capHeight fuel degreeBits
  case case2 => nofun
  case case3 d _ hlt ih =>
    intro l h
    obtain ⟨l', hr, rfl⟩ := Option.map_eq_some_iff.1 h
    obtain ⟨h1, h2⟩ := ih l' hr
    refine ⟨List.forall_mem_cons.2 ⟨rfl, h1⟩, ?_⟩
    rw [List.foldl_cons, foldl_add]
    omega
  all_goals
    rintro _ ⟨⟩
    exact ⟨nofun, Nat.zero_le _⟩

/-- non-vacuity: the standard strategy `ConstantArityBits(4, 5)` at degree 2^12, rate 3, cap 4 -/
example : constantArityBits 4 5 3 4 14 12 = some [4, 4] := by decide

end P2.Props.C05
