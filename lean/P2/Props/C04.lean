/-
C04: Fiat–Shamir — what the transcripts of `Plonk.getChallenges` and `fri_challenges` absorb, and in
which order. Causality of the challenger (a challenge is a function of the operations before it) is in
`P2.Props.C04b`.
-/
import P2.Model.Plonk
namespace P2.Props.C04
open P2 P2.Plonk P2.Challenger

/-- everything a schedule absorbs, in order -/
def observed : List Op → List GL
  | [] => []
  | .obs xs :: rest => xs ++ observed rest
  | .get _ :: rest => observed rest

theorem observed_append (a b : List Op) : observed (a ++ b) = observed a ++ observed b := by
  induction a with
  | nil => rfl
  | cons op rest ih => cases op <;> simp [observed, ih]

/-- **Coverage of the PLONK statement and messages.** The transcript absorbs, in this order: all
FRI/degree parameters, the circuit digest, the public-input hash, the wires cap, the Z/partial
products(/lookup) cap, the quotient cap and every opening — nothing of the statement or of the
prover's messages up to the openings is left out. -/
theorem plonk_schedule_observes (c : CommonData) (pih dg : Merkle.Digest) (p : Proof) :
    observed (plonkSchedule c pih dg p) =
      friParamsObserved c.friParams ++ dg ++ pih ++ flattenCap p.wiresCap ++
      flattenCap p.zsPartialProductsCap ++ flattenCap p.quotientPolysCap ++
      p.openings.toFriOpenings.flatMap flattenExt := by
  unfold plonkSchedule
  by_cases h : c.numLookupPolys ≠ 0 <;> simp [h, observed]

/-- **Coverage of the FRI messages.** `fri_challenges` absorbs every commit-phase cap, every
final-polynomial coefficient and the proof-of-work witness, for any number of caps/coefficients. -/
theorem fri_schedule_observes (fp : Fri.Proof) (nq : Nat) :
    observed (friSchedule fp nq) =
      fp.commitCaps.flatMap flattenCap ++ flattenExt fp.finalPoly ++ [fp.powWitness] := by
  unfold friSchedule
  have h : ∀ caps : List (List Merkle.Digest),
      observed (caps.flatMap fun cap => [Op.obs (flattenCap cap), Op.get 2]) = caps.flatMap flattenCap := by
    intro caps
    induction caps with
    | nil => rfl
    | cons cap rest ih => simp [observed, ih]
  simp [observed, observed_append, h]

/-- FRI parameters that enter the transcript: rate, cap height, PoW bits, the strategy encoding,
the query count, hiding, the degree bits and every arity. -/
theorem fri_params_observed (p : Fri.FriParams) :
    friParamsObserved p =
      ([p.config.rateBits, p.config.capHeight, p.config.powBits] ++ p.config.strategy.serialize ++
        [p.config.numQueryRounds, (if p.isHiding then 1 else 0), p.degreeBits] ++ p.arityBits).map GL.ofNat := rfl

end P2.Props.C04
