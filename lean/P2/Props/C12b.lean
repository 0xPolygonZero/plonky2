/-
C12 (continued): correctness of the Merkle-tree construction `build`/`fillSubtree` and of the
prover's index arithmetic `merkleTreeProve` in `P2.Model.Merkle`, for an arbitrary hasher,
all heights, all cap heights and all positions.
-/
import P2.Props.C12
import P2.Lemmas.Merkle
namespace P2.Props.C12
open P2.Merkle P2.Lemmas.Merkle

variable {L D : Type}

/-- `fill_subtree` on `2^k` leaves returns the textbook root (the single digest left after
hashing the leaves pairwise level by level `k` times) and a digest buffer of `2·(2^k − 1)` entries. -/
theorem fillSubtree_root (h : Hasher L D) (k : Nat) (leaves : List L)
    (hl : leaves.length = 2 ^ k) :
    ∃ r, (fillSubtree h k leaves).2 = some r ∧ capOf h k 0 leaves = [r] ∧
      (fillSubtree h k leaves).1.length = 2 * (2 ^ k - 1) := by
  obtain ⟨buf, r, e, hr, hb⟩ := fillSubtree_spec h k leaves hl
  exact ⟨r, by rw [e], by rw [capOf_eq_lv]; exact hr, by rw [e]; exact hb⟩

/-- The cap computed by `MerkleTree::new` equals hashing the leaves and then hashing
pairwise, level by level, `k − capHeight` times. -/
theorem cap_eq_levelwise (h : Hasher L D) (k capHeight : Nat) (leaves : List L)
    (hl : leaves.length = 2 ^ k) (hc : capHeight ≤ k) :
    (build h k capHeight leaves).2 = (capOf h k capHeight leaves).map some := by
  rw [capOf_eq_lv]
  exact build_snd h k capHeight leaves hl hc

/-- **Layout correctness.** For every leaf position `i` of the tree built by
`MerkleTree::new`, the index arithmetic of `merkle_tree_prove` stays inside the digest buffer,
returns `k − capHeight` siblings, and the proof it returns is accepted by
`verify_merkle_proof_to_cap` for `leaves[i]` at index `i` against the tree's cap. -/
theorem prove_verifies [DecidableEq D] (h : Hasher L D) (k capHeight : Nat) (leaves : List L)
    (hl : leaves.length = 2 ^ k) (hc : capHeight ≤ k) (i : Nat) (hi : i < 2 ^ k)
    (cap : List D) (hcap : (build h k capHeight leaves).2 = cap.map some) :
    ∃ π, merkleTreeProve i (2 ^ k) k capHeight (build h k capHeight leaves).1 = some π ∧
      π.length = k - capHeight ∧
      verifyToCap h (leaves[i]'(by omega)) i cap π = .ok := by
  obtain ⟨π, h1, h2, _, h4⟩ := prove_spec h k capHeight leaves hl hc i hi cap hcap
  exact ⟨π, h1, h2, h4⟩

/-- **Layout correctness, sharpened.** The `j`-th entry of the proof returned by `merkle_tree_prove` for leaf `i`
is entry `(i >> j) ^ 1` of level `j` of the textbook tree (`capOf h k (k − j) leaves` is the list
of all `2^(k−j)` level-`j` digests): the buffer entry read at layer `j` is the digest of the
sibling of the `j`-th ancestor of leaf `i`. -/
theorem prove_siblings [DecidableEq D] (h : Hasher L D) (k capHeight : Nat) (leaves : List L)
    (hl : leaves.length = 2 ^ k) (hc : capHeight ≤ k) (i : Nat) (hi : i < 2 ^ k) :
    ∃ π, merkleTreeProve i (2 ^ k) k capHeight (build h k capHeight leaves).1 = some π ∧
      π.length = k - capHeight ∧
      (∀ j, j < k - capHeight → π[j]? = (capOf h k (k - j) leaves)[(i / 2 ^ j) ^^^ 1]?) ∧
      verifyToCap h (leaves[i]'(by omega)) i (capOf h k capHeight leaves) π = .ok := by
  obtain ⟨π, h1, h2, h3, h4⟩ := prove_spec h k capHeight leaves hl hc i hi _
    (cap_eq_levelwise h k capHeight leaves hl hc)
  refine ⟨π, h1, h2, ?_, h4⟩
  intro j hj
  rw [h3 j hj, capOf_eq_lv, Nat.sub_sub_self (Nat.le_of_lt (Nat.lt_of_lt_of_le hj (Nat.sub_le k capHeight)))]

/-- Non-vacuity: the toy hasher on four leaves with cap height 1 and 0: the cap is the
level-wise one, every `merkle_tree_prove` output verifies, and a wrong leaf is rejected. -/
example :
    (build toy 2 1 [3, 5, 7, 9]).2 = (capOf toy 2 1 [3, 5, 7, 9]).map some ∧
    capOf toy 2 1 [3, 5, 7, 9] = [33, 53] ∧
    merkleTreeProve 0 4 2 1 (build toy 2 1 [3, 5, 7, 9]).1 = some [6] ∧
    merkleTreeProve 1 4 2 1 (build toy 2 1 [3, 5, 7, 9]).1 = some [4] ∧
    merkleTreeProve 2 4 2 1 (build toy 2 1 [3, 5, 7, 9]).1 = some [10] ∧
    merkleTreeProve 3 4 2 1 (build toy 2 1 [3, 5, 7, 9]).1 = some [8] ∧
    verifyToCap toy 3 0 [33, 53] [6] = .ok ∧ verifyToCap toy 5 1 [33, 53] [4] = .ok ∧
    verifyToCap toy 7 2 [33, 53] [10] = .ok ∧ verifyToCap toy 9 3 [33, 53] [8] = .ok ∧
    verifyToCap toy 7 3 [33, 53] [8] = .err := by decide

example :
    (build toy 2 0 [3, 5, 7, 9]).2 = (capOf toy 2 0 [3, 5, 7, 9]).map some ∧
    capOf toy 2 0 [3, 5, 7, 9] = [232] ∧
    merkleTreeProve 2 4 2 0 (build toy 2 0 [3, 5, 7, 9]).1 = some [10, 33] ∧
    verifyToCap toy 7 2 [232] [10, 33] = .ok ∧ verifyToCap toy 7 2 [232] [33, 10] = .err := by
  decide

end P2.Props.C12
