/-
C04 property theorems, part b: causality of the Fiat–Shamir challenger (challenges already drawn do
not depend on later messages), injectivity of the absorption step under an injective permutation,
state dependence (altering an absorbed element changes the sponge state every later challenge is
squeezed from, unless a capacity collision occurred), the squeeze as a function of that state, and
injectivity of the PLONK/FRI transcripts in every component for fixed shapes.
"Injective permutation" is the hypothesis `Function.Injective p.permute`, injectivity on arrays of
every size: a condition on an abstract permutation record.  `Sponge.poseidonPerm` does not meet it
(`Poseidon.permute` reads its argument through `s[i]!` and maps `#[]` and twelve zeros to the same
state), so the theorems assuming it (`duplexing_inj`, `duplexing_differs`, `state_dependence*`,
`history_state_dependence`) say nothing about the model's Poseidon.
The lemmas are in `P2.Lemmas.C04`; definitions used in the statements:
`runFrom p s ops = ops.foldl step (s, [])`, `runState p ops = runFrom p (init p) ops`
(`Challenger.run p ops = (runState p ops).2` by `rfl`).
-/
import P2.Lemmas.C04
namespace P2.Props.C04
open P2 P2.Sponge P2.Challenger P2.Plonk P2.Lemmas.C04 P2.Lemmas.C13

theorem runState_append (p : Perm) (a b : List Op) :
    runState p (a ++ b) =
      ((runFrom p (runState p a).1 b).1, run p a ++ (runFrom p (runState p a).1 b).2) :=
  runFrom_append p (init p) a b

theorem run_append (p : Perm) (a b : List Op) :
    run p (a ++ b) = run p a ++ (runFrom p (runState p a).1 b).2 := by
  rw [run_eq_runState, runState_append]

/-- challenges already drawn do not depend on later messages -/
theorem run_prefix (p : Perm) (a b : List Op) : run p a <+: run p (a ++ b) :=
  ⟨_, (run_append p a b).symm⟩

theorem run_length (p : Perm) (ops : List Op) : (run p ops).length = drawn ops :=
  runFrom_length p (init p) ops

/-- two histories with a common prefix `a` produce the same challenges during `a` (the first
`drawn a` ones), namely `run p a` -/
theorem run_congr_prefix (p : Perm) (a b c : List Op) :
    (run p (a ++ b)).take (drawn a) = run p a ∧
    (run p (a ++ b)).take (drawn a) = (run p (a ++ c)).take (drawn a) := by
  have h : ∀ b, (run p (a ++ b)).take (drawn a) = run p a := by
    intro b
    rw [run_append, ← run_length p a, List.take_left']
    rfl
  exact ⟨h b, (h b).trans (h c).symm⟩

/-- for a permutation injective on all arrays, the post-duplexing sponge determines the absorbed block
and every cell of the pre-state that the block did not overwrite -/
theorem duplexing_inj (p : Perm) (hinj : Function.Injective p.permute) (hr : p.rate ≤ p.width)
    (s s' : St) (hs : s.sponge.size = p.width) (hs' : s'.sponge.size = p.width)
    (hl : s.input.length = s'.input.length) (hle : s.input.length ≤ p.rate)
    (h : (duplexing p s).sponge = (duplexing p s').sponge) :
    s.input = s'.input ∧ ∀ i, s.input.length ≤ i → i < p.width → s.sponge[i]! = s'.sponge[i]! := by
  rw [duplexing_sponge, duplexing_sponge] at h
  obtain ⟨h1, h2⟩ := setFrom0_inj _ _ _ _ hl (by omega) (by omega) (hinj h)
  exact ⟨h1, fun i hi _ => h2 i hi⟩

/-- different blocks of the same length absorbed into the same pre-state give different post-states -/
theorem duplexing_differs (p : Perm) (hinj : Function.Injective p.permute) (hr : p.rate ≤ p.width)
    (s s' : St) (hs : s.sponge.size = p.width) (hsp : s.sponge = s'.sponge)
    (hl : s.input.length = s'.input.length) (hle : s.input.length ≤ p.rate)
    (hne : s.input ≠ s'.input) :
    (duplexing p s).sponge ≠ (duplexing p s').sponge := fun h =>
  hne (duplexing_inj p hinj hr s s' hs (hsp ▸ hs) hl hle h).1

/-- **State dependence.** Absorb two different messages `xs ≠ ys` of the same length from the same
challenger state and force a duplexing (draw one challenge). Then either the sponge states from
which all later challenges are squeezed differ, or an inner collision occurred: at the same point
`k` of the two runs the sponge states were different although they agree on the whole capacity
part (all indices `≥ rate`). -/
theorem state_dependence (p : Perm) (hinj : Function.Injective p.permute)
    (h0 : 0 < p.rate) (h1 : p.rate ≤ p.width)
    (hsz : ∀ st : Array P2.GL, st.size = p.width → (p.permute st).size = p.width)
    (s : St) (hs : s.sponge.size = p.width) (hi : s.input.length < p.rate)
    (xs ys : List P2.GL) (hl : xs.length = ys.length) (hne : xs ≠ ys) :
    (getChallenge p (observeMany p s xs)).1.sponge ≠ (getChallenge p (observeMany p s ys)).1.sponge ∨
    ∃ k, k < xs.length ∧
      (observeMany p s (xs.take k)).sponge ≠ (observeMany p s (ys.take k)).sponge ∧
      (observeMany p s (xs.take k)).sponge.size = p.width ∧
      (observeMany p s (ys.take k)).sponge.size = p.width ∧
      ∀ i, p.rate ≤ i →
        (observeMany p s (xs.take k)).sponge[i]! = (observeMany p s (ys.take k)).sponge[i]! := by
  have hp : PermOk p := ⟨h0, h1, hsz⟩
  have hinv : Inv p s := ⟨hs, hi⟩
  obtain ⟨hx, hy⟩ := ne_nil_of_ne hl hne
  rw [getChallenge_observeMany hp s hinv hx, getChallenge_observeMany hp s hinv hy]
  exact fin_differs_or_collision hp hinj s hinv xs.length xs ys rfl hl.symm hne

/-- **State dependence, block-boundary form.** As `state_dependence`, and the collision point `k`
is a block boundary (`k > 0` observations after which the input buffer had just been absorbed):
the colliding states are the outputs of the permutation at the same duplexing of the two runs. -/
theorem state_dependence_boundary (p : Perm) (hinj : Function.Injective p.permute)
    (h0 : 0 < p.rate) (h1 : p.rate ≤ p.width)
    (hsz : ∀ st : Array P2.GL, st.size = p.width → (p.permute st).size = p.width)
    (s : St) (hs : s.sponge.size = p.width) (hi : s.input.length < p.rate)
    (xs ys : List P2.GL) (hl : xs.length = ys.length) (hne : xs ≠ ys) :
    (getChallenge p (observeMany p s xs)).1.sponge ≠ (getChallenge p (observeMany p s ys)).1.sponge ∨
    ∃ k, 0 < k ∧ k < xs.length ∧ (s.input.length + k) % p.rate = 0 ∧
      (observeMany p s (xs.take k)).input = [] ∧ (observeMany p s (ys.take k)).input = [] ∧
      (observeMany p s (xs.take k)).sponge ≠ (observeMany p s (ys.take k)).sponge ∧
      (observeMany p s (xs.take k)).sponge.size = p.width ∧
      (observeMany p s (ys.take k)).sponge.size = p.width ∧
      ∀ i, p.rate ≤ i →
        (observeMany p s (xs.take k)).sponge[i]! = (observeMany p s (ys.take k)).sponge[i]! := by
  have hp : PermOk p := ⟨h0, h1, hsz⟩
  have hinv : Inv p s := ⟨hs, hi⟩
  rcases state_dependence p hinj h0 h1 hsz s hs hi xs ys hl hne with h | ⟨k, hk, hd, hsx, hsy, hag⟩
  · exact Or.inl h
  · right
    have bx := sponge_at_boundary_take hp xs s hinv (Nat.le_of_lt hk)
    have by' := sponge_at_boundary_take hp ys s hinv (hl ▸ Nat.le_of_lt hk)
    have hmod := boundary_mod p.rate s.input.length k
    generalize hb : boundary p.rate s.input.length k = b at bx by' hmod
    simp only [bx, by'] at hd hsx hsy hag
    have hbpos : 0 < b := Nat.pos_of_ne_zero fun e => hd (e ▸ rfl)
    have hbk : b ≤ k := hb ▸ boundary_le _ _ _
    have hbx : b < xs.length := Nat.lt_of_le_of_lt hbk hk
    exact ⟨b, hbpos, hbx, hmod hbpos, input_nil_of_mod hp s hinv xs (Nat.le_of_lt hbx) (hmod hbpos),
      input_nil_of_mod hp s hinv ys (hl ▸ Nat.le_of_lt hbx) (hmod hbpos), hd, hsx, hsy, hag⟩

/-- single block, explicit: if everything observed still fits into the current block, the state after
the forced duplexing is the permutation of the pre-state overwritten with the buffered block -/
theorem single_block_state (p : Perm) (h0 : 0 < p.rate) (h1 : p.rate ≤ p.width)
    (hsz : ∀ st : Array P2.GL, st.size = p.width → (p.permute st).size = p.width)
    (s : St) (hs : s.sponge.size = p.width) (xs : List P2.GL) (hx : xs ≠ [])
    (hfit : s.input.length + xs.length ≤ p.rate) :
    (getChallenge p (observeMany p s xs)).1.sponge = p.permute (setFrom s.sponge (s.input ++ xs) 0) := by
  have hp : PermOk p := ⟨h0, h1, hsz⟩
  rcases List.eq_nil_or_concat' xs with rfl | ⟨x0, x, rfl⟩
  · exact absurd rfl hx
  have hlt : s.input.length + x0.length < p.rate := by simp at hfit; omega
  obtain ⟨e1, e2⟩ := observeMany_no_duplex p x0 s hlt
  rw [getChallenge_observeMany hp s ⟨hs, by omega⟩ hx, observeMany_concat, fin_observe, e1, e2,
    List.append_assoc]

/-- **State dependence, single block**: no collision disjunct — the post-duplexing states differ -/
theorem state_dependence_single_block (p : Perm) (hinj : Function.Injective p.permute)
    (h0 : 0 < p.rate) (h1 : p.rate ≤ p.width)
    (hsz : ∀ st : Array P2.GL, st.size = p.width → (p.permute st).size = p.width)
    (s : St) (hs : s.sponge.size = p.width)
    (xs ys : List P2.GL) (hl : xs.length = ys.length) (hne : xs ≠ ys)
    (hfit : s.input.length + xs.length ≤ p.rate) :
    (getChallenge p (observeMany p s xs)).1.sponge ≠ (getChallenge p (observeMany p s ys)).1.sponge := by
  obtain ⟨hx, hy⟩ := ne_nil_of_ne hl hne
  rw [single_block_state p h0 h1 hsz s hs xs hx hfit,
    single_block_state p h0 h1 hsz s hs ys hy (by omega)]
  intro h
  have := (setFrom0_inj _ _ _ _ (by simp [hl]) (by simp; omega) rfl (hinj h)).1
  exact hne (List.append_cancel_left this)

/-- **State dependence inside a history.** After any history `pre`, replacing the next message
`xs` by a different one of the same length changes the challenger's sponge state right after the
next challenge is drawn — unless a capacity collision occurred while absorbing the message. -/
theorem history_state_dependence (p : Perm) (hinj : Function.Injective p.permute)
    (h0 : 0 < p.rate) (h1 : p.rate ≤ p.width)
    (hsz : ∀ st : Array P2.GL, st.size = p.width → (p.permute st).size = p.width)
    (pre : List Op) (xs ys : List P2.GL) (hl : xs.length = ys.length) (hne : xs ≠ ys) :
    (runState p (pre ++ [.obs xs, .get 1])).1.sponge ≠ (runState p (pre ++ [.obs ys, .get 1])).1.sponge ∨
    ∃ k, k < xs.length ∧
      (runState p (pre ++ [.obs (xs.take k)])).1.sponge ≠ (runState p (pre ++ [.obs (ys.take k)])).1.sponge ∧
      (runState p (pre ++ [.obs (xs.take k)])).1.sponge.size = p.width ∧
      (runState p (pre ++ [.obs (ys.take k)])).1.sponge.size = p.width ∧
      ∀ i, p.rate ≤ i →
        (runState p (pre ++ [.obs (xs.take k)])).1.sponge[i]! =
          (runState p (pre ++ [.obs (ys.take k)])).1.sponge[i]! := by
  have hp : PermOk p := ⟨h0, h1, hsz⟩
  have hinv := runState_inv hp pre
  have e1 : ∀ zs : List P2.GL, (runState p (pre ++ [.obs zs, .get 1])).1 =
      (getChallenge p (observeMany p (runState p pre).1 zs)).1 := by
    intro zs
    rw [runState_append, runFrom_obs_get1]
  have e2 : ∀ zs : List P2.GL, (runState p (pre ++ [.obs zs])).1 =
      observeMany p (runState p pre).1 zs := by
    intro zs
    rw [runState_append]; rfl
  simp only [e1, e2]
  exact state_dependence p hinj h0 h1 hsz _ hinv.size hinv.len xs ys hl hne

/-- explicit squeeze: after a forced duplexing, the first `n ≤ rate` challenges are the rate part
of the new sponge state read backwards -/
theorem challenges_explicit (p : Perm) (s : St) (n : Nat) (hd : s.input ≠ [] ∨ s.output = [])
    (hn : n ≤ p.rate) (hsz : p.rate ≤ (duplexing p s).sponge.size) :
    (getN p s n).2 = ((duplexing p s).sponge.toList.take p.rate).reverse.take n := by
  cases n with
  | zero => simp [getN]
  | succ m => rw [getN_explicit p s (m + 1) hd (by omega) hn hsz]

/-- any number of challenges drawn after a forced duplexing depends on the post-duplexing sponge
state only (and so does the challenger state reached, once at least one challenge is drawn) -/
theorem challenges_from_state (p : Perm) (s s' : St) (n : Nat)
    (hd : s.input ≠ [] ∨ s.output = []) (hd' : s'.input ≠ [] ∨ s'.output = [])
    (h : (duplexing p s).sponge = (duplexing p s').sponge) :
    (getN p s n).2 = (getN p s' n).2 ∧ (0 < n → (getN p s n).1 = (getN p s' n).1) := by
  have hdup : duplexing p s = duplexing p s' := by
    rw [duplexing_eq p s, duplexing_eq p s', h]
  rw [getN_eq, getN_eq]
  cases n with
  | zero => simp
  | succ m =>
    rw [List.range_succ_eq_map]
    simp only [List.foldl_cons, gstepN_apply]
    rw [getChallenge_duplexing p s hd, getChallenge_duplexing p s' hd', hdup]
    exact ⟨rfl, fun _ => rfl⟩

/-- two PLONK transcripts with component-wise equal lengths coincide only if every component
coincides: parameters, circuit digest, public-input hash, the three caps and the openings -/
theorem plonk_observed_inj (c c' : CommonData) (pih pih' dg dg' : Merkle.Digest) (p p' : Proof)
    (l1 : (friParamsObserved c.friParams).length = (friParamsObserved c'.friParams).length)
    (l2 : dg.length = dg'.length) (l3 : pih.length = pih'.length)
    (l4 : (flattenCap p.wiresCap).length = (flattenCap p'.wiresCap).length)
    (l5 : (flattenCap p.zsPartialProductsCap).length = (flattenCap p'.zsPartialProductsCap).length)
    (l6 : (flattenCap p.quotientPolysCap).length = (flattenCap p'.quotientPolysCap).length)
    (h : observed (plonkSchedule c pih dg p) = observed (plonkSchedule c' pih' dg' p')) :
    friParamsObserved c.friParams = friParamsObserved c'.friParams ∧ dg = dg' ∧ pih = pih' ∧
    flattenCap p.wiresCap = flattenCap p'.wiresCap ∧
    flattenCap p.zsPartialProductsCap = flattenCap p'.zsPartialProductsCap ∧
    flattenCap p.quotientPolysCap = flattenCap p'.quotientPolysCap ∧
    p.openings.toFriOpenings.flatten = p'.openings.toFriOpenings.flatten := by
  rw [plonk_schedule_observes, plonk_schedule_observes] at h
  obtain ⟨e1, e2, e3, e4, e5, e6, e7⟩ := append_inj7 _ _ _ _ _ _ _ _ _ _ _ _ _ _ l1 l2 l3 l4 l5 l6 h
  refine ⟨e1, e2, e3, e4, e5, e6, ?_⟩
  rw [flatMap_flattenExt, flatMap_flattenExt] at e7
  exact flattenExt_inj _ _ e7

/-- two proofs whose wires caps differ (same number of well-formed digests; the other caps of the
same sizes) have different transcripts -/
theorem wires_cap_changes_transcript (c : CommonData) (pih dg : Merkle.Digest) (p p' : Proof)
    (hw : ∀ d ∈ p.wiresCap, d.length = 4) (hw' : ∀ d ∈ p'.wiresCap, d.length = 4)
    (hlen : p.wiresCap.length = p'.wiresCap.length)
    (l5 : (flattenCap p.zsPartialProductsCap).length = (flattenCap p'.zsPartialProductsCap).length)
    (l6 : (flattenCap p.quotientPolysCap).length = (flattenCap p'.quotientPolysCap).length)
    (hne : p.wiresCap ≠ p'.wiresCap) :
    observed (plonkSchedule c pih dg p) ≠ observed (plonkSchedule c pih dg p') := by
  intro h
  have l4 : (flattenCap p.wiresCap).length = (flattenCap p'.wiresCap).length := by
    rw [flattenCap_length _ hw, flattenCap_length _ hw', hlen]
  have := (plonk_observed_inj c c pih pih dg dg p p' rfl rfl rfl l4 l5 l6 h).2.2.2.1
  exact hne (flattenCap_inj _ _ hw hw' this)

/-- the same for the other two caps, the public-input hash and the circuit digest -/
theorem statement_or_cap_changes_transcript (c : CommonData) (pih pih' dg dg' : Merkle.Digest)
    (p p' : Proof)
    (l2 : dg.length = dg'.length) (l3 : pih.length = pih'.length)
    (hw : ∀ d ∈ p.wiresCap, d.length = 4) (hw' : ∀ d ∈ p'.wiresCap, d.length = 4)
    (hz : ∀ d ∈ p.zsPartialProductsCap, d.length = 4) (hz' : ∀ d ∈ p'.zsPartialProductsCap, d.length = 4)
    (hq : ∀ d ∈ p.quotientPolysCap, d.length = 4) (hq' : ∀ d ∈ p'.quotientPolysCap, d.length = 4)
    (k4 : p.wiresCap.length = p'.wiresCap.length)
    (k5 : p.zsPartialProductsCap.length = p'.zsPartialProductsCap.length)
    (k6 : p.quotientPolysCap.length = p'.quotientPolysCap.length)
    (hne : dg ≠ dg' ∨ pih ≠ pih' ∨ p.wiresCap ≠ p'.wiresCap ∨
      p.zsPartialProductsCap ≠ p'.zsPartialProductsCap ∨ p.quotientPolysCap ≠ p'.quotientPolysCap ∨
      p.openings.toFriOpenings.flatten ≠ p'.openings.toFriOpenings.flatten) :
    observed (plonkSchedule c pih dg p) ≠ observed (plonkSchedule c pih' dg' p') := by
  intro h
  obtain ⟨_, e2, e3, e4, e5, e6, e7⟩ := plonk_observed_inj c c pih pih' dg dg' p p' rfl l2 l3
    (by rw [flattenCap_length _ hw, flattenCap_length _ hw', k4])
    (by rw [flattenCap_length _ hz, flattenCap_length _ hz', k5])
    (by rw [flattenCap_length _ hq, flattenCap_length _ hq', k6]) h
  rcases hne with h | h | h | h | h | h
  · exact h e2
  · exact h e3
  · exact h (flattenCap_inj _ _ hw hw' e4)
  · exact h (flattenCap_inj _ _ hz hz' e5)
  · exact h (flattenCap_inj _ _ hq hq' e6)
  · exact h e7

/-- FRI transcript: for commit-phase caps of a fixed shape (`m` digests of 4 elements) and final
polynomials of the same length, equal transcripts force equal caps, final polynomial and PoW witness -/
theorem fri_observed_inj (fp fp' : Fri.Proof) (nq nq' m : Nat) (hm : 0 < m)
    (hc : ∀ cap ∈ fp.commitCaps, cap.length = m ∧ ∀ d ∈ cap, d.length = 4)
    (hc' : ∀ cap ∈ fp'.commitCaps, cap.length = m ∧ ∀ d ∈ cap, d.length = 4)
    (hn : fp.commitCaps.length = fp'.commitCaps.length)
    (hf : fp.finalPoly.length = fp'.finalPoly.length)
    (h : observed (friSchedule fp nq) = observed (friSchedule fp' nq')) :
    fp.commitCaps = fp'.commitCaps ∧ fp.finalPoly = fp'.finalPoly ∧ fp.powWitness = fp'.powWitness := by
  rw [fri_schedule_observes, fri_schedule_observes] at h
  have lcaps : (fp.commitCaps.flatMap flattenCap).length = (fp'.commitCaps.flatMap flattenCap).length := by
    rw [flatMap_flattenCap_length m _ hc, flatMap_flattenCap_length m _ hc', hn]
  obtain ⟨h12, h3⟩ := List.append_inj h (by
    rw [List.length_append, List.length_append, lcaps, flattenExt_length, flattenExt_length, hf])
  obtain ⟨h1, h2⟩ := List.append_inj h12 lcaps
  exact ⟨flatMap_flattenCap_inj m hm _ _ hc hc' h1, flattenExt_inj _ _ h2, List.singleton_inj.mp h3⟩

end P2.Props.C04
