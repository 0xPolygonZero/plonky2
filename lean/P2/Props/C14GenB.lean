/-
C14 (translator tie): the extension fields' two-adic generator constants extracted from /repo on this run,
evaluated with the model's own schoolbook extension product (on natural-number coefficients, a rendering
proved equal to `Ext.mul` below): they have exactly their declared orders.
(The companion file P2/Findings/FC14_1.lean holds the kernel-checked NEGATION of "EXT_MULTIPLICATIVE_GROUP_GENERATOR
generates" for D = 2, 4 — known finding F-C14-1; it describes a defect, so it is deliberately NOT an
obligation of any check: a repair of the constants must not raise an alarm.)
-/
import P2.Props.C14Gen
namespace P2.Props.C14GenB
open P2 P2.Props.C14Gen

def extPowAux (p : ExtParams) : Nat → Ext.E → Nat → Ext.E → Ext.E
  | 0, _, _, acc => acc
  | f + 1, b, e, acc =>
    if e = 0 then acc else
    extPowAux p f (Ext.mul p b b) (e / 2) (if e % 2 = 1 then Ext.mul p acc b else acc)
/-- square-and-multiply in the extension (fuel 400 ≥ bit length of every exponent used here) -/
def extPow (p : ExtParams) (b : Ext.E) (e : Nat) : Ext.E := extPowAux p 400 b e (Ext.ofBase p 1)
def extOfList (l : List Nat) : Ext.E := (l.map GL.ofNat).toArray

theorem ite_pure_yield {m : Type → Type} [Monad m] {α : Type} (c : Prop) [Decidable c] (x y : α) :
    (if c then (pure (ForInStep.yield x) : m (ForInStep α)) else pure (ForInStep.yield y)) =
      pure (ForInStep.yield (if c then x else y)) := by
  split <;> rfl

theorem setIfInBounds_add (c : List GL) (k : Nat) (t : GL) :
    c.toArray.setIfInBounds k (c.toArray[k]! + t) = (c.modify k (· + t)).toArray := by
  simp [List.modify_eq_set]

/-- The `for` loops of `Ext.mul` as folds over the list of coefficients.  Each step mentions the state
once (`List.modify` instead of a read and a write), so for literal operands the right side unfolds by
`rfl` without the state being copied at every step. -/
theorem mul_eq_foldl (p : ExtParams) (a b : Ext.E) : Ext.mul p a b =
    ((List.range p.d).foldl (fun c i => (List.range p.d).foldl (fun c j =>
      if i + j < p.d then c.modify (i + j) (· + a[i]! * b[j]!)
      else c.modify (i + j - p.d) (· + p.w * (a[i]! * b[j]!))) c) (List.replicate p.d 0)).toArray := by
  simp only [Ext.mul, Array.set!_eq_setIfInBounds, ite_pure_yield,
    Std.Legacy.Range.forIn_eq_forIn_range', Std.Legacy.Range.size, Nat.sub_zero, Nat.add_one_sub_one,
    Nat.div_one, List.forIn_pure_yield_eq_foldl, bind_pure_comp, map_pure, bind_pure, Id.run_pure,
    ← List.range_eq_range']
  refine List.foldl_hom List.toArray fun c i => List.foldl_hom List.toArray fun c j => ?_
  split <;> exact setIfInBounds_add c _ _

/-- (`0 +`: the accumulator starts at zero) -/
theorem mul_ext2P (a0 a1 b0 b1 : GL) : Ext.mul ext2P #[a0, a1] #[b0, b1] =
    #[0 + a0 * b0 + GL.ofNat 7 * (a1 * b1), 0 + a0 * b1 + a1 * b0] := by
  rw [mul_eq_foldl]
  rfl

theorem mul_ext4P (a0 a1 a2 a3 b0 b1 b2 b3 : GL) :
    Ext.mul ext4P #[a0, a1, a2, a3] #[b0, b1, b2, b3] =
      #[0 + a0 * b0 + GL.ofNat 7 * (a1 * b3) + GL.ofNat 7 * (a2 * b2) + GL.ofNat 7 * (a3 * b1),
        0 + a0 * b1 + a1 * b0 + GL.ofNat 7 * (a2 * b3) + GL.ofNat 7 * (a3 * b2),
        0 + a0 * b2 + a1 * b1 + a2 * b0 + GL.ofNat 7 * (a3 * b3),
        0 + a0 * b3 + a1 * b2 + a2 * b1 + a3 * b0] := by
  rw [mul_eq_foldl]
  rfl

/-! Evaluation on natural-number coefficients.  The kernel evaluates `Ext.mul` slowly (array reads and writes inside `for` loops, `Fin` proofs that grow
with every operation), so powers are computed on tuples of `Nat` coefficients with one `% GLP` per
coefficient and carried over to `Ext.E` by `extPow_eq`. -/

theorem ofNat_add (a b : Nat) : GL.ofNat (a + b) = GL.ofNat a + GL.ofNat b :=
  Fin.ext (Nat.add_mod a b GLP)

theorem ofNat_mul (a b : Nat) : GL.ofNat (a * b) = GL.ofNat a * GL.ofNat b :=
  Fin.ext (Nat.mul_mod a b GLP)

theorem ofNat_mod (a : Nat) : GL.ofNat (a % GLP) = GL.ofNat a :=
  Fin.ext (Nat.mod_mod a GLP)

def ext2 (x : Nat × Nat) : Ext.E := extOfList [x.1, x.2]

def ext4 (x : Nat × Nat × Nat × Nat) : Ext.E := extOfList [x.1, x.2.1, x.2.2.1, x.2.2.2]

def pair (l : List Nat) : Nat × Nat := (l[0]!, l[1]!)

def quad (l : List Nat) : Nat × Nat × Nat × Nat := (l[0]!, l[1]!, l[2]!, l[3]!)

def mul2 : Nat × Nat → Nat × Nat → Nat × Nat
  | (a0, a1), (b0, b1) => ((a0 * b0 + 7 * (a1 * b1)) % GLP, (a0 * b1 + a1 * b0) % GLP)

def mul4 : Nat × Nat × Nat × Nat → Nat × Nat × Nat × Nat → Nat × Nat × Nat × Nat
  | (a0, a1, a2, a3), (b0, b1, b2, b3) =>
    ((a0 * b0 + 7 * (a1 * b3) + 7 * (a2 * b2) + 7 * (a3 * b1)) % GLP,
     (a0 * b1 + a1 * b0 + 7 * (a2 * b3) + 7 * (a3 * b2)) % GLP,
     (a0 * b2 + a1 * b1 + a2 * b0 + 7 * (a3 * b3)) % GLP,
     (a0 * b3 + a1 * b2 + a2 * b1 + a3 * b0) % GLP)

theorem mul_ext2 (x y : Nat × Nat) : Ext.mul ext2P (ext2 x) (ext2 y) = ext2 (mul2 x y) := by
  obtain ⟨a0, a1⟩ := x
  obtain ⟨b0, b1⟩ := y
  simp only [ext2, mul2, extOfList, List.map_cons, List.map_nil, mul_ext2P, Fin.zero_add, ofNat_mod,
    ofNat_add, ofNat_mul]

theorem mul_ext4 (x y : Nat × Nat × Nat × Nat) :
    Ext.mul ext4P (ext4 x) (ext4 y) = ext4 (mul4 x y) := by
  obtain ⟨a0, a1, a2, a3⟩ := x
  obtain ⟨b0, b1, b2, b3⟩ := y
  simp only [ext4, mul4, extOfList, List.map_cons, List.map_nil, mul_ext4P, Fin.zero_add, ofNat_mod,
    ofNat_add, ofNat_mul]

/-- `extPowAux` with the product left open -/
def powAux {α : Type} (m : α → α → α) : Nat → α → Nat → α → α
  | 0, _, _, acc => acc
  | f + 1, b, e, acc =>
    if e = 0 then acc else powAux m f (m b b) (e / 2) (if e % 2 = 1 then m acc b else acc)

/-- if `m` computes `Ext.mul p` on a rendering `r` of the elements, `powAux m` computes `extPow p` -/
theorem extPow_eq {α : Type} {p : ExtParams} {r : α → Ext.E} {m : α → α → α} {one : α}
    (hm : ∀ x y, Ext.mul p (r x) (r y) = r (m x y)) (h1 : Ext.ofBase p 1 = r one) (b : α) (e : Nat) :
    extPow p (r b) e = r (powAux m 400 b e one) := by
  have h : ∀ f b e acc, extPowAux p f (r b) e (r acc) = r (powAux m f b e acc) := by
    intro f
    induction f with
    | zero => exact fun _ _ _ => rfl
    | succ f ih =>
      intro b e acc
      rw [extPowAux, powAux, hm, hm, ← apply_ite r, ih, ← apply_ite r]
  rw [extPow, h1, h]

theorem extPow_ext2 {x y : Nat × Nat} {e : Nat} (h : powAux mul2 400 x e (1, 0) = y) :
    extPow ext2P (ext2 x) e = ext2 y :=
  h ▸ extPow_eq mul_ext2 rfl x e

theorem extPow_ext4 {x y : Nat × Nat × Nat × Nat} {e : Nat}
    (h : powAux mul4 400 x e (1, 0, 0, 0) = y) : extPow ext4P (ext4 x) e = ext4 y :=
  h ▸ extPow_eq mul_ext4 rfl x e

/-- what the code does rely on: the two-adic generators of the extensions have order exactly `2^TWO_ADICITY`
(33 for D = 2, 34 for D = 4), evaluated in the model's extension arithmetic -/
theorem ext_pow2_gen_orders :
    extPow ext2P (extOfList Gen.EXT2_POW2_GEN) (2 ^ 33) = Ext.ofBase ext2P 1 ∧
    extPow ext2P (extOfList Gen.EXT2_POW2_GEN) (2 ^ 32) ≠ Ext.ofBase ext2P 1 ∧
    extPow ext4P (extOfList Gen.EXT4_POW2_GEN) (2 ^ 34) = Ext.ofBase ext4P 1 ∧
    extPow ext4P (extOfList Gen.EXT4_POW2_GEN) (2 ^ 33) ≠ Ext.ofBase ext4P 1 := by
  -- half way round, each generator is at `-1`
  have h2 : extPow ext2P (extOfList Gen.EXT2_POW2_GEN) (2 ^ 32) = ext2 (GLP - 1, 0) :=
    extPow_ext2 (x := pair Gen.EXT2_POW2_GEN) (by decide +kernel)
  have h4 : extPow ext4P (extOfList Gen.EXT4_POW2_GEN) (2 ^ 33) = ext4 (GLP - 1, 0, 0, 0) :=
    extPow_ext4 (x := quad Gen.EXT4_POW2_GEN) (by decide +kernel)
  rw [h2, h4]
  exact ⟨extPow_ext2 (x := pair Gen.EXT2_POW2_GEN) (y := (1, 0)) (by decide +kernel), by decide,
    extPow_ext4 (x := quad Gen.EXT4_POW2_GEN) (y := (1, 0, 0, 0)) (by decide +kernel),
    by decide⟩

end P2.Props.C14GenB
