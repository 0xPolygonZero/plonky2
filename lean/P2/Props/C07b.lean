/-
C07: for the built-in gates of the model (`P2/Model/Gates.lean`), in every parameterisation,

  * the generic single-replacement lemmas (`replace_pins_…`);
  * the evaluator returns exactly `numConstraints` constraints (`count_all`, all 16 gate kinds);
  * gate by gate, over an arbitrary field (arithmetic, constant, public-input, arithmetic- and
    multiplication-extension, base-sum, exponentiation, the two reducing gates, random-access,
    Poseidon-MDS): the satisfying rows are those holding the generator's values
    (`…_sat_iff` / `…_gen_sat`), every generator-written value is pinned by a named constraint
    (`…_pinned…`), and the other constraints do not move (`…_others…`);
  * for those of them that have a generator, over Goldilocks: the row the model's
    `GateKind.generate` fills in satisfies every constraint (`…_generate_sat`), and both halves hold
    on that row (`…_C07On`).  The Poseidon gate has `poseidon_generate_sat` only: no pinning
    theorem and no `C07On`.  `cosetInterpolation`, `lookup`, `lookupTable` and `noop` have the count
    and the degree bound only;
  * every constraint has degree at most `GateKind.degree` along every line (`gate_degree`).

In the docstrings under each gate, (a) is satisfaction, (b) pinning, (c) what a replacement leaves
unchanged.

Vocabulary (defined in `P2/Lemmas/C07.lean`, `P2/Lemmas/C07On.lean`, `P2/Lemmas/C07Degree.lean`):
  `evalF g v`   = `@GateKind.evalUnfiltered K (FOps.ofField K) _ g v`, the model's evaluator with
                  the operations of the Mathlib field `K`;
  `con g v i`   = `(evalF g v).getD i 0`, constraint number `i`;
  `Sat g v`     = every constraint of `evalF g v` is `0`;
  `DiffersOnlyAt v v' k` = `v'` has the same constants and public-input hash as `v`, the same value
                  in every wire `j ≠ k`, and a DIFFERENT value in wire `k`
                  (`setW v k x` = `v` with `wires.set! k x` is one whenever `k` is in range and
                  `x ≠ v.wires[k]!`: `setW_differs`);
  `genRow g consts wires pih` = `⟨consts, g.generate consts wires, pih⟩`;
  `C07On g consts wires pih`  = C07 on the model's own generated row over `GL`, with the model's
                  executable evaluator: all constraints vanish on `g.generate consts wires`, and for
                  every `k ∈ g.generatedWires` and `x ≠ row[k]!` some constraint of the row with
                  column `k` set to `x` is non-zero;
  `DegLE d f`, `Line V` : polynomial functions of degree ≤ d, rows moving along a line.
Side conditions that the proofs forced are hypotheses of the statements and are discussed in the
doc comments (`baseSum`: `(b : K) ≠ 0`; `randomAccess`: `(2 : K) ≠ 0`; contracts: sum `< b^l`,
power bits boolean, access index `< 2^bits`).
-/
import P2.Props.C07
import P2.Lemmas.C07
import P2.Lemmas.C07On
import P2.Lemmas.C07Simple
import P2.Lemmas.C07GenGL
import P2.Lemmas.C07Counts
import P2.Lemmas.C07BaseSum
import P2.Lemmas.C07Exp
import P2.Lemmas.C07Reducing
import P2.Lemmas.C07RandomAccess
import P2.Lemmas.C07Degree
import P2.Lemmas.C07Mds
import P2.Lemmas.C07Poseidon
import Mathlib.Tactic.NormNum
import Mathlib.Algebra.Field.Rat

set_option linter.unusedSectionVars false

namespace P2.Props.C07
open P2 P2.Gates P2.Lemmas.C07

/-! ## generic replacement lemmas -/

section Replace
variable {K : Type} [Field K] [Inhabited K]

/-- constraint `w_k − e(row)` with `e` independent of wire `k`: replacing wire `k` of a row on
which the constraint vanishes by any other value makes it non-zero -/
theorem replace_pins_sub [DecidableEq K] (ws : Array K) (k : Nat) (hk : k < ws.size)
    (e : Array K → K) (hind : ∀ x, e (ws.set! k x) = e ws) (h0 : ws[k]! - e ws = 0)
    (x : K) (hx : x ≠ ws[k]!) : (ws.set! k x)[k]! - e (ws.set! k x) ≠ 0 := by
  rw [hind, getElem!_set!_self _ _ _ hk]
  exact sub_pins h0 hx

/-- the mirrored shape `e(row) − w_k` -/
theorem replace_pins_sub' [DecidableEq K] (ws : Array K) (k : Nat) (hk : k < ws.size)
    (e : Array K → K) (hind : ∀ x, e (ws.set! k x) = e ws) (h0 : e ws - ws[k]! = 0)
    (x : K) (hx : x ≠ ws[k]!) : e (ws.set! k x) - (ws.set! k x)[k]! ≠ 0 := by
  rw [hind, getElem!_set!_self _ _ _ hk]
  exact fun h => hx ((sub_eq_zero.1 h).symm.trans (sub_eq_zero.1 h0))

/-- affine shape `a(row)·w_k + b(row)`, `a`, `b` independent of wire `k`, `a(row) ≠ 0` -/
theorem replace_pins_affine [DecidableEq K] (ws : Array K) (k : Nat) (hk : k < ws.size)
    (a b : Array K → K) (ha : ∀ x, a (ws.set! k x) = a ws) (hb : ∀ x, b (ws.set! k x) = b ws)
    (hne : a ws ≠ 0) (h0 : a ws * ws[k]! + b ws = 0) (x : K) (hx : x ≠ ws[k]!) :
    a (ws.set! k x) * (ws.set! k x)[k]! + b (ws.set! k x) ≠ 0 := by
  rw [ha, hb, getElem!_set!_self _ _ _ hk]
  exact affine_pins hne h0 hx

/-- rows as functions `Nat → K` (no bounds) -/
theorem replace_pins_sub_fun [DecidableEq K] (w : Nat → K) (k : Nat) (e : (Nat → K) → K)
    (hind : ∀ x, e (Function.update w k x) = e w) (h0 : w k - e w = 0)
    (x : K) (hx : x ≠ w k) : (Function.update w k x) k - e (Function.update w k x) ≠ 0 := by
  rw [hind, Function.update_self]
  exact sub_pins h0 hx

theorem replace_pins_affine_fun [DecidableEq K] (w : Nat → K) (k : Nat) (a b : (Nat → K) → K)
    (ha : ∀ x, a (Function.update w k x) = a w) (hb : ∀ x, b (Function.update w k x) = b w)
    (hne : a w ≠ 0) (h0 : a w * w k + b w = 0) (x : K) (hx : x ≠ w k) :
    a (Function.update w k x) * (Function.update w k x) k + b (Function.update w k x) ≠ 0 := by
  rw [ha, hb, Function.update_self]
  exact affine_pins hne h0 hx

/-- a single-column replacement inside the row IS a `DiffersOnlyAt` pair -/
theorem setW_is_replacement (v : EvalVars K) (k : Nat) (x : K) (hk : k < v.wires.size)
    (hx : x ≠ v.wires[k]!) : DiffersOnlyAt v (setW v k x) k := setW_differs v k x hk hx

end Replace

/-! ## exactly as many constraints as declared: every gate kind, every parameter, every row, any
operations record (no side condition; in particular none for `cosetInterpolation`) -/

theorem count_all {K : Type} [FOps K] [Inhabited K] (g : GateKind) (v : EvalVars K) :
    (g.evalUnfiltered v).length = g.numConstraints := by
  cases g with
  | arithmetic n => exact arithmetic_count n v
  | arithmeticExt n => exact count_arithmeticExt n v
  | mulExt n => exact count_mulExt n v
  | baseSum b l => exact baseSum_count b l v
  | constant n => exact constant_count n v
  | cosetInterpolation bits d ws => exact count_cosetInterpolation bits d ws v
  | exponentiation n => exact count_exponentiation n v
  | lookup n => rfl
  | lookupTable n => rfl
  | noop => rfl
  | poseidon => exact count_poseidon v
  | poseidonMds => exact count_poseidonMds v
  | publicInput => exact count_publicInput v
  | randomAccess bits copies extra => exact count_randomAccess bits copies extra v
  | reducing n => exact count_reducing n v
  | reducingExt n => exact count_reducingExt n v

section Gates
variable {K : Type} [Field K] [DecidableEq K] [Inhabited K]

/-! ## arithmetic gate `.arithmetic n` (outputs: wires `4i+3`, constraint `i`) -/

/-- (a) the row satisfies the gate iff every output wire holds the generator's value -/
theorem arithmetic_sat_iff (n : Nat) (v : EvalVars K) :
    Sat (.arithmetic n) v ↔ ∀ i, i < n →
      v.wires[4 * i + 3]! = v.wires[4 * i]! * v.wires[4 * i + 1]! * v.constants[0]!
        + v.wires[4 * i + 2]! * v.constants[1]! := Lemmas.C07.arithmetic_sat_iff n v

/-- (b) output `i` is pinned by constraint `i` -/
theorem arithmetic_pinned (n : Nat) (v v' : EvalVars K) (i : Nat) (hi : i < n)
    (hd : DiffersOnlyAt v v' (4 * i + 3)) (h0 : con (.arithmetic n) v i = 0) :
    con (.arithmetic n) v' i ≠ 0 := by
  have hne : ∀ a, a < 3 → 4 * i + a ≠ 4 * i + 3 := fun a ha =>
    Nat.ne_of_lt (Nat.add_lt_add_left ha _)
  rw [arithmetic_con, if_pos hi] at h0 ⊢
  rw [hd.constants, hd.same (4 * i) (hne 0 (by decide)), hd.same (4 * i + 1) (hne 1 (by decide)),
    hd.same (4 * i + 2) (hne 2 (by decide))]
  exact sub_pins h0 hd.diff

/-- (c) all other constraints keep their value -/
theorem arithmetic_others (n : Nat) (v v' : EvalVars K) (i : Nat)
    (hd : DiffersOnlyAt v v' (4 * i + 3)) (j : Nat) (hj : j ≠ i) :
    con (.arithmetic n) v' j = con (.arithmetic n) v j := by
  have hne : ∀ a, a < 4 → 4 * j + a ≠ 4 * i + 3 := fun a ha =>
    block_ne_of_ne hj ha (by decide)
  rw [arithmetic_con, arithmetic_con, hd.constants, hd.same (4 * j) (hne 0 (by decide)),
    hd.same (4 * j + 1) (hne 1 (by decide)), hd.same (4 * j + 2) (hne 2 (by decide)),
    hd.same (4 * j + 3) (hne 3 (by decide))]

/-! ## constant gate (no generator; wire `i` vs constant `i`) -/

theorem constant_sat_iff (n : Nat) (v : EvalVars K) :
    Sat (.constant n) v ↔ ∀ i, i < n → v.wires[i]! = v.constants[i]! :=
  (sat_iff_of_con _ v n _ _ (constant_con n v)).trans (forall₂_congr fun _ _ => eq_comm)

theorem constant_pinned (n : Nat) (v v' : EvalVars K) (i : Nat) (hi : i < n)
    (hd : DiffersOnlyAt v v' i) (h0 : con (.constant n) v i = 0) :
    con (.constant n) v' i ≠ 0 := by
  rw [constant_con, if_pos hi] at h0 ⊢
  rw [hd.constants]
  exact fun h => hd.diff ((sub_eq_zero.1 h).symm.trans (sub_eq_zero.1 h0))

theorem constant_others (n : Nat) (v v' : EvalVars K) (i : Nat)
    (hd : DiffersOnlyAt v v' i) (j : Nat) (hj : j ≠ i) :
    con (.constant n) v' j = con (.constant n) v j := by
  rw [constant_con, constant_con, hd.constants, hd.same j hj]

/-! ## public-input gate (wires 0..3 vs the public-inputs hash) -/

theorem publicInput_sat_iff (v : EvalVars K) :
    Sat .publicInput v ↔ ∀ i, i < 4 → v.wires[i]! = v.pih[i]! :=
  sat_iff_of_con _ v 4 _ _ (publicInput_con v)

theorem publicInput_pinned (v v' : EvalVars K) (i : Nat) (hi : i < 4)
    (hd : DiffersOnlyAt v v' i) (h0 : con .publicInput v i = 0) :
    con .publicInput v' i ≠ 0 := by
  rw [publicInput_con, if_pos hi] at h0 ⊢
  rw [hd.pih]
  exact sub_pins h0 hd.diff

theorem publicInput_others (v v' : EvalVars K) (i : Nat)
    (hd : DiffersOnlyAt v v' i) (j : Nat) (hj : j ≠ i) :
    con .publicInput v' j = con .publicInput v j := by
  rw [publicInput_con, publicInput_con, hd.pih, hd.same j hj]

/-! ## arithmetic-extension gate (outputs: algebra element at wires `8i+6, 8i+7`; constraints
`2i, 2i+1`).  `arithExtGen v i` is the pair `(m0·m1)·c0 + addend·c1` computed in `K[X]/(X²−7)` from
wires `8i … 8i+5` and constants 0, 1 (`arithExtOut`). -/

theorem arithmeticExt_sat_iff (n : Nat) (v : EvalVars K) :
    Sat (.arithmeticExt n) v ↔ ∀ i, i < n →
      v.wires[8 * i + 6]! = (arithExtGen v i).1 ∧ v.wires[8 * i + 7]! = (arithExtGen v i).2 :=
  (arithmeticExt_algOut n).sat_iff v

/-- the generator's value, spelled out -/
theorem arithExtGen_eq (v : EvalVars K) (i : Nat) :
    arithExtGen v i =
      ((v.wires[8 * i]! * v.wires[8 * i + 2]! + 7 * (v.wires[8 * i + 1]! * v.wires[8 * i + 3]!))
          * v.constants[0]! + v.wires[8 * i + 4]! * v.constants[1]!,
       (v.wires[8 * i]! * v.wires[8 * i + 3]! + v.wires[8 * i + 1]! * v.wires[8 * i + 2]!)
          * v.constants[0]! + v.wires[8 * i + 5]! * v.constants[1]!) := rfl

/-- component wire `8i+6+r` (`r < 2`) is pinned by constraint `2i+r` -/
theorem arithmeticExt_pinned (n : Nat) (v v' : EvalVars K) (i r : Nat) (hi : i < n) (hr : r < 2)
    (hd : DiffersOnlyAt v v' (8 * i + 6 + r)) (h0 : con (.arithmeticExt n) v (2 * i + r) = 0) :
    con (.arithmeticExt n) v' (2 * i + r) ≠ 0 :=
  (arithmeticExt_algOut n).pinned v v' i r hi hr hd h0

theorem arithmeticExt_others (n : Nat) (v v' : EvalVars K) (i r : Nat) (hr : r < 2)
    (hd : DiffersOnlyAt v v' (8 * i + 6 + r)) (j : Nat) (hj : j ≠ 2 * i + r) :
    con (.arithmeticExt n) v' j = con (.arithmeticExt n) v j :=
  (arithmeticExt_algOut n).others v v' i r hr hd j hj

/-! ## multiplication-extension gate (outputs at wires `6i+4, 6i+5`; constraints `2i, 2i+1`) -/

theorem mulExt_sat_iff (n : Nat) (v : EvalVars K) :
    Sat (.mulExt n) v ↔ ∀ i, i < n →
      v.wires[6 * i + 4]! = (mulExtGen v i).1 ∧ v.wires[6 * i + 5]! = (mulExtGen v i).2 :=
  (mulExt_algOut n).sat_iff v

theorem mulExtGen_eq (v : EvalVars K) (i : Nat) :
    mulExtGen v i =
      ((v.wires[6 * i]! * v.wires[6 * i + 2]! + 7 * (v.wires[6 * i + 1]! * v.wires[6 * i + 3]!))
          * v.constants[0]!,
       (v.wires[6 * i]! * v.wires[6 * i + 3]! + v.wires[6 * i + 1]! * v.wires[6 * i + 2]!)
          * v.constants[0]!) := rfl

theorem mulExt_pinned (n : Nat) (v v' : EvalVars K) (i r : Nat) (hi : i < n) (hr : r < 2)
    (hd : DiffersOnlyAt v v' (6 * i + 4 + r)) (h0 : con (.mulExt n) v (2 * i + r) = 0) :
    con (.mulExt n) v' (2 * i + r) ≠ 0 := (mulExt_algOut n).pinned v v' i r hi hr hd h0

theorem mulExt_others (n : Nat) (v v' : EvalVars K) (i r : Nat) (hr : r < 2)
    (hd : DiffersOnlyAt v v' (6 * i + 4 + r)) (j : Nat) (hj : j ≠ 2 * i + r) :
    con (.mulExt n) v' j = con (.mulExt n) v j := (mulExt_algOut n).others v v' i r hr hd j hj

/-! ## base-sum gate `.baseSum b l` (wire 0 = sum, wires `1+i` = limbs written by
`BaseSplitGenerator`; constraint 0 = `Σ limb_i·b^i − sum`, constraint `1+i` = `∏_{d<b}(limb_i − d)`)

Findings.  (1) The generated row satisfies the gate under the contract `s < b^l` only (no condition
on the characteristic).  (2) A changed limb `i` is caught by the SUM constraint iff `(b:K)^i ≠ 0`;
when the characteristic divides `b` it is not caught at all: `baseSum_pinned_needs_side_condition`
exhibits two fully satisfying rows over `ZMod 2` (b = 2, l = 2) that differ in one limb only.  Over
Goldilocks `(b : GL) ≠ 0` for `0 < b < p`.  (3) The digits are the ONLY satisfying limbs when
`Nat.cast` is injective on `[0, b^l)` (`baseSum_sat_unique`); over `GL` this needs `b^l ≤ p`, which
fails e.g. for base 2 with 64 limbs (`s` and `s + p` are both `< 2^64` for small `s`). -/

theorem baseSum_con0 (b l : Nat) (v : EvalVars K) :
    con (.baseSum b l) v 0 = (∑ i ∈ Finset.range l, v.wires[1 + i]! * (b : K) ^ i) - v.wires[0]! :=
  Lemmas.C07.baseSum_con0 b l v

theorem baseSum_con_succ (b l : Nat) (v : EvalVars K) (i : Nat) :
    con (.baseSum b l) v (1 + i)
      = if i < l then ∏ d ∈ Finset.range b, (v.wires[1 + i]! - (d : K)) else 0 :=
  Lemmas.C07.baseSum_con_succ' b l v i

/-- (a) sum `s < b^l`, limbs = base-`b` digits of `s` ⟹ all constraints vanish (any field) -/
theorem baseSum_gen_sat (b l s : Nat) (hs : s < b ^ l) (v : EvalVars K)
    (h0 : v.wires[0]! = (s : K))
    (hl : ∀ i, i < l → v.wires[1 + i]! = (((s / b ^ i) % b : ℕ) : K)) :
    Sat (.baseSum b l) v := Lemmas.C07.baseSum_gen_sat b l s hs v h0 hl

/-- (b) limb `i` is pinned by the sum constraint (index 0) provided `(b:K) ≠ 0` (or `i = 0`) -/
theorem baseSum_pinned (b l : Nat) (v v' : EvalVars K) (i : Nat) (hi : i < l)
    (hb : (b : K) ≠ 0 ∨ i = 0) (hd : DiffersOnlyAt v v' (1 + i))
    (h0 : con (.baseSum b l) v 0 = 0) : con (.baseSum b l) v' 0 ≠ 0 :=
  Lemmas.C07.baseSum_pinned' b l v v' i hi hb hd h0

/-- the side condition of `baseSum_pinned` cannot be dropped: if `(b:K)^i = 0` the sum constraint
does not see limb `i` at all -/
theorem baseSum_con0_blind (b l : Nat) (v v' : EvalVars K) (i : Nat) (hi : i < l)
    (hb : (b : K) ^ i = 0) (hd : DiffersOnlyAt v v' (1 + i)) :
    con (.baseSum b l) v' 0 = con (.baseSum b l) v 0 :=
  Lemmas.C07.baseSum_con0_blind b l v v' i hi hb hd

/-- … and then C07's replacement clause is FALSE: over `ZMod 2`, base 2, two limbs, sum 0, two rows
differing only in limb 1 both satisfy every constraint -/
theorem baseSum_pinned_needs_side_condition :
    ∃ v v' : EvalVars (ZMod 2), DiffersOnlyAt v v' (1 + 1) ∧ v.wires[0]! = ((0 : ℕ) : ZMod 2) ∧
      Sat (.baseSum 2 2) v ∧ Sat (.baseSum 2 2) v' :=
  ⟨cexRow, cexRow', cex_differs, rfl, cex_sat, cex_sat'⟩

/-- (c) the range constraints of the other limbs keep their value -/
theorem baseSum_others (b l : Nat) (v v' : EvalVars K) (i : Nat)
    (hd : DiffersOnlyAt v v' (1 + i)) (j : Nat) (hj : j ≠ i) :
    con (.baseSum b l) v' (1 + j) = con (.baseSum b l) v (1 + j) :=
  Lemmas.C07.baseSum_others b l v v' i hd j hj

/-- uniqueness (the strongest pinning statement): if `Nat.cast` is injective on `[0, b^l)`, a
satisfying row whose sum is `s < b^l` has exactly the base-`b` digits of `s` as limbs -/
theorem baseSum_sat_unique (b l s : Nat) (hs : s < b ^ l)
    (hinj : ∀ m n, m < b ^ l → n < b ^ l → (m : K) = (n : K) → m = n)
    (v : EvalVars K) (hsat : Sat (.baseSum b l) v) (h0 : v.wires[0]! = (s : K)) :
    ∀ i, i < l → v.wires[1 + i]! = (((s / b ^ i) % b : ℕ) : K) :=
  Lemmas.C07.baseSum_sat_unique b l s hs hinj v hsat h0

/-- … so under that injectivity NO single-limb replacement of a satisfying row satisfies the gate -/
theorem baseSum_pinned_sat (b l s : Nat) (hs : s < b ^ l)
    (hinj : ∀ m n, m < b ^ l → n < b ^ l → (m : K) = (n : K) → m = n)
    (v v' : EvalVars K) (i : Nat) (hi : i < l) (hd : DiffersOnlyAt v v' (1 + i))
    (hsat : Sat (.baseSum b l) v) (h0 : v.wires[0]! = (s : K)) : ¬ Sat (.baseSum b l) v' :=
  Lemmas.C07.baseSum_pinned_sat b l s hs hinj v v' i hi hd hsat h0

/-- the injectivity hypothesis holds in characteristic 0 or `≥ b^l` -/
theorem natCast_inj_of_charP (p : Nat) [CharP K p] (N : Nat) (hN : N ≤ p ∨ p = 0) :
    ∀ m n, m < N → n < N → (m : K) = (n : K) → m = n := Lemmas.C07.natCast_inj_of_charP p N hN

/-! ## exponentiation gate `.exponentiation n` (wire 0 = base, wires `1+i` = power bits,
wire `1+n` = output, wires `2+n+i` = intermediates; constraint `i < n` pins intermediate `i`,
constraint `n` pins the output).  `expPrev n v i` = `1` for `i = 0`, else `intermediate_{i−1}²`.
Contract: power bits boolean (needed: the generator tests `bit = 1` only; see the example in
`P2/Lemmas/C07Exp.lean` with bit = 2). -/

theorem exponentiation_sat_iff (n : Nat) (v : EvalVars K) :
    Sat (.exponentiation n) v ↔
      (∀ i, i < n → v.wires[2 + n + i]! =
        expPrev n v i * (v.wires[1 + (n - i - 1)]! * v.wires[0]! + (1 - v.wires[1 + (n - i - 1)]!)))
      ∧ v.wires[1 + n]! = v.wires[2 + n + (n - 1)]! := Lemmas.C07.exponentiation_sat_iff n v

/-- (a) boolean power bits, intermediates and output as `ExponentiationGenerator` computes them
⟹ all constraints vanish -/
theorem exponentiation_gen_sat (n : Nat) (v : EvalVars K)
    (hb : ∀ i, i < n → v.wires[1 + i]! = 0 ∨ v.wires[1 + i]! = 1)
    (hi : ∀ i, i < n → v.wires[2 + n + i]! =
      if v.wires[1 + (n - i - 1)]! = 1 then expPrev n v i * v.wires[0]! else expPrev n v i)
    (ho : v.wires[1 + n]! = v.wires[2 + n + (n - 1)]!) : Sat (.exponentiation n) v :=
  (exponentiation_sat_iff_gen n v hb).2 ⟨hi, ho⟩

/-- the gate computes exponentiation: on a satisfying row with boolean bits,
`output = base ^ Σ_j bit_j·2^j` -/
theorem exponentiation_semantics (n : Nat) (hn : 1 ≤ n) (v : EvalVars K)
    (hb : ∀ i, i < n → v.wires[1 + i]! = 0 ∨ v.wires[1 + i]! = 1)
    (hs : Sat (.exponentiation n) v) :
    v.wires[1 + n]! = v.wires[0]! ^ (∑ j ∈ Finset.range n, expBitVal v j * 2 ^ j) :=
  Lemmas.C07.exponentiation_semantics n hn v hb hs

/-- (b) intermediate `i` is pinned by constraint `i` -/
theorem exponentiation_pinned_intermediate (n : Nat) (v v' : EvalVars K) (i : Nat) (hi : i < n)
    (hd : DiffersOnlyAt v v' (2 + n + i)) (h0 : con (.exponentiation n) v i = 0) :
    con (.exponentiation n) v' i ≠ 0 := by
  rw [exponentiation_con, if_pos hi] at h0 ⊢
  rw [expPrev_congr n v v' i (fun _ => hd.same _ (by omega)),
    hd.same (1 + (n - i - 1)) (by omega), hd.same 0 (by omega)]
  exact fun h => hd.diff ((sub_eq_zero.1 h).symm.trans (sub_eq_zero.1 h0))

/-- (b) the output is pinned by constraint `n` (every `n`, including 0) -/
theorem exponentiation_pinned_output (n : Nat) (v v' : EvalVars K)
    (hd : DiffersOnlyAt v v' (1 + n)) (h0 : con (.exponentiation n) v n = 0) :
    con (.exponentiation n) v' n ≠ 0 := by
  rw [exponentiation_con, if_neg (lt_irrefl n), if_pos rfl] at h0 ⊢
  rw [hd.same (2 + n + (n - 1)) (by omega)]
  exact sub_pins h0 hd.diff

/-- (c) replacing intermediate `i` can only move constraints `i` and `i+1` -/
theorem exponentiation_others_intermediate (n : Nat) (v v' : EvalVars K) (i : Nat)
    (hd : DiffersOnlyAt v v' (2 + n + i)) (j : Nat) (hj : j ≠ i) (hj' : j ≠ i + 1) :
    con (.exponentiation n) v' j = con (.exponentiation n) v j := by
  by_cases hjn : j < n
  · exact exponentiation_con_congr_lt n v v' _ j hd hjn (by omega) (by omega) (by omega)
  · rw [exponentiation_con, exponentiation_con, if_neg hjn, if_neg hjn]
    by_cases h : j = n
    · rw [if_pos h, if_pos h, hd.same (1 + n) (by omega), hd.same (2 + n + (n - 1)) (by omega)]
    · rw [if_neg h, if_neg h]

theorem exponentiation_others_output (n : Nat) (v v' : EvalVars K)
    (hd : DiffersOnlyAt v v' (1 + n)) (j : Nat) (hj : j ≠ n) :
    con (.exponentiation n) v' j = con (.exponentiation n) v j := by
  by_cases hjn : j < n
  · exact exponentiation_con_congr_lt n v v' _ j hd hjn (by omega) (by omega) (by omega)
  · rw [exponentiation_con, exponentiation_con, if_neg hjn, if_neg hjn, if_neg hj, if_neg hj]

/-! ## reducing gates (`.reducing n`: base-field coefficients at wires `6+i`; `.reducingExt n`:
algebra coefficients at `6+2i`).  Output/last accumulator = wires 0,1; alpha = 2,3; old_acc = 4,5;
accumulator `i` at `redWiresAccs n i` (resp. `redExtWiresAccs n i`); `redPrev n i` is the position
of the previous accumulator (`4` for `i = 0`).  Constraints `2i`, `2i+1` pin the two component
wires of accumulator `i`. -/

theorem reducing_sat_iff (n : Nat) (v : EvalVars K) :
    Sat (.reducing n) v ↔ ∀ i, i < n →
      v.wires[redWiresAccs n i]! = v.wires[redPrev n i]! * v.wires[2]!
          + 7 * (v.wires[redPrev n i + 1]! * v.wires[3]!) + v.wires[6 + i]! ∧
      v.wires[redWiresAccs n i + 1]! = v.wires[redPrev n i]! * v.wires[3]!
          + v.wires[redPrev n i + 1]! * v.wires[2]! := by
  rw [reducing_sat_red, redCon_zero_iff]
  refine forall_congr' fun i => forall_congr' fun _ => ?_
  dsimp only [redNext]
  rw [add_zero]

theorem reducing_pinned (n : Nat) (v v' : EvalVars K) (i comp : Nat) (hi : i < n) (hc : comp < 2)
    (hd : DiffersOnlyAt v v' (redWiresAccs n i + comp))
    (h0 : con (.reducing n) v (2 * i + comp) = 0) : con (.reducing n) v' (2 * i + comp) ≠ 0 := by
  rw [reducing_con_eq] at h0 ⊢
  exact redCon_pinned (redWiresAccs_layout n) (redCf_coeff n) v v' i comp hi hc hd h0

/-- only the wire's own constraint and the pair where accumulator `i` is the previous value can
move -/
theorem reducing_others (n : Nat) (v v' : EvalVars K) (i comp : Nat) (hi : i < n) (hc : comp < 2)
    (hd : DiffersOnlyAt v v' (redWiresAccs n i + comp)) (j : Nat)
    (h1 : j ≠ 2 * i + comp) (h2 : j ≠ 2 * (i + 1)) (h3 : j ≠ 2 * (i + 1) + 1) :
    con (.reducing n) v' j = con (.reducing n) v j := by
  rw [reducing_con_eq, reducing_con_eq]
  exact redCon_others (redWiresAccs_layout n) (redCf_coeff n) v v' i comp hi hc hd j h1 h2 h3

theorem reducingExt_sat_iff (n : Nat) (v : EvalVars K) :
    Sat (.reducingExt n) v ↔ ∀ i, i < n →
      v.wires[redExtWiresAccs n i]! = v.wires[redExtPrev n i]! * v.wires[2]!
          + 7 * (v.wires[redExtPrev n i + 1]! * v.wires[3]!) + v.wires[6 + 2 * i]! ∧
      v.wires[redExtWiresAccs n i + 1]! = v.wires[redExtPrev n i]! * v.wires[3]!
          + v.wires[redExtPrev n i + 1]! * v.wires[2]! + v.wires[6 + 2 * i + 1]! := by
  rw [reducingExt_sat_red, redCon_zero_iff]
  rfl

theorem reducingExt_pinned (n : Nat) (v v' : EvalVars K) (i comp : Nat) (hi : i < n)
    (hc : comp < 2) (hd : DiffersOnlyAt v v' (redExtWiresAccs n i + comp))
    (h0 : con (.reducingExt n) v (2 * i + comp) = 0) :
    con (.reducingExt n) v' (2 * i + comp) ≠ 0 := by
  rw [reducingExt_con_eq] at h0 ⊢
  exact redCon_pinned (redExtWiresAccs_layout n) (redExtCf_coeff n) v v' i comp hi hc hd h0

theorem reducingExt_others (n : Nat) (v v' : EvalVars K) (i comp : Nat) (hi : i < n)
    (hc : comp < 2) (hd : DiffersOnlyAt v v' (redExtWiresAccs n i + comp)) (j : Nat)
    (h1 : j ≠ 2 * i + comp) (h2 : j ≠ 2 * (i + 1)) (h3 : j ≠ 2 * (i + 1) + 1) :
    con (.reducingExt n) v' j = con (.reducingExt n) v j := by
  rw [reducingExt_con_eq, reducingExt_con_eq]
  exact redCon_others (redExtWiresAccs_layout n) (redExtCf_coeff n) v v' i comp hi hc hd j h1 h2 h3

/-! ## random-access gate `.randomAccess bits copies extra`.  Per copy `c`: constraints
`(bits+2)c + i` (`i < bits`) booleanity of bit `i`, `(bits+2)c + bits` index reconstruction,
`(bits+2)c + bits + 1` claimed element vs the mux tree; then `extra` constant constraints.

Findings.  The exact solution set is `randomAccess_sat_iff` (no condition on the characteristic).
The claimed element is pinned unconditionally.  A bit wire `i` is pinned by the index constraint iff
`(2:K)^i ≠ 0`; in characteristic 2 C07's replacement clause is false for bit wires `i ≥ 1`
(`randomAccess_bit_not_pinned_char2`: two satisfying rows over `ZMod 2` differing in one bit wire).
Over Goldilocks `2 ≠ 0`. -/

/-- (a) and its converse, with no assumption on the characteristic of `K`: the satisfying rows are
exactly those where, per copy, the access index is (the image in `K` of) some `k < 2^bits`, the bit
wires are the binary digits of `k`, the claimed element is list item `k` (what
`RandomAccessGenerator` writes), and the extra-constant wires equal the constants -/
theorem randomAccess_sat_iff (bits copies extra : Nat) (v : EvalVars K) :
    Sat (.randomAccess bits copies extra) v ↔
      (∀ c, c < copies → ∃ k : ℕ, k < 2 ^ bits ∧
        v.wires[raWireAccessIndex bits c]! = (k : K) ∧
        (∀ i, i < bits → v.wires[raWireBit bits copies extra i c]! = ((k / 2 ^ i % 2 : ℕ) : K)) ∧
        v.wires[raWireClaimedElement bits c]! = v.wires[raWireListItem bits k c]!) ∧
      ∀ i, i < extra → v.wires[raWireExtraConstant bits copies i]! = v.constants[i]! := by
  rw [randomAccess_sat_iff_eqs]
  refine and_congr_left' (forall_congr' fun c => forall_congr' fun hc => ?_)
  constructor
  · rintro ⟨hbool, hidx, hmux⟩
    obtain ⟨k, hk, hb⟩ := ra_bool_digits bits (fun i => v.wires[raWireBit bits copies extra i c]!) hbool
    obtain ⟨h1, h2⟩ := ra_copy_of_digits bits copies extra v c k hk hb
    exact ⟨k, hk, by rw [← hidx, h1], hb, by rw [← hmux, h2]⟩
  · rintro ⟨k, hk, hacc, hb, hcl⟩
    obtain ⟨h1, h2⟩ := ra_copy_of_digits bits copies extra v c k hk hb
    exact ⟨fun i hi => by rw [hb i hi]; exact ra_digit_bool k i, by rw [h1, hacc], by rw [h2, hcl]⟩

/-- (b) the claimed element of copy `c` is pinned by the mux constraint -/
theorem randomAccess_pinned_claimed (bits copies extra : Nat) (v v' : EvalVars K) (c : Nat)
    (hc : c < copies) (hd : DiffersOnlyAt v v' (raWireClaimedElement bits c))
    (h0 : con (.randomAccess bits copies extra) v ((bits + 2) * c + bits + 1) = 0) :
    con (.randomAccess bits copies extra) v' ((bits + 2) * c + bits + 1) ≠ 0 := by
  obtain ⟨_, _, hbl, hil, _, _⟩ := ra_claimed_frame bits copies extra v v' c hc hd
  rw [randomAccess_con_mux bits copies extra _ c hc] at h0 ⊢
  rw [hbl, hil]
  exact fun h => hd.diff ((sub_eq_zero.1 h).symm.trans (sub_eq_zero.1 h0))

/-- (b) bit wire `i` of copy `c` is pinned by the index constraint, provided `2 ≠ 0` in `K`
(or `i = 0`) -/
theorem randomAccess_pinned_bit (bits copies extra : Nat) (v v' : EvalVars K) (c i : Nat)
    (hc : c < copies) (hi : i < bits) (h2 : (2 : K) ≠ 0 ∨ i = 0)
    (hd : DiffersOnlyAt v v' (raWireBit bits copies extra i c))
    (h0 : con (.randomAccess bits copies extra) v ((bits + 2) * c + bits) = 0) :
    con (.randomAccess bits copies extra) v' ((bits + 2) * c + bits) ≠ 0 := by
  rw [randomAccess_index_shift bits copies extra v v' c i hc hi hd, h0, zero_add]
  refine mul_ne_zero (sub_ne_zero.2 hd.diff) ?_
  rcases h2 with h | rfl
  · exact pow_ne_zero _ h
  · rw [pow_zero]
    exact one_ne_zero

/-- the side condition is necessary: over `ZMod 2`, `bits = 2`, one copy, bit wire 1 (= wire 7) -/
theorem randomAccess_bit_not_pinned_char2 :
    raWireBit 2 1 0 1 0 = 7 ∧ DiffersOnlyAt raC2Row raC2Row' (raWireBit 2 1 0 1 0) ∧
      Sat (.randomAccess 2 1 0) raC2Row ∧ Sat (.randomAccess 2 1 0) raC2Row' := by
  refine ⟨by decide, setW_differs raC2Row 7 1 (by decide) (by decide), ?_, ?_⟩
  · unfold Sat; decide +kernel
  · unfold Sat; decide +kernel

/-- (c) replacing the claimed element of copy `c` moves no other constraint -/
theorem randomAccess_others_claimed (bits copies extra : Nat) (v v' : EvalVars K) (c : Nat)
    (hc : c < copies) (hd : DiffersOnlyAt v v' (raWireClaimedElement bits c)) (j : Nat)
    (hj : j ≠ (bits + 2) * c + bits + 1) :
    con (.randomAccess bits copies extra) v' j = con (.randomAccess bits copies extra) v j := by
  obtain ⟨hbit, hacc, hbl, hil, hcl, hex⟩ := ra_claimed_frame bits copies extra v v' c hc hd
  revert j
  refine ra_index_cases bits copies extra _ ?_ ?_ ?_ ?_ ?_
  · intro c' i hc' hi _
    rw [randomAccess_con_bool bits copies extra _ c' i hc' hi,
      randomAccess_con_bool bits copies extra _ c' i hc' hi, hbit]
  · intro c' hc' _
    rw [randomAccess_con_index bits copies extra _ c' hc', randomAccess_con_index bits copies extra _ c' hc',
      hacc]
    simp only [hbit]
  · intro c' hc' hne
    have : c' ≠ c := fun h => hne (by rw [h])
    rw [randomAccess_con_mux bits copies extra _ c' hc', randomAccess_con_mux bits copies extra _ c' hc',
      hbl, hil, hcl c' this]
  · intro i hi _
    rw [randomAccess_con_extra bits copies extra _ i hi, randomAccess_con_extra bits copies extra _ i hi,
      hex, hd.constants]
  · intro j hj _
    rw [randomAccess_con_ge bits copies extra _ j hj, randomAccess_con_ge bits copies extra _ j hj]

/-- (c) replacing bit wire `i` of copy `c` can only move its booleanity constraint and the index
and mux constraints of copy `c` -/
theorem randomAccess_others_bit (bits copies extra : Nat) (v v' : EvalVars K) (c i : Nat)
    (hi : i < bits) (hd : DiffersOnlyAt v v' (raWireBit bits copies extra i c)) (j : Nat)
    (h1 : j ≠ (bits + 2) * c + i) (h2 : j ≠ (bits + 2) * c + bits)
    (h3 : j ≠ (bits + 2) * c + bits + 1) :
    con (.randomAccess bits copies extra) v' j = con (.randomAccess bits copies extra) v j := by
  obtain ⟨hbit, hacc, hbl, hil, hcl, hex⟩ := ra_bit_frame bits copies extra v v' c i hi hd
  revert j
  refine ra_index_cases bits copies extra _ ?_ ?_ ?_ ?_ ?_
  · intro c' i' hc' hi' hne _ _
    have : (c', i') ≠ (c, i) := fun h => hne (by rw [(Prod.mk.inj h).1, (Prod.mk.inj h).2])
    rw [randomAccess_con_bool bits copies extra _ c' i' hc' hi',
      randomAccess_con_bool bits copies extra _ c' i' hc' hi', hbit c' i' hi' this]
  · intro c' hc' _ hne _
    have hcc : c' ≠ c := fun h => hne (by rw [h])
    rw [randomAccess_con_index bits copies extra _ c' hc', randomAccess_con_index bits copies extra _ c' hc',
      hacc c' hc']
    congr 1
    refine Finset.sum_congr rfl fun j hj => ?_
    rw [hbit c' j (Finset.mem_range.1 hj) (fun h => hcc (congrArg Prod.fst h))]
  · intro c' hc' _ _ hne
    have hcc : c' ≠ c := fun h => hne (by rw [h])
    rw [randomAccess_con_mux bits copies extra _ c' hc', randomAccess_con_mux bits copies extra _ c' hc',
      hbl c' hcc, hil c' hc', hcl c' hc']
  · intro i' hi' _ _ _
    rw [randomAccess_con_extra bits copies extra _ i' hi', randomAccess_con_extra bits copies extra _ i' hi',
      hex i' hi', hd.constants]
  · intro j hj _ _ _
    rw [randomAccess_con_ge bits copies extra _ j hj, randomAccess_con_ge bits copies extra _ j hj]

/-! ## Poseidon-MDS gate (inputs: 12 algebra elements at wires `2i, 2i+1`; outputs at
`2(12+i), 2(12+i)+1`, constraints `2i, 2i+1`).  `mdsOut v i` is `mds_row_shf_algebra(i, inputs)`
(`mdsRowShfAlg`) computed from wires `< 24`. -/

theorem poseidonMds_sat_iff (v : EvalVars K) :
    Sat .poseidonMds v ↔ ∀ i, i < 12 →
      v.wires[2 * (12 + i)]! = (mdsOut v i).1 ∧ v.wires[2 * (12 + i) + 1]! = (mdsOut v i).2 :=
  poseidonMds_algOut.sat_iff v

theorem poseidonMds_pinned (v v' : EvalVars K) (i r : Nat) (hi : i < 12) (hr : r < 2)
    (hd : DiffersOnlyAt v v' (2 * (12 + i) + r)) (h0 : con .poseidonMds v (2 * i + r) = 0) :
    con .poseidonMds v' (2 * i + r) ≠ 0 := poseidonMds_algOut.pinned v v' i r hi hr hd h0

theorem poseidonMds_others (v v' : EvalVars K) (i r : Nat) (hr : r < 2)
    (hd : DiffersOnlyAt v v' (2 * (12 + i) + r)) (j : Nat) (hj : j ≠ 2 * i + r) :
    con .poseidonMds v' j = con .poseidonMds v j := poseidonMds_algOut.others v v' i r hr hd j hj

end Gates

/-! ## the model's generators over Goldilocks: `GateKind.generate` produces satisfying rows, and
both halves of C07 on the model's own generated row (`C07On`) -/

section OverGL
attribute [local instance] glField

/-- on `GL` the executable evaluator is `evalF` (so every field-level theorem above applies to the
model's own `evalUnfiltered`) -/
theorem evalGL_eq_evalF :
    (∀ n v, (GateKind.arithmetic n).evalUnfiltered (K := P2.GL) v = evalF (.arithmetic n) v) ∧
    (∀ n v, (GateKind.arithmeticExt n).evalUnfiltered (K := P2.GL) v = evalF (.arithmeticExt n) v) ∧
    (∀ n v, (GateKind.mulExt n).evalUnfiltered (K := P2.GL) v = evalF (.mulExt n) v) ∧
    (∀ b l v, (GateKind.baseSum b l).evalUnfiltered (K := P2.GL) v = evalF (.baseSum b l) v) ∧
    (∀ n v, (GateKind.constant n).evalUnfiltered (K := P2.GL) v = evalF (.constant n) v) ∧
    (∀ n v, (GateKind.exponentiation n).evalUnfiltered (K := P2.GL) v
      = evalF (.exponentiation n) v) ∧
    (∀ v, GateKind.publicInput.evalUnfiltered (K := P2.GL) v = evalF .publicInput v) ∧
    (∀ b c e v, (GateKind.randomAccess b c e).evalUnfiltered (K := P2.GL) v
      = evalF (.randomAccess b c e) v) ∧
    (∀ n v, (GateKind.reducing n).evalUnfiltered (K := P2.GL) v = evalF (.reducing n) v) ∧
    (∀ n v, (GateKind.reducingExt n).evalUnfiltered (K := P2.GL) v = evalF (.reducingExt n) v) :=
  ⟨fun _ => evalGL _, fun _ => evalGL _, fun _ => evalGL _, fun _ _ => evalGL _, fun _ => evalGL _,
    fun _ => evalGL _, evalGL _, fun _ _ _ => evalGL _, fun _ => evalGL _, fun _ => evalGL _⟩

theorem arithmetic_generate_sat (n : Nat) (consts wires pih : Array P2.GL) :
    ∀ c ∈ (GateKind.arithmetic n).evalUnfiltered (genRow (.arithmetic n) consts wires pih),
      c = 0 := by
  rw [evalGL]
  exact (Lemmas.C07.arithmetic_sat_iff n _).2 (arithmetic_generate_spec n consts wires).2.1

theorem arithmeticExt_generate_sat (n : Nat) (consts wires pih : Array P2.GL) :
    ∀ c ∈ (GateKind.arithmeticExt n).evalUnfiltered (genRow (.arithmeticExt n) consts wires pih),
      c = 0 := by
  rw [evalGL]
  exact (arithmeticExt_generate_spec n consts wires pih).2

theorem mulExt_generate_sat (n : Nat) (consts wires pih : Array P2.GL) :
    ∀ c ∈ (GateKind.mulExt n).evalUnfiltered (genRow (.mulExt n) consts wires pih), c = 0 := by
  rw [evalGL]
  exact (mulExt_generate_spec n consts wires pih).2

/-- contract: the canonical value of the sum wire is `< b^l` -/
theorem baseSum_generate_sat (b l : Nat) (consts wires pih : Array P2.GL)
    (hs : ((wires ++ Array.replicate (1 + l - wires.size) 0)[0]!).val < b ^ l) :
    ∀ c ∈ (GateKind.baseSum b l).evalUnfiltered (genRow (.baseSum b l) consts wires pih), c = 0 :=
  Lemmas.C07.baseSum_generate_sat b l consts wires pih hs

/-- over `GL` with `b^l ≤ p` the limbs of a satisfying row are unique -/
theorem baseSum_sat_unique_GL (b l : Nat) (hbl : b ^ l ≤ GLP) (v : EvalVars P2.GL)
    (hs : (v.wires[0]!).val < b ^ l) (hsat : Sat (.baseSum b l) v) :
    ∀ i, i < l → v.wires[1 + i]! = ((((v.wires[0]!).val / b ^ i) % b : ℕ) : P2.GL) :=
  have : CharP P2.GL GLP := ZMod.charP GLP
  baseSum_sat_unique b l _ hs (natCast_inj_of_charP GLP (b ^ l) (Or.inl hbl)) v hsat
    (ZMod.natCast_zmod_val (n := GLP) _).symm

/-- contract: power bits boolean -/
theorem exponentiation_generate_sat (n : Nat) (consts wires pih : Array P2.GL)
    (hb : ∀ i, i < n → wires[1 + i]! = 0 ∨ wires[1 + i]! = 1) :
    ∀ c ∈ (GateKind.exponentiation n).evalUnfiltered (genRow (.exponentiation n) consts wires pih),
      c = 0 := by
  rw [evalGL]
  exact exponentiation_generated_Sat n consts wires pih hb

/-- end to end: the generator writes `base ^ exponent` into the output column -/
theorem exponentiation_generate_value (n : Nat) (hn : 1 ≤ n) (consts wires : Array P2.GL)
    (hb : ∀ i, i < n → wires[1 + i]! = 0 ∨ wires[1 + i]! = 1) :
    ((GateKind.exponentiation n).generate consts wires)[1 + n]! =
      wires[0]! ^ (∑ j ∈ Finset.range n, (if wires[1 + j]! = 1 then 1 else 0) * 2 ^ j) := by
  obtain ⟨-, hin, -, -⟩ := exponentiation_genRow_spec n consts wires consts
  have h := exponentiation_semantics n hn (genRow (.exponentiation n) consts wires consts)
    (fun i hi => by rw [hin (1 + i) (by omega)]; exact hb i hi)
    (exponentiation_generated_Sat n consts wires consts hb)
  have hbit : ∀ j ∈ Finset.range n,
      expBitVal (genRow (.exponentiation n) consts wires consts) j * 2 ^ j =
        (if wires[1 + j]! = 1 then 1 else 0) * 2 ^ j := fun j hj => by
    unfold expBitVal
    rw [hin (1 + j) (by have := Finset.mem_range.1 hj; omega)]
  rw [hin 0 (by omega), Finset.sum_congr rfl hbit] at h
  exact h

theorem reducing_generate_sat (n : Nat) (consts wires pih : Array P2.GL) :
    ∀ c ∈ (GateKind.reducing n).evalUnfiltered (genRow (.reducing n) consts wires pih), c = 0 := by
  rw [evalGL]
  exact (reducing_gen n consts wires pih).2

theorem reducingExt_generate_sat (n : Nat) (consts wires pih : Array P2.GL) :
    ∀ c ∈ (GateKind.reducingExt n).evalUnfiltered (genRow (.reducingExt n) consts wires pih),
      c = 0 := by
  rw [evalGL]
  exact (reducingExt_gen n consts wires pih).2

theorem raPad_eq (bits copies extra : Nat) (wires : Array P2.GL) :
    raPad bits copies extra wires =
      wires ++ Array.replicate ((GateKind.randomAccess bits copies extra).numWires - wires.size) 0 :=
  rfl

/-- contracts: every access index `< 2^bits`; the extra-constant wires (not written by this
generator) already hold the constants -/
theorem randomAccess_generate_sat (bits copies extra : Nat) (consts wires pih : Array P2.GL)
    (hacc : ∀ c, c < copies →
      ((raPad bits copies extra wires)[raWireAccessIndex bits c]!).val < 2 ^ bits)
    (hextra : ∀ i, i < extra →
      (raPad bits copies extra wires)[raWireExtraConstant bits copies i]! = consts[i]!) :
    ∀ c ∈ (GateKind.randomAccess bits copies extra).evalUnfiltered
        (genRow (.randomAccess bits copies extra) consts wires pih), c = 0 := by
  rw [evalGL]
  obtain ⟨_, hu, hcl, hb⟩ := raGen_invariant bits copies extra (raPad bits copies extra wires)
    (raPad_size bits copies extra wires) hacc copies (Nat.le_refl _)
  rw [← generate_randomAccess bits copies extra consts wires] at hu hcl hb
  have hne_b : ∀ j, j < raNumRoutedWires bits copies extra →
      ∀ c i, c < copies → i < bits → j ≠ raWireBit bits copies extra i c :=
    fun j hj c i _ _ => raWireBit_ne_routed bits copies extra j hj i c
  refine (randomAccess_sat_iff bits copies extra _).2 ⟨?_, ?_⟩
  · intro c hc
    refine ⟨((raPad bits copies extra wires)[raWireAccessIndex bits c]!).val, hacc c hc, ?_, ?_, ?_⟩
    · show ((GateKind.randomAccess bits copies extra).generate consts wires)[_]! = _
      rw [hu _ (fun c' _ => raWireClaimedElement_ne_accessIndex bits c' c)
        (hne_b _ (raWireAccessIndex_lt bits copies extra c hc))]
      exact (ZMod.natCast_zmod_val (n := GLP) _).symm
    · intro i hi
      show ((GateKind.randomAccess bits copies extra).generate consts wires)[_]! = _
      rw [hb c i hc hi, ofNat_GL]
    · show ((GateKind.randomAccess bits copies extra).generate consts wires)[_]!
        = ((GateKind.randomAccess bits copies extra).generate consts wires)[_]!
      rw [hcl c hc, hu _ (fun c' _ => raWireClaimedElement_ne_listItem bits _ c' c (hacc c hc))
        (hne_b _ (raWireListItem_lt bits copies extra _ c hc (hacc c hc)))]
  · intro i hi
    show ((GateKind.randomAccess bits copies extra).generate consts wires)[_]! = consts[i]!
    rw [hu _ (fun c' hc' => ?_) (hne_b _ (raWireExtraConstant_lt bits copies extra i hi)), hextra i hi]
    have := raWireClaimedElement_lt_start bits copies c' hc'
    simp only [raWireExtraConstant]; omega

/-- non-vacuity: a concrete row (`bits = 2`, one copy, one extra constant; access index 2) -/
example : ∀ c ∈ (GateKind.randomAccess 2 1 1).evalUnfiltered
    (genRow (.randomAccess 2 1 1) #[5] #[2, 0, 10, 11, 12, 13, 5] #[]), c = 0 :=
  randomAccess_generate_sat 2 1 1 _ _ _ (by decide) (by decide)

theorem poseidonMds_generate_sat (consts wires pih : Array P2.GL) :
    ∀ c ∈ GateKind.poseidonMds.evalUnfiltered (genRow .poseidonMds consts wires pih), c = 0 := by
  rw [evalGL]
  exact (poseidonMds_generate_spec consts wires pih).2

/-- `PoseidonGenerator`: the row produced by `genPoseidon` satisfies all 123 constraints of the
Poseidon gate, for every input row whose swap wire is boolean (the gate's contract), directly for
the model's executable evaluator -/
theorem poseidon_generate_sat (consts wires pih : Array P2.GL)
    (hswap : let ws := wires ++ Array.replicate (GateKind.poseidon.numWires - wires.size) 0
      ws[posWireSwap]! = 0 ∨ ws[posWireSwap]! = 1) :
    ∀ c ∈ GateKind.poseidon.evalUnfiltered
      (⟨consts, GateKind.poseidon.generate consts wires, pih⟩ : EvalVars P2.GL), c = 0 :=
  poseidon_generate_sat_field consts wires pih hswap

/-- non-vacuity: the all-zero input row (swap = 0) meets the contract -/
example : ∀ c ∈ GateKind.poseidon.evalUnfiltered
    (⟨#[], GateKind.poseidon.generate #[] #[], #[]⟩ : EvalVars P2.GL), c = 0 :=
  poseidon_generate_sat #[] #[] #[] (by
    intro ws
    left
    have h : GateKind.poseidon.numWires = 135 := rfl
    simp [ws, posWireSwap, spongeWidth, Gen.SPONGE_RATE, Gen.SPONGE_CAPACITY, h])

/-! ### C07 on the model's own generated row -/

theorem arithmetic_C07On (n : Nat) (consts wires pih : Array P2.GL) :
    C07On (.arithmetic n) consts wires pih :=
  C07On.intro _ _ _ _ (arithmetic_generate_sat n consts wires pih) fun k hk => by
    obtain ⟨i, hi, rfl⟩ := List.mem_map.1 hk
    have hi := List.mem_range.1 hi
    rw [(arithmetic_generate_spec n consts wires).1]
    exact ⟨Nat.lt_of_lt_of_le (block_lt (by decide) hi) (Nat.mul_comm n 4 ▸ size_pad_ge wires _),
      i, fun v' hd h0 => arithmetic_pinned n _ v' i hi hd h0⟩

theorem arithmeticExt_C07On (n : Nat) (consts wires pih : Array P2.GL) :
    C07On (.arithmeticExt n) consts wires pih :=
  (arithmeticExt_algOut n).c07On consts wires pih (arithmeticExt_generate_spec n consts wires pih)
    fun _ hk => mem_flatMap_pair (s := 8) (o := 6) hk

theorem mulExt_C07On (n : Nat) (consts wires pih : Array P2.GL) :
    C07On (.mulExt n) consts wires pih :=
  (mulExt_algOut n).c07On consts wires pih (mulExt_generate_spec n consts wires pih)
    fun _ hk => mem_flatMap_pair (s := 6) (o := 4) hk

/-- base-sum gate: contract `sum < b^l`; side condition `l ≤ 1 ∨ ¬ p ∣ b` (i.e. `(b : GL) ≠ 0`
whenever a limb of index `≥ 1` exists) -/
theorem baseSum_C07On (b l : Nat) (consts wires pih : Array P2.GL)
    (hb : l ≤ 1 ∨ ¬ GLP ∣ b)
    (hs : ((wires ++ Array.replicate (1 + l - wires.size) 0)[0]!).val < b ^ l) :
    C07On (.baseSum b l) consts wires pih := Lemmas.C07.baseSum_C07On b l consts wires pih hb hs

/-- in particular for every base `0 < b < p` -/
theorem baseSum_C07On' (b l : Nat) (consts wires pih : Array P2.GL) (hb : 0 < b) (hbp : b < GLP)
    (hs : ((wires ++ Array.replicate (1 + l - wires.size) 0)[0]!).val < b ^ l) :
    C07On (.baseSum b l) consts wires pih :=
  Lemmas.C07.baseSum_C07On' b l consts wires pih hb hbp hs

/-- … and the side condition is necessary: for a base divisible by `p` and at least two limbs C07
FAILS on the generated row (the sum constraint is blind to limb 1 and every field element passes
the range check `∏_{e<b}(x − e)`) -/
theorem baseSum_C07On_fails (b l : Nat) (consts wires pih : Array P2.GL)
    (hl : 2 ≤ l) (hdvd : GLP ∣ b)
    (hs : ((wires ++ Array.replicate (1 + l - wires.size) 0)[0]!).val < b ^ l) :
    ¬ C07On (.baseSum b l) consts wires pih :=
  Lemmas.C07.baseSum_C07On_fails b l consts wires pih hl hdvd hs

example : C07On (.baseSum 2 3) #[] #[5] #[] :=
  Lemmas.C07.baseSum_C07On' 2 3 #[] #[5] #[] (by decide) (by decide) (by decide)

/-- exponentiation gate, every `n`; contract: power bits boolean -/
theorem exponentiation_C07On (n : Nat) (consts wires pih : Array P2.GL)
    (hb : ∀ i, i < n → wires[1 + i]! = 0 ∨ wires[1 + i]! = 1) :
    C07On (.exponentiation n) consts wires pih :=
  C07On.intro _ _ _ _ (exponentiation_generate_sat n consts wires pih hb) fun k hk => by
    have hsz : 2 + 2 * n ≤ ((GateKind.exponentiation n).generate consts wires).size :=
      (exponentiation_genRow_spec n consts wires consts).1
    rcases (exponentiation_generatedWires n k).1 hk with rfl | ⟨i, hi, rfl⟩
    · exact ⟨by omega, n, fun v' hd h0 => exponentiation_pinned_output n _ v' hd h0⟩
    · exact ⟨by omega, i, fun v' hd h0 => exponentiation_pinned_intermediate n _ v' i hi hd h0⟩

example : C07On (.exponentiation 2) #[] #[3, 1, 1] #[] :=
  exponentiation_C07On 2 #[] #[3, 1, 1] #[] (by decide)

example : C07On (.exponentiation 2) #[] #[3, 1, 1] #[] :=
  exponentiation_C07On 2 _ _ _ (by decide)

theorem reducing_C07On (n : Nat) (consts wires pih : Array P2.GL) :
    C07On (.reducing n) consts wires pih :=
  C07On.intro _ _ _ _ (reducing_generate_sat n consts wires pih) fun k hk => by
    obtain ⟨i, comp, hi, hc, rfl⟩ := (reducing_generatedWires_mem n k).1 hk
    have hsz := (reducing_gen n consts wires pih).1
    have := (redWiresAccs_layout n).range i hi
    simp only [GateKind.numWires] at hsz
    exact ⟨by omega, 2 * i + comp, fun v' hd h0 => reducing_pinned n _ v' i comp hi hc hd h0⟩

theorem reducingExt_C07On (n : Nat) (consts wires pih : Array P2.GL) :
    C07On (.reducingExt n) consts wires pih :=
  C07On.intro _ _ _ _ (reducingExt_generate_sat n consts wires pih) fun k hk => by
    obtain ⟨i, comp, hi, hc, rfl⟩ := (reducingExt_generatedWires_mem n k).1 hk
    have hsz := (reducingExt_gen n consts wires pih).1
    have := (redExtWiresAccs_layout n).range i hi
    simp only [GateKind.numWires] at hsz
    exact ⟨by omega, 2 * i + comp, fun v' hd h0 => reducingExt_pinned n _ v' i comp hi hc hd h0⟩

/-- random-access gate; contracts as in `randomAccess_generate_sat` -/
theorem randomAccess_C07On (bits copies extra : Nat) (consts wires pih : Array P2.GL)
    (hacc : ∀ c, c < copies →
      ((raPad bits copies extra wires)[raWireAccessIndex bits c]!).val < 2 ^ bits)
    (hextra : ∀ i, i < extra →
      (raPad bits copies extra wires)[raWireExtraConstant bits copies i]! = consts[i]!) :
    C07On (.randomAccess bits copies extra) consts wires pih :=
  C07On.intro _ _ _ _ (randomAccess_generate_sat bits copies extra consts wires pih hacc hextra)
    fun k hk => by
    have hsz := randomAccess_generate_size bits copies extra consts wires
    rcases (randomAccess_generatedWires bits copies extra k).1 hk with
      ⟨c, hc, rfl⟩ | ⟨c, i, hc, hi, rfl⟩
    · have hlt := raWireClaimedElement_lt bits copies extra c hc
      exact ⟨by omega, (bits + 2) * c + bits + 1, fun v' hd h0 =>
        randomAccess_pinned_claimed bits copies extra _ v' c hc hd h0⟩
    · have hlt := raWireBit_lt bits copies extra i c hi hc
      exact ⟨by omega, (bits + 2) * c + bits, fun v' hd h0 =>
        randomAccess_pinned_bit bits copies extra _ v' c i hc hi (Or.inl ra_two_ne_zero_GL) hd h0⟩

example : C07On (.randomAccess 2 1 1) #[5] #[2, 0, 10, 11, 12, 13, 5] #[] :=
  randomAccess_C07On 2 1 1 #[5] #[2, 0, 10, 11, 12, 13, 5] #[] (by decide) (by decide)

example : C07On (.randomAccess 2 1 1) #[5] #[2, 0, 10, 11, 12, 13, 5] #[] :=
  randomAccess_C07On 2 1 1 _ _ _ (by decide) (by decide)

theorem poseidonMds_C07On (consts wires pih : Array P2.GL) :
    C07On .poseidonMds consts wires pih :=
  poseidonMds_algOut.c07On consts wires pih (poseidonMds_generate_spec consts wires pih)
    poseidonMds_mem_generatedWires

end OverGL

/-! ## degrees.  Semantic notion: `DegLE d f` = "`f : K → K` is a polynomial function of degree
`≤ d`"; `Line V` = "`V : K → EvalVars K` is a family of rows in which every wire, constant and
public-input-hash entry is a polynomial of degree ≤ 1 in the parameter".  A polynomial in many
variables has total degree `≤ d` iff its restriction to every line has degree `≤ d` (large fields),
so "`t ↦ con g (V t) i` is `DegLE g.degree` for every line `V`" says constraint `i` has degree at
most the declared one.  Side conditions (`DegreeOK`): `1 ≤ base` for `baseSum`, `2 ≤ degree` for
`cosetInterpolation` — both necessary (`baseSum_zero_degree_fails`,
`cosetInterpolation_low_degree_fails`); the Rust constructors exclude them
(`CosetInterpolationGate::with_max_degree` asserts `max_degree > 1`; base 0 is degenerate). -/

section Degrees
variable {K : Type} [Field K] [DecidableEq K] [Inhabited K]

/-- `BaseSumGate<B>`: the sum constraint (index 0) has degree 1 and the range checks have degree `B`,
whatever the base; so every constraint has degree ≤ `B` PROVIDED `1 ≤ B` -/
theorem baseSum_degree (V : K → EvalVars K) (hV : Line V) (b l : Nat) (hb : 1 ≤ b) (i : Nat) :
    DegLE b (fun t => con (.baseSum b l) (V t) i) := by
  cases i with
  | zero =>
    exact (((DegLE.finset_sum _ (fun i t => (V t).wires[1 + i]! * (b : K) ^ i)
      fun i _ => (hV.wires _).mul_const _).sub (hV.wires 0)).mono hb).congr
        fun t => Lemmas.C07.baseSum_con0 b l (V t)
  | succ i =>
    exact (DegLE.ite (i < l) ((DegLE.finset_prod (Finset.range b) (fun d t => (V t).wires[1 + i]! - (d : K))
      fun d _ => (hV.wires _).sub (DegLE.natCast d)).mono (by rw [Finset.card_range, Nat.mul_one]))
      DegLE.zero).congr fun t => by rw [Nat.add_comm i 1, baseSum_con_succ']

/-- every constraint of every gate kind has degree at most `GateKind.degree` along every line -/
theorem gate_degree (g : GateKind) (hg : DegreeOK g) (V : K → EvalVars K) (hV : Line V) (i : Nat) :
    DegLE g.degree (fun t => con g (V t) i) := by
  cases g with
  | arithmetic n => exact (arithmetic_degree_list V hV n).2 i
  | arithmeticExt n => exact (arithmeticExt_degree_list V hV n).2 i
  | mulExt n => exact (mulExt_degree_list V hV n).2 i
  | baseSum b l => exact baseSum_degree V hV b l hg i
  | constant n => exact (constant_degree_list V hV n).2 i
  | cosetInterpolation bits d ws => exact (cosetInterpolation_degree_list V hV bits d ws hg).2 i
  | exponentiation n => exact (exponentiation_degree_list V hV n).2 i
  | lookup n => exact DegLE.zero
  | lookupTable n => exact DegLE.zero
  | noop => exact DegLE.zero
  | poseidon => exact (poseidon_degree_list V hV).2 i
  | poseidonMds => exact (poseidonMds_degree_list V hV).2 i
  | publicInput => exact (publicInput_degree_list V hV).2 i
  | randomAccess b c e => exact (randomAccess_degree_list V hV b c e).2 i
  | reducing n => exact (reducing_degree_list V hV n).2 i
  | reducingExt n => exact (reducingExt_degree_list V hV n).2 i

theorem degreeOK_iff (g : GateKind) : DegreeOK g ↔
    match g with
    | .baseSum b _ => 1 ≤ b
    | .cosetInterpolation _ d _ => 2 ≤ d
    | _ => True := by
  cases g <;> exact Iff.rfl

theorem arithmetic_degree (V : K → EvalVars K) (hV : Line V) (n i : Nat) :
    DegLE 3 (fun t => con (.arithmetic n) (V t) i) := gate_degree (.arithmetic n) trivial V hV i

theorem constant_degree (V : K → EvalVars K) (hV : Line V) (n i : Nat) :
    DegLE 1 (fun t => con (.constant n) (V t) i) := gate_degree (.constant n) trivial V hV i

theorem publicInput_degree (V : K → EvalVars K) (hV : Line V) (i : Nat) :
    DegLE 1 (fun t => con .publicInput (V t) i) := gate_degree .publicInput trivial V hV i

theorem arithmeticExt_degree (V : K → EvalVars K) (hV : Line V) (n i : Nat) :
    DegLE 3 (fun t => con (.arithmeticExt n) (V t) i) := gate_degree (.arithmeticExt n) trivial V hV i

theorem mulExt_degree (V : K → EvalVars K) (hV : Line V) (n i : Nat) :
    DegLE 3 (fun t => con (.mulExt n) (V t) i) := gate_degree (.mulExt n) trivial V hV i

/-- the notion is not vacuous: over an infinite field `t ↦ t²` is not of degree ≤ 1 … -/
theorem degLE_not_sq [Infinite K] : ¬ DegLE 1 (fun t : K => t ^ 2) := DegLE.not_pow 1

/-- … lines exist through every row (`affineRow`: entry `(a, b)` moves as `a + t·b`, so there is a line
through any two rows of the same shape), scaling a row is a line … -/
theorem affineRow_line (cs ws ps : Array (K × K)) : Line (affineRow cs ws ps) :=
  ⟨DegLE.getElem!_map ws _ fun p => DegLE.affine p.1 p.2,
   DegLE.getElem!_map cs _ fun p => DegLE.affine p.1 p.2,
   DegLE.getElem!_map ps _ fun p => DegLE.affine p.1 p.2⟩

theorem scale_line (v : EvalVars K) :
    Line (fun t => (⟨v.constants.map (t * ·), v.wires.map (t * ·), v.pih.map (t * ·)⟩ : EvalVars K)) :=
  ⟨DegLE.getElem!_map v.wires _ fun x => DegLE.id.mul_const x,
   DegLE.getElem!_map v.constants _ fun x => DegLE.id.mul_const x,
   DegLE.getElem!_map v.pih _ fun x => DegLE.id.mul_const x⟩

/-- … and the declared degree 3 of the arithmetic gate is attained: along the line `w₀ = w₁ = c₀ = t`
(everything else `0`) constraint 0 is `−t³` -/
theorem arithmetic_degree_tight [Infinite K] :
    ∃ V : K → EvalVars K, Line V ∧ ¬ DegLE 2 (fun t => con (.arithmetic 1) (V t) 0) := by
  refine ⟨affineRow #[(0, 1), (0, 0)] #[(0, 1), (0, 1), (0, 0), (0, 0)] #[], affineRow_line _ _ _,
    fun h => DegLE.not_pow 2 (h.neg.congr fun t => ?_)⟩
  rw [arithmetic_con, if_pos Nat.one_pos]
  simp only [affineRow, getElem!_map]
  show t ^ 3 = -((0 + t * 0) - ((0 + t * 1) * (0 + t * 1) * (0 + t * 1) + (0 + t * 0) * (0 + t * 0)))
  ring

/-- base 0: the declared degree `0` is NOT an upper bound: along the line `w₀ = t` constraint 0
(`reduce_with_powers(limbs, 0) − sum`) is `−t`, not constant.  Holds over every field.  Hence the
hypothesis `1 ≤ b` in `baseSum_degree`. -/
theorem baseSum_zero_degree_fails :
    ∃ V : K → EvalVars K, Line V ∧
      ¬ DegLE (GateKind.baseSum 0 1).degree (fun t => con (.baseSum 0 1) (V t) 0) := by
  refine ⟨affineRow #[] #[(0, 1), (0, 0)] #[], affineRow_line _ _ _, fun h => ?_⟩
  obtain ⟨c, hc⟩ := DegLE.zero_iff.1 h
  have e : ∀ t : K, con (.baseSum 0 1) (affineRow #[] #[(0, 1), (0, 0)] #[] t) 0 = -t := fun t => by
    rw [Lemmas.C07.baseSum_con0, Finset.sum_range_one]
    simp only [affineRow, getElem!_map]
    show (0 + t * 0) * _ - (0 + t * 1) = -t
    ring
  exact one_ne_zero (neg_injective (((e 1).symm.trans ((hc 1).trans (hc 0).symm)).trans (e 0)))

/-- coset interpolation with declared degree 1: the first constraint `evaluation_point₀ − shifted₀·shift`
is quadratic along the line `shift = shifted₀ = t`: the side condition `2 ≤ degree` is needed -/
theorem cosetInterpolation_low_degree_fails [Infinite K] :
    ∃ V : K → EvalVars K, Line V ∧
      ¬ DegLE (GateKind.cosetInterpolation 0 1 []).degree
        (fun t => con (.cosetInterpolation 0 1 []) (V t) 0) := by
  refine ⟨affineRow #[] #[(0, 1), (0, 0), (0, 0), (0, 0), (0, 0), (0, 0), (0, 0), (0, 1), (0, 0)] #[],
    affineRow_line _ _ _, fun h => DegLE.not_pow 1 (h.neg.congr fun t => ?_)⟩
  rw [cosetInterpolation_con0]
  simp only [affineRow, getElem!_map]
  show t ^ 2 = -((0 + t * 0) - (0 + t * 1) * (0 + t * 1))
  ring

end Degrees

/-! ## non-vacuity: concrete rows over `ℚ` meeting the hypotheses of the theorems above
(more in the `P2/Lemmas/C07*.lean` files: exponentiation, base-sum, random-access rows) -/

section Examples

/-- `replace_pins_sub` on a concrete row: constraint `w_2 − w_0·w_1`, row `(2, 3, 6)`, replace `w_2` by 7 -/
example : ((#[2, 3, 6] : Array ℚ).set! 2 7)[2]! -
    (fun ws : Array ℚ => ws[0]! * ws[1]!) ((#[2, 3, 6] : Array ℚ).set! 2 7) ≠ 0 :=
  replace_pins_sub (#[2, 3, 6] : Array ℚ) 2 (by decide) (fun ws => ws[0]! * ws[1]!)
    (fun x => by
      show ((#[2, 3, 6] : Array ℚ).set! 2 x)[0]! * ((#[2, 3, 6] : Array ℚ).set! 2 x)[1]! = _
      rw [getElem!_set!_ne _ _ _ _ (by decide), getElem!_set!_ne _ _ _ _ (by decide)])
    (by show (6 : ℚ) - 2 * 3 = 0; norm_num) 7 (by show (7 : ℚ) ≠ 6; norm_num)

/-- arithmetic gate, one operation, constants (2, 3): `5·7·2 + 11·3 = 103` -/
example : Sat (.arithmetic 1) (⟨#[2, 3], #[5, 7, 11, 103], #[]⟩ : EvalVars ℚ) :=
  (arithmetic_sat_iff 1 _).2 fun i hi => by
    obtain rfl := Nat.lt_one_iff.1 hi
    show (103 : ℚ) = 5 * 7 * 2 + 11 * 3
    norm_num

/-- … and the hypotheses of the pinning theorem are met by replacing the output by 104 -/
example :
    con (.arithmetic 1) (setW (⟨#[2, 3], #[5, 7, 11, 103], #[]⟩ : EvalVars ℚ) 3 104) 0 ≠ 0 :=
  arithmetic_pinned 1 _ _ 0 Nat.one_pos
    (setW_differs _ 3 104 (by decide) (by show (104 : ℚ) ≠ 103; norm_num)) (by
      rw [arithmetic_con, if_pos Nat.one_pos]
      show (103 : ℚ) - (5 * 7 * 2 + 11 * 3) = 0
      norm_num)

/-- arithmetic-extension gate: `(1+2X)(3+4X)·1 + (5+6X)·2 = 69 + 22X` modulo `X² − 7` -/
example : Sat (.arithmeticExt 1) (⟨#[1, 2], #[1, 2, 3, 4, 5, 6, 69, 22], #[]⟩ : EvalVars ℚ) :=
  (arithmeticExt_sat_iff 1 _).2 fun i hi => by
    obtain rfl := Nat.lt_one_iff.1 hi
    show (69 : ℚ) = (1 * 3 + 7 * (2 * 4)) * 1 + 5 * 2 ∧ (22 : ℚ) = (1 * 4 + 2 * 3) * 1 + 6 * 2
    norm_num

/-- multiplication-extension gate: `(1+2X)(3+4X)·2 = 118 + 20X` -/
example : Sat (.mulExt 1) (⟨#[2], #[1, 2, 3, 4, 118, 20], #[]⟩ : EvalVars ℚ) :=
  (mulExt_sat_iff 1 _).2 fun i hi => by
    obtain rfl := Nat.lt_one_iff.1 hi
    show (118 : ℚ) = (1 * 3 + 7 * (2 * 4)) * 2 ∧ (20 : ℚ) = (1 * 4 + 2 * 3) * 2
    norm_num

/-- exponentiation gate: the hypotheses of the pinning theorems are satisfiable (intermediate 0 of
the satisfying row `[3, 1, 1, 27, 3, 27]` replaced by 5) -/
example : con (.exponentiation 2) (setW (⟨#[], #[3, 1, 1, 27, 3, 27], #[]⟩ : EvalVars ℚ) 4 5) 0 ≠ 0 :=
  exponentiation_pinned_intermediate 2 _ _ 0 (by omega) (setW_differs _ 4 5 (by decide) (by decide))
    (by decide +kernel)

example : Sat (.constant 2) (⟨#[4, 9], #[4, 9], #[]⟩ : EvalVars ℚ) :=
  (constant_sat_iff 2 _).2 fun _ _ => rfl

example : Sat .publicInput (⟨#[], #[1, 2, 3, 4], #[1, 2, 3, 4]⟩ : EvalVars ℚ) :=
  (publicInput_sat_iff _).2 fun _ _ => rfl

end Examples

end P2.Props.C07
