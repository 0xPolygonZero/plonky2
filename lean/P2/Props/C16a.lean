/-
C16 (part a): `decompress_merkle_proofs ∘ compress_merkle_proofs` is the identity on honest Merkle
multi-proofs, for every tree height, cap height and list of queried indices — including lists in
which several queries share an index. Model: `P2.Model.PathCompression`.
-/
import P2.Lemmas.PathCompression
import P2.Props.C12
namespace P2.Props.C16
open P2.Merkle P2.PathCompression P2.Lemmas.Merkle P2.Lemmas.PathCompression

variable {L D : Type}

/-- **Round trip against abstract node digests.** `node` gives the digest of every heap node
(leaf `i` is node `i + 2^height`, node `x` has children `2x`, `2x+1`); the honest proof of leaf `i`
is `honest node height capHeight i = [node (((i + 2^height) >> j) ^ 1) | j < height − capHeight]`.
Compressing the honest proofs of ANY index list (duplicates allowed) and decompressing gives the
proofs back. -/
theorem merkle_roundtrip_node (h : Hasher L D) (height capHeight : Nat) (hc : capHeight ≤ height)
    (leafAt : Nat → L) (node : Nat → D)
    (hleaf : ∀ i, i < 2 ^ height → node (i + 2 ^ height) = h.hashLeaf (leafAt i))
    (hnode : ∀ x, 1 ≤ x → x < 2 ^ height → node x = h.two (node (2 * x)) (node (2 * x + 1)))
    (is : List Nat) (his : ∀ i ∈ is, i < 2 ^ height) :
    decompress h (is.map leafAt) is
        (compress height capHeight is (is.map (honest node height capHeight))) height capHeight
      = some (is.map (honest node height capHeight)) :=
  P2.Lemmas.C16.roundtrip_firstwins h height capHeight leafAt node hleaf hnode is his _
    (compress_honest_length node height capHeight is his) (fun _ _ _ => rfl)

/-- For the tree built by `MerkleTree::new` over `2^height` leaves, any list `is` of leaf
indices (repeats allowed), `qleaves` the queried leaves and `proofs` the outputs of
`merkle_tree_prove` for these indices: decompressing the compressed proofs returns `proofs`. -/
theorem merkle_roundtrip (h : Hasher L D) (height capHeight : Nat) (leaves : List L)
    (hl : leaves.length = 2 ^ height) (hc : capHeight ≤ height)
    (is : List Nat) (his : ∀ i ∈ is, i < 2 ^ height)
    (qleaves : List L) (hq : qleaves.map some = is.map (leaves[·]?))
    (proofs : List (List D))
    (hproofs : proofs.map some = is.map fun i =>
      merkleTreeProve i (2 ^ height) height capHeight (build h height capHeight leaves).1) :
    decompress h qleaves is (compress height capHeight is proofs) height capHeight
      = some proofs := by
  have hpos : 0 < leaves.length := by rw [hl]; exact Nat.two_pow_pos _
  haveI : Inhabited L := ⟨leaves[0]⟩
  haveI : Inhabited D := ⟨h.hashLeaf default⟩
  have hget : ∀ i, i < 2 ^ height → leaves[i]? = some (leaves[i]?.getD default) := fun i hi => by
    rw [List.getElem?_eq_getElem (hl ▸ hi)]; rfl
  rw [eq_map_of_map_some hq fun i hi => hget i (his i hi),
    eq_map_of_map_some hproofs fun i hi =>
      merkleTreeProve_eq_honest h height capHeight leaves hl hc i (his i hi)]
  refine merkle_roundtrip_node h height capHeight hc _ _ (fun i hi => ?_)
    (nodeOf_two h height leaves hl) is his
  rw [nodeOf_leaf h height leaves hl i hi]
  exact congrArg h.hashLeaf (Option.some.inj ((List.getElem?_eq_getElem _).symm.trans (hget i hi)))

/-- The duplicate-free special case of `merkle_roundtrip` (which does not need `is.Nodup`). -/
theorem merkle_roundtrip_nodup (h : Hasher L D) (height capHeight : Nat) (leaves : List L)
    (hl : leaves.length = 2 ^ height) (hc : capHeight ≤ height)
    (is : List Nat) (his : ∀ i ∈ is, i < 2 ^ height) (_hnd : is.Nodup)
    (qleaves : List L) (hq : qleaves.map some = is.map (leaves[·]?))
    (proofs : List (List D))
    (hproofs : proofs.map some = is.map fun i =>
      merkleTreeProve i (2 ^ height) height capHeight (build h height capHeight leaves).1) :
    decompress h qleaves is (compress height capHeight is proofs) height capHeight
      = some proofs :=
  merkle_roundtrip h height capHeight leaves hl hc is his qleaves hq proofs hproofs

/-- non-vacuity: toy hasher, 8 leaves, cap height 1, queries `[5, 2, 5, 3]` (a repeated index and
a sibling pair): compression really drops siblings and the round trip restores the proofs. -/
example :
    let leaves := [3, 5, 7, 9, 11, 13, 15, 17]
    let digests := (build P2.Props.C12.toy 3 1 leaves).1
    let proofs : List (List Nat) := [[12, 93], [10, 33], [12, 93], [8, 33]]
    ([5, 2, 5, 3].map fun i => merkleTreeProve i 8 3 1 digests) = proofs.map some ∧
    compress 3 1 [5, 2, 5, 3] proofs = [[12, 93], [33], [], []] ∧
    decompress P2.Props.C12.toy [13, 7, 13, 9] [5, 2, 5, 3] [[12, 93], [33], [], []] 3 1
      = some proofs := by decide

end P2.Props.C16
