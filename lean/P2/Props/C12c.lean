/-
C12 (batch Merkle trees): property theorems about `P2.Model.BatchMerkle` for an arbitrary hasher
and an arbitrary digest embedding `toVec` (`GenericHashOut::to_vec`).
(a) a batch verification with a single matrix is the plain verification;
(b) binding of batch openings (two accepted openings at the same index against the same cap with
    the same heights open the same rows of all matrices, or exhibit a collision);
(c) completeness for two matrices (every honest opening of a two-matrix tree is accepted), the
    two-matrix case of `P2.Props.C12d.batch_complete`.
-/
import P2.Model.Keccak
import P2.Props.C12d
namespace P2.Props.C12
open P2 P2.Merkle P2.BatchMerkle P2.Lemmas.Merkle

variable {D : Type}

/-- **(a)** `verify_merkle_proof_to_cap(leaf, i, cap, proof)` is defined in the code as
`verify_batch_merkle_proof_to_cap(&[leaf], &[proof.len()], i, cap, proof)`; on the model the two
agree for every hasher, every embedding, both overflow modes, every index, cap and proof. -/
theorem verifyBatch_single [DecidableEq D] (h : Hasher (List GL) D) (toVec : D → List GL)
    (ovf : Bool) (leaf : List GL) (index : Nat) (cap proof : List D) :
    verifyBatch h toVec ovf [leaf] [proof.length] index cap proof =
      verifyToCap h leaf index cap proof := by
  unfold verifyBatch verifyToCap
  simp only [List.length_cons, List.length_nil, ne_eq, not_true_eq_false, if_false, List.zip_cons_cons,
    List.zip_nil_right]
  rw [batchFold_nil h toVec ovf proof _ _ _ (Nat.le_refl _)]
  simp only [List.isEmpty_nil, Bool.not_true, Bool.false_eq_true, if_false]
  rfl

/-- the embedding hypothesis of the binding theorem: the field-element image of a digest produced
by `two`, followed by a row, determines both the digest and the row (true when `toVec` is injective
and all digests have the same number of field elements: `HashOut` ↦ 4, `BytesHash<N>` ↦ ⌈N/7⌉) -/
def EmbedsTwo (h : Hasher (List GL) D) (toVec : D → List GL) : Prop :=
  ∀ a b a' b' (r r' : List GL),
    toVec (h.two a b) ++ r = toVec (h.two a' b') ++ r' → h.two a b = h.two a' b' ∧ r = r'

/-- `current_height -= 1` without overflow checks -/
def decHt (ht : Nat) : Nat := if ht = 0 then usizeMax else ht - 1

/-- after a sibling: the row of the next matrix is hashed in when its height is reached -/
def absorb (h : Hasher (List GL) D) (toVec : D → List GL) (d : D) (ht : Nat) :
    List (List GL × Nat) → D × List (List GL × Nat)
  | (row, g) :: rest =>
    if ht = g then (h.hashLeaf (toVec d ++ row), rest) else (d, (row, g) :: rest)
  | [] => (d, [])

/-- one iteration of the loop of `verify_batch_merkle_proof_to_cap` -/
theorem batchFold_cons (h : Hasher (List GL) D) (toVec : D → List GL) (ovf : Bool) (cur : D)
    (ht idx : Nat) (rest : List (List GL × Nat)) (s : D) (sibs : List D) :
    batchFold h toVec ovf cur ht idx rest (s :: sibs) =
      if ht = 0 ∧ ovf = true then none else
        batchFold h toVec ovf
          (absorb h toVec (if idx % 2 = 1 then h.two s cur else h.two cur s) (decHt ht) rest).1
          (decHt ht) (idx / 2)
          (absorb h toVec (if idx % 2 = 1 then h.two s cur else h.two cur s) (decHt ht) rest).2
          sibs := by
  rw [batchFold]
  refine ite_congr rfl (fun _ => rfl) (fun _ => ?_)
  match rest with
  | [] => rfl
  | (row, g) :: rest =>
    show (if decHt ht = g then _ else _) = _
    by_cases hg : decHt ht = g
    · rw [if_pos hg, absorb, if_pos hg]; rfl
    · rw [if_neg hg, absorb, if_neg hg]; rfl

/-- two runs whose remaining heights agree fold in a row at the same iterations; if they reach the
same state they come from the same state, or two leaves with one hash -/
theorem absorb_inj (h : Hasher (List GL) D) (toVec : D → List GL) {d d' : D}
    (hd : ∀ r r', toVec d ++ r = toVec d' ++ r' → d = d' ∧ r = r') (ht : Nat) :
    ∀ {rest rest' : List (List GL × Nat)}, rest.map (·.2) = rest'.map (·.2) →
      (absorb h toVec d ht rest).2.map (·.2) = (absorb h toVec d' ht rest').2.map (·.2) ∧
      (absorb h toVec d ht rest = absorb h toVec d' ht rest' →
        (d = d' ∧ rest = rest') ∨ ∃ l l', l ≠ l' ∧ h.hashLeaf l = h.hashLeaf l')
  | [], [], _ => ⟨rfl, fun e => .inl ⟨congrArg Prod.fst e, rfl⟩⟩
  | (row, g) :: r, (row', g') :: r', hh => by
    obtain ⟨hg, hr⟩ := List.cons.inj hh
    subst hg
    rw [absorb, absorb]
    split
    · refine ⟨hr, fun e => ?_⟩
      obtain ⟨e1, e2⟩ := Prod.mk.inj e
      by_cases hv : toVec d ++ row = toVec d' ++ row'
      · obtain ⟨a, b⟩ := hd _ _ hv
        exact .inl ⟨a, by rw [b, e2]⟩
      · exact .inr ⟨_, _, hv, e1⟩
    · exact ⟨hh, fun e => .inl (Prod.mk.inj e)⟩

/-- the loop is injective in (current digest, rows still to fold in, siblings) — or a collision -/
theorem batchFold_inj (h : Hasher (List GL) D) (toVec : D → List GL) (ovf : Bool)
    (hemb : EmbedsTwo h toVec) :
    ∀ (π π' : List D) (cur cur' : D) (ht idx : Nat) (rest rest' : List (List GL × Nat))
      (d : D) (j j' : Nat),
      π.length = π'.length → rest.map (·.2) = rest'.map (·.2) →
      batchFold h toVec ovf cur ht idx rest π = some (d, j, []) →
      batchFold h toVec ovf cur' ht idx rest' π' = some (d, j', []) →
      (cur = cur' ∧ rest = rest' ∧ π = π') ∨ Collision h := by
  intro π
  induction π with
  | nil =>
    intro π' cur cur' ht idx rest rest' d j j' hl _ h1 h2
    cases π' with
    | cons _ _ => cases hl
    | nil =>
      cases h1; cases h2
      exact .inl ⟨rfl, rfl, rfl⟩
  | cons s π ih =>
    intro π' cur cur' ht idx rest rest' d j j' hl hh h1 h2
    cases π' with
    | nil => cases hl
    | cons s' π' =>
      rw [batchFold_cons] at h1 h2
      split at h1
      · cases h1
      next hz =>
        rw [if_neg hz] at h2
        have ha := absorb_inj h toVec (d := if idx % 2 = 1 then h.two s cur else h.two cur s)
          (d' := if idx % 2 = 1 then h.two s' cur' else h.two cur' s')
          (by split <;> exact hemb _ _ _ _) (decHt ht) hh
        rcases ih π' _ _ _ _ _ _ d j j' (Nat.succ.inj hl) ha.1 h1 h2 with ⟨e1, e2, e3⟩ | c
        · rcases ha.2 (Prod.ext e1 e2) with ⟨en, er⟩ | c
          · rcases step_inj h idx s s' cur cur' en with ⟨a, b⟩ | c
            · exact .inl ⟨a, er, by rw [b, e3]⟩
            · exact .inr (.inl c)
          · exact .inr (.inr c)
        · exact .inr c

theorem batchFold_index (h : Hasher (List GL) D) (toVec : D → List GL) (ovf : Bool) :
    ∀ (π : List D) (cur : D) (ht idx : Nat) (rest : List (List GL × Nat)) (r),
      batchFold h toVec ovf cur ht idx rest π = some r → r.2.1 = idx / 2 ^ π.length := by
  intro π
  induction π with
  | nil => intro cur ht idx rest r hr; cases hr; exact (Nat.div_one idx).symm
  | cons s π ih =>
    intro cur ht idx rest r hr
    rw [batchFold_cons] at hr
    split at hr
    · cases hr
    · rw [ih _ _ _ _ _ hr, List.length_cons, Nat.div_div_eq_div_mul, Nat.pow_succ, Nat.mul_comm]

theorem verifyBatch_ok [DecidableEq D] (h : Hasher (List GL) D) (toVec : D → List GL) (ovf : Bool)
    (data : List (List GL)) (heights : List Nat) (i : Nat) (cap π : List D)
    (hok : verifyBatch h toVec ovf data heights i cap π = .ok) :
    data.length = heights.length ∧
    ∃ d0 h0 rest c, data.zip heights = (d0, h0) :: rest ∧
      batchFold h toVec ovf (h.hashLeaf d0) h0 i rest π = some (c, i / 2 ^ π.length, []) ∧
      cap[i / 2 ^ π.length]? = some c := by
  unfold verifyBatch at hok
  by_cases hl : data.length = heights.length
  · refine ⟨hl, ?_⟩
    simp only [hl, ne_eq, not_true_eq_false, if_false] at hok
    cases hz : data.zip heights with
    | nil => simp [hz] at hok
    | cons p rest =>
      obtain ⟨d0, h0⟩ := p
      simp only [hz] at hok
      cases hf : batchFold h toVec ovf (h.hashLeaf d0) h0 i rest π with
      | none => simp [hf] at hok
      | some r =>
        obtain ⟨c, j, rest'⟩ := r
        have hj : j = i / 2 ^ π.length := batchFold_index h toVec ovf π _ _ _ _ _ hf
        subst hj
        simp only [hf] at hok
        cases rest' with
        | cons _ _ => simp at hok
        | nil =>
          simp only [List.isEmpty_nil, Bool.not_true, Bool.false_eq_true, if_false] at hok
          cases hc : cap[i / 2 ^ π.length]? with
          | none => simp [hc] at hok
          | some c' =>
            simp only [hc] at hok
            by_cases e : c = c'
            · exact ⟨d0, h0, rest, c, rfl, hf, by rw [e]⟩
            · simp [e] at hok
  · simp [hl] at hok

/-- **(b) Binding of batch openings.** Two batch openings accepted at the same index against the
same cap, for the same list of heights and with equally many siblings, open the same row of every
matrix with the same siblings — or the run exhibits an explicit collision of the compression
function or of the leaf hash. Holds for every hasher, every embedding satisfying `EmbedsTwo`, both
overflow modes, every cap, index, height list and proof length. -/
theorem verifyBatch_binds [DecidableEq D] (h : Hasher (List GL) D) (toVec : D → List GL)
    (ovf : Bool) (hemb : EmbedsTwo h toVec) (cap : List D) (i : Nat) (heights : List Nat)
    (data data' : List (List GL)) (π π' : List D) (hlen : π.length = π'.length)
    (h1 : verifyBatch h toVec ovf data heights i cap π = .ok)
    (h2 : verifyBatch h toVec ovf data' heights i cap π' = .ok) :
    (data = data' ∧ π = π') ∨ Collision h := by
  obtain ⟨l1, d0, h0, rest, c, z1, f1, c1⟩ := verifyBatch_ok h toVec ovf data heights i cap π h1
  obtain ⟨l2, d0', h0', rest', c', z2, f2, c2⟩ :=
    verifyBatch_ok h toVec ovf data' heights i cap π' h2
  have hs : ((d0, h0) :: rest).map (·.2) = ((d0', h0') :: rest').map (·.2) := by
    rw [← z1, ← z2, List.map_snd_zip (Nat.le_of_eq l1.symm), List.map_snd_zip (Nat.le_of_eq l2.symm)]
  obtain ⟨hh0, hrest⟩ := List.cons.inj hs
  cases hh0
  rw [← hlen, c1] at c2
  cases c2
  rcases batchFold_inj h toVec ovf hemb π π' _ _ _ _ rest rest' c _ _ hlen hrest f1 (hlen ▸ f2) with
    ⟨e1, e2, e3⟩ | col
  · by_cases hd : d0 = d0'
    · left
      refine ⟨?_, e3⟩
      rw [← List.map_fst_zip (Nat.le_of_eq l1), z1, hd, e2, ← z2, List.map_fst_zip (Nat.le_of_eq l2)]
    · right; right; exact ⟨d0, d0', hd, e1⟩
  · right; exact col

/-- Corollary in the property's words: another row of any matrix, or altered siblings, cannot also
be accepted unless a collision is exhibited. -/
theorem other_batch_opening_rejected [DecidableEq D] (h : Hasher (List GL) D)
    (toVec : D → List GL) (ovf : Bool) (hemb : EmbedsTwo h toVec) (cap : List D) (i : Nat)
    (heights : List Nat) (data data' : List (List GL)) (π π' : List D)
    (hlen : π.length = π'.length) (hne : data ≠ data' ∨ π ≠ π')
    (h1 : verifyBatch h toVec ovf data heights i cap π = .ok) :
    verifyBatch h toVec ovf data' heights i cap π' ≠ .ok ∨ Collision h := by
  by_cases h2 : verifyBatch h toVec ovf data' heights i cap π' = .ok
  · rcases verifyBatch_binds h toVec ovf hemb cap i heights data data' π π' hlen h1 h2 with
      ⟨a, b⟩ | c
    · rcases hne with hne | hne
      · exact absurd a hne
      · exact absurd b hne
    · right; exact c
  · left; exact h2

/-- an altered cap entry is rejected (no hash assumption needed) -/
theorem altered_batch_cap_rejected [DecidableEq D] (h : Hasher (List GL) D) (toVec : D → List GL)
    (ovf : Bool) (cap cap' : List D) (i : Nat) (heights : List Nat) (data : List (List GL))
    (π : List D) (h1 : verifyBatch h toVec ovf data heights i cap π = .ok)
    (hne : cap'[i / 2 ^ π.length]? ≠ cap[i / 2 ^ π.length]?) :
    verifyBatch h toVec ovf data heights i cap' π ≠ .ok := by
  intro h2
  obtain ⟨_, d0, h0, rest, c, z1, f1, c1⟩ := verifyBatch_ok h toVec ovf data heights i cap π h1
  obtain ⟨_, d0', h0', rest', c', z2, f2, c2⟩ := verifyBatch_ok h toVec ovf data heights i cap' π h2
  cases z1.symm.trans z2
  cases f1.symm.trans f2
  exact hne (c2.trans c1.symm)

/-- **(c) Completeness for two matrices.** For matrices of `2^k0 > 2^k1` rows and every cap height
`c ≤ k1`, `BatchMerkleTree::new` succeeds; for every leaf index `i < 2^k0`, `open_batch(i)` returns
`k0 − c` siblings, `values(i)` the rows `m0[i]`, `m1[i >> (k0 − k1)]`, and
`verify_batch_merkle_proof_to_cap` accepts them against the tree's cap (both overflow modes,
every hasher and embedding). -/
theorem batch_two_complete [DecidableEq D] (h : Hasher (List GL) D) (toVec : D → List GL)
    (ovf : Bool) (m0 m1 : List (List GL)) (k0 k1 c : Nat)
    (hl0 : m0.length = 2 ^ k0) (hl1 : m1.length = 2 ^ k1) (hk : k1 < k0) (hc : c ≤ k1)
    (i : Nat) (hi : i < 2 ^ k0) :
    ∃ digs cap π vals, batchBuild h toVec [m0, m1] c = some (digs, cap, [k0, k1]) ∧
      cap.length = 2 ^ c ∧
      batchOpen i [k0, k1] cap.length digs = some π ∧ π.length = k0 - c ∧
      values [m0, m1] [k0, k1] i = some vals ∧
      vals = [m0[i]'(by omega), m1[i / 2 ^ (k0 - k1)]'(by
        rw [hl1]; apply Nat.div_lt_of_lt_mul; rw [← Nat.pow_add]
        have : k0 - k1 + k1 = k0 := by omega
        rw [this]; exact hi)] ∧
      verifyBatch h toVec ovf vals [k0, k1] i cap π = .ok := by
  obtain ⟨digs, cap, π, vals, hb, hcl, ho, hπ, hv, hvals, hok⟩ :=
    P2.Props.C12d.batch_complete h toVec ovf m0 [m1] k0 [k1] c hl0 (congrArg (· :: []) hl1)
      (List.pairwise_pair.mpr hk) (List.forall_mem_cons.mpr ⟨Nat.le_trans hc (Nat.le_of_lt hk), List.forall_mem_singleton.mpr hc⟩) i hi
  refine ⟨digs, cap, π, vals, hb, hcl, ho, hπ, hv, ?_, hok⟩
  have g0 : m0[i]? = some (m0[i]'(by omega)) := List.getElem?_eq_getElem _
  have g1 : m1[i / 2 ^ (k0 - k1)]? = some (m1[i / 2 ^ (k0 - k1)]'(hl1 ▸ P2.Props.C12d.idx_lt hi (Nat.le_of_lt hk))) :=
    List.getElem?_eq_getElem _
  simp only [List.zip_cons_cons, List.zip_nil_right, List.map_cons, List.map_nil, Nat.sub_self,
    Nat.pow_zero, Nat.div_one, g0, g1] at hvals
  exact (List.map_inj_right (fun _ _ => Option.some_inj.mp)).mp hvals

/-- `Lemmas.C13.setFrom_size`, which this module cannot import (it depends on Mathlib) -/
theorem setFrom_size' (s : Array GL) (xs : List GL) (k : Nat) :
    (Sponge.setFrom s xs k).size = s.size := by
  unfold Sponge.setFrom
  generalize xs.zipIdx = l
  induction l generalizing s with
  | nil => rfl
  | cons a t ih =>
    rw [List.foldl_cons, ih]
    obtain ⟨x, i⟩ := a
    simp

/-- the embedding hypothesis of (b) holds for every sponge hasher (`HashOut` digests, `to_vec` the
identity) whose permutation keeps the state width (≥ 4): all `two_to_one` outputs have 4 elements -/
theorem embedsTwo_sponge (p : Sponge.Perm) (hw : 4 ≤ p.width)
    (hsz : ∀ st : Array GL, st.size = p.width → (p.permute st).size = p.width) :
    EmbedsTwo (⟨Sponge.hashOrNoop p, Sponge.twoToOne p⟩ : Hasher (List GL) (List GL)) id := by
  have hlen : ∀ x y, (Sponge.twoToOne p x y).length = 4 := by
    intro x y
    unfold Sponge.twoToOne
    simp only [List.length_take, Array.length_toList]
    rw [hsz _ (by rw [setFrom_size', setFrom_size']; simp)]
    omega
  intro a b a' b' r r' he
  simp only [id] at he
  exact List.append_inj he (by rw [hlen, hlen])

/-! #### `KeccakHash<N>` with `BytesHash::to_vec` (7-byte little-endian chunks) -/
section keccak
open P2.Keccak

theorem keccakNat_length (m : List Nat) : (keccakNat m).length = 32 := by
  simp only [keccakNat, keccak256, List.length_map, List.length_flatMap, laneBytes, List.length_range]
  rfl

theorem keccakNat_lt (m : List Nat) : ∀ b ∈ keccakNat m, b < 256 := by
  intro b hb
  simp only [keccakNat, List.mem_map] at hb
  obtain ⟨u, _, rfl⟩ := hb
  exact UInt8.toNat_lt u

theorem ofLeBytes_inj : ∀ (a b : List Nat), a.length = b.length → (∀ x ∈ a, x < 256) →
    (∀ x ∈ b, x < 256) → ofLeBytes a = ofLeBytes b → a = b := by
  intro a
  induction a with
  | nil => intro b hl _ _ _; cases b with
    | nil => rfl
    | cons _ _ => simp at hl
  | cons x t ih =>
    intro b hl ha hb he
    cases b with
    | nil => simp at hl
    | cons y u =>
      have hx := ha x (by simp)
      have hy := hb y (by simp)
      simp only [ofLeBytes, List.foldr_cons] at he
      have h1 : x = y := by omega
      have h2 : List.foldr (fun b acc => b + 256 * acc) 0 t = List.foldr (fun b acc => b + 256 * acc) 0 u := by omega
      rw [h1, ih u (by simpa using hl) (fun z hz => ha z (by simp [hz])) (fun z hz => hb z (by simp [hz])) h2]

theorem ofLeBytes_lt : ∀ (a : List Nat), (∀ x ∈ a, x < 256) → ofLeBytes a < 256 ^ a.length := by
  intro a
  induction a with
  | nil => intro _; simp [ofLeBytes]
  | cons x t ih =>
    intro ha
    have hx := ha x (by simp)
    have ht := ih (fun z hz => ha z (by simp [hz]))
    simp only [ofLeBytes, List.foldr_cons, List.length_cons, Nat.pow_succ] at ht ⊢
    omega

theorem toVec_eq (d : List Nat) : toVec d =
    (List.range ((d.length + 6) / 7)).map fun i => GL.ofNat (ofLeBytes ((d.drop (i * 7)).take 7)) := by
  rw [toVec, chunksOf, if_neg (by decide), List.map_map]; rfl

theorem toVec_length (d : List Nat) : (toVec d).length = (d.length + 6) / 7 := by
  rw [toVec_eq, List.length_map, List.length_range]

theorem glOfNat_inj (a b : Nat) (ha : a < GLP) (hb : b < GLP) (h : GL.ofNat a = GL.ofNat b) :
    a = b := by
  have := congrArg Fin.val h
  simp only [GL.ofNat, Fin.val_ofNat] at this
  rwa [Nat.mod_eq_of_lt ha, Nat.mod_eq_of_lt hb] at this

theorem toVec_chunk (d d' : List Nat) (hl : d.length = d'.length) (hb : ∀ b ∈ d, b < 256)
    (hb' : ∀ b ∈ d', b < 256) (ht : toVec d = toVec d') (i : Nat) (hi : i < (d.length + 6) / 7) :
    (d.drop (i * 7)).take 7 = (d'.drop (i * 7)).take 7 := by
  have hi' : i < (d'.length + 6) / 7 := by rw [← hl]; exact hi
  have h := congrArg (·[i]?) ht
  simp only [toVec_eq, List.getElem?_map, List.getElem?_range hi, List.getElem?_range hi',
    Option.map_some, Option.some.injEq] at h
  have hm : ∀ x ∈ (d.drop (i * 7)).take 7, x < 256 :=
    fun x hx => hb x (List.mem_of_mem_drop (List.mem_of_mem_take hx))
  have hm' : ∀ x ∈ (d'.drop (i * 7)).take 7, x < 256 :=
    fun x hx => hb' x (List.mem_of_mem_drop (List.mem_of_mem_take hx))
  have hlen : ((d.drop (i * 7)).take 7).length = ((d'.drop (i * 7)).take 7).length := by
    simp [hl]
  have hlt : ∀ (c : List Nat), c.length ≤ 7 → (∀ x ∈ c, x < 256) → ofLeBytes c < GLP := by
    intro c hc hcb
    have := ofLeBytes_lt c hcb
    have h2 : 256 ^ c.length ≤ 256 ^ 7 := Nat.pow_le_pow_right (by decide) hc
    have h3 : 256 ^ 7 < GLP := by decide
    omega
  apply ofLeBytes_inj _ _ hlen hm hm'
  exact glOfNat_inj _ _ (hlt _ (by simp; omega) hm) (hlt _ (by simp; omega) hm') h

theorem toVec_inj (d d' : List Nat) (hl : d.length = d'.length) (hb : ∀ b ∈ d, b < 256)
    (hb' : ∀ b ∈ d', b < 256) (ht : toVec d = toVec d') : d = d' := by
  apply List.ext_getElem?
  intro j
  by_cases hj : j < d.length
  · have hi : j / 7 < (d.length + 6) / 7 := by omega
    have hc := toVec_chunk d d' hl hb hb' ht (j / 7) hi
    have h := congrArg (·[j % 7]?) hc
    have hlt : j % 7 < 7 := Nat.mod_lt _ (by decide)
    simp only [List.getElem?_take, hlt, if_true, List.getElem?_drop] at h
    have e : j / 7 * 7 + j % 7 = j := by omega
    rwa [e] at h
  · rw [List.getElem?_eq_none (by omega), List.getElem?_eq_none (by omega)]

/-- the embedding hypothesis of (b) holds for `KeccakHash<N>` with `BytesHash::to_vec` -/
theorem embedsTwo_keccak (N : Nat) : EmbedsTwo (keccakHasher N) toVec := by
  intro a b a' b' r r' he
  simp only [keccakHasher, twoToOne] at he ⊢
  have hl : ((keccakNat (a ++ b)).take N).length = ((keccakNat (a' ++ b')).take N).length := by
    simp [keccakNat_length]
  have hb1 : ∀ x ∈ (keccakNat (a ++ b)).take N, x < 256 :=
    fun x hx => keccakNat_lt _ x (List.mem_of_mem_take hx)
  have hb2 : ∀ x ∈ (keccakNat (a' ++ b')).take N, x < 256 :=
    fun x hx => keccakNat_lt _ x (List.mem_of_mem_take hx)
  have hs := List.append_inj he (by rw [toVec_length, toVec_length, hl])
  exact ⟨toVec_inj _ _ hl hb1 hb2 hs.1, hs.2⟩

end keccak

/-- a toy hasher for the concrete examples -/
def toyB : Hasher (List GL) Nat := ⟨fun l => l.foldl (fun a x => 3 * a + x.val + 1) 0,
  fun a b => 2 * a + 3 * b + 7⟩
def toyVec (d : Nat) : List GL := [GL.ofNat d]

/-- non-vacuity: two matrices (4 rows and 2 rows, root cap): `new`, `open_batch`, `values`; the
honest opening is accepted in both overflow modes; a wrong row of the second matrix is rejected;
with a height that is never reached the final assertion fires (panic); an extended proof passes
height 0: panic with overflow checks, a verdict without. -/
example :
    batchBuild toyB toyVec [[[1], [2], [3], [4]], [[5], [6]]] 0 =
      some ([2, 3, 4, 5, 69, 100], [445], [2, 1]) ∧
    batchOpen 2 [2, 1] 1 [2, 3, 4, 5, 69, 100] = some [5, 69] ∧
    values [[[1], [2], [3], [4]], [[5], [6]]] [2, 1] 2 = some [[3], [6]] ∧
    verifyBatch toyB toyVec true [[3], [6]] [2, 1] 2 [445] [5, 69] = .ok ∧
    verifyBatch toyB toyVec false [[3], [6]] [2, 1] 2 [445] [5, 69] = .ok ∧
    verifyBatch toyB toyVec false [[3], [5]] [2, 1] 2 [445] [5, 69] = .err ∧
    verifyBatch toyB toyVec false [[3], [6]] [2, 3] 2 [445] [5, 69] = .panic ∧
    verifyBatch toyB toyVec false [[3], [6]] [2, 1] 2 [445] [5, 69, 0] = .err ∧
    verifyBatch toyB toyVec true [[3], [6]] [2, 1] 2 [445] [5, 69, 0] = .panic := by decide

/-- the hypotheses of `P2.Props.C12d.batch_complete` are satisfiable: three matrices of 4, 2 and 1 rows, root cap,
leaf 2 -/
example : ∃ digs cap π vals,
    batchBuild toyB toyVec [[[1], [2], [3], [4]], [[5], [6]], [[7]]] 0 = some (digs, cap, [2, 1, 0]) ∧
    cap.length = 2 ^ 0 ∧ batchOpen 2 [2, 1, 0] cap.length digs = some π ∧ π.length = 2 - 0 ∧
    values [[[1], [2], [3], [4]], [[5], [6]], [[7]]] [2, 1, 0] 2 = some vals ∧
    vals.map some = (([[[1], [2], [3], [4]], [[5], [6]], [[7]]] : List (List (List GL))).zip
      [2, 1, 0]).map (fun p => p.1[2 / 2 ^ (2 - p.2)]?) ∧
    verifyBatch toyB toyVec true vals [2, 1, 0] 2 cap π = .ok :=
  P2.Props.C12d.batch_complete toyB toyVec true [[1], [2], [3], [4]] [[[5], [6]], [[7]]] 2 [1, 0] 0 rfl rfl
    (by decide) (by decide) 2 (by decide)

/-- the same instance computed: the tree, the opening of leaf 2, its acceptance (both overflow
modes), and rejection of a wrong row of the last matrix; with cap height 1 the third matrix (one row)
violates `cap_height ≤ last height` and `new` panics -/
example :
    batchBuild toyB toyVec [[[1], [2], [3], [4]], [[5], [6]], [[7]]] 0 =
      some ([2, 3, 4, 5, 69, 100], [toyB.hashLeaf (toyVec 445 ++ [7])], [2, 1, 0]) ∧
    batchOpen 2 [2, 1, 0] 1 [2, 3, 4, 5, 69, 100] = some [5, 69] ∧
    values [[[1], [2], [3], [4]], [[5], [6]], [[7]]] [2, 1, 0] 2 = some [[3], [6], [7]] ∧
    verifyBatch toyB toyVec true [[3], [6], [7]] [2, 1, 0] 2
      [toyB.hashLeaf (toyVec 445 ++ [7])] [5, 69] = .ok ∧
    verifyBatch toyB toyVec false [[3], [6], [7]] [2, 1, 0] 2
      [toyB.hashLeaf (toyVec 445 ++ [7])] [5, 69] = .ok ∧
    verifyBatch toyB toyVec false [[3], [6], [8]] [2, 1, 0] 2
      [toyB.hashLeaf (toyVec 445 ++ [7])] [5, 69] = .err ∧
    batchBuild toyB toyVec [[[1], [2], [3], [4]], [[5], [6]], [[7]]] 1 = none := by decide

end P2.Props.C12
