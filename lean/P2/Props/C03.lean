/-
C03: accepted proofs are bound to each of their elements and to their circuit — decision logic of
the PLONK verifier model (`P2.Model.Plonk.verify`) stated outright, for arbitrary proofs, common
data and verifier data (all list lengths arbitrary).
-/
import P2.Model.Plonk
import P2.Props.C05
namespace P2.Props.C03
open P2 P2.Plonk P2.Merkle
open P2.Fri (Verdict firstBad digestHasher)

/-- **Acceptance is the conjunction of every check.** `verify` accepts iff the shape is valid,
the quotient identity holds at ζ for the challenges *recomputed from the statement and the proof*,
and the FRI verifier accepts the openings against the caps `[preprocessed cap FROM THE VERIFIER
DATA, wires cap, Z cap, quotient cap]`. -/
theorem verify_accept_iff (c : CommonData) (vd : VerifierOnly) (pp : ProofWithPis) :
    Plonk.verify c vd pp = .accept ↔
      validateShape c pp = .accept ∧
      (let pih := publicInputsHash pp.publicInputs
       let ch := getChallenges c pih vd.circuitDigest pp.proof
       identityHolds c pp.proof pih ch = true ∧
       Fri.verify (friInstance c ch.zeta) pp.proof.openings.toFriOpenings ch.fri
         [vd.constantsSigmasCap, pp.proof.wiresCap, pp.proof.zsPartialProductsCap,
          pp.proof.quotientPolysCap] pp.proof.openingProof c.friParams = .accept) := by
  unfold Plonk.verify
  cases hs : validateShape c pp with
  | accept =>
    simp only [true_and, verifyWithChallenges]
    by_cases hi : identityHolds c pp.proof (publicInputsHash pp.publicInputs)
        (getChallenges c (publicInputsHash pp.publicInputs) vd.circuitDigest pp.proof) = true
    · simp [hi]
    · simp [hi]
  | reject s => simp
  | panic s => simp

theorem capCheck_accept {capHeight : Nat} {cap : List Digest} (h : capCheck capHeight cap = .accept) :
    cap.length = 2 ^ capHeight :=
  Decidable.by_contra fun hk => nomatch (if_neg hk).symm.trans h

theorem lenCheck_accept {a b : Nat} {stage : String} (h : lenCheck (a == b) stage = .accept) : a = b :=
  Decidable.by_contra fun hab =>
    nomatch (if_neg (by rwa [beq_iff_eq])).symm.trans h

/-- **List surgery is rejected by shape validation.** If the shape check passes then every
opening list and the public-input list has exactly the length the common data prescribe and every
cap has exactly `2^cap_height` entries; so dropping the last element of, emptying or duplicating
any of these lists makes `validateShape` (hence `verify`) reject. -/
theorem shape_accept_lengths (c : CommonData) (pp : ProofWithPis)
    (h : validateShape c pp = .accept) :
    pp.proof.wiresCap.length = 2 ^ c.friParams.config.capHeight ∧
    pp.proof.zsPartialProductsCap.length = 2 ^ c.friParams.config.capHeight ∧
    pp.proof.quotientPolysCap.length = 2 ^ c.friParams.config.capHeight ∧
    pp.proof.openings.constants.length = c.numConstants ∧
    pp.proof.openings.plonkSigmas.length = c.config.numRoutedWires ∧
    pp.proof.openings.wires.length = c.config.numWires ∧
    pp.proof.openings.plonkZs.length = c.config.numChallenges ∧
    pp.proof.openings.plonkZsNext.length = c.config.numChallenges ∧
    pp.proof.openings.partialProducts.length = c.config.numChallenges * c.numPartialProducts ∧
    pp.proof.openings.quotientPolys.length = c.numQuotientPolys ∧
    pp.proof.openings.lookupZs.length = c.numAllLookupPolys ∧
    pp.proof.openings.lookupZsNext.length = c.numAllLookupPolys ∧
    pp.publicInputs.length = c.numPublicInputs := by
  have hall := (P2.Props.C05.firstBad_accept_iff _).1 h
  simp only [shapeChecks, List.forall_mem_cons] at hall
  obtain ⟨h1, h2, h3, h4, h5, h6, h7, h8, h9, h10, h11, h12, h13, -⟩ := hall
  exact ⟨capCheck_accept h1, capCheck_accept h2, capCheck_accept h3,
    lenCheck_accept h4, lenCheck_accept h5, lenCheck_accept h6, lenCheck_accept h7,
    lenCheck_accept h8, lenCheck_accept h9, lenCheck_accept h10, lenCheck_accept h11,
    lenCheck_accept h12, lenCheck_accept h13⟩

/-- corollary in the property's words, for the wire openings (the other lists are identical):
any proof whose wire-opening list has a different length than the circuit's is not accepted. -/
theorem wires_surgery_rejected (c : CommonData) (vd : VerifierOnly) (pp : ProofWithPis)
    (h : pp.proof.openings.wires.length ≠ c.config.numWires) : Plonk.verify c vd pp ≠ .accept := by
  intro hacc
  have := (verify_accept_iff c vd pp).1 hacc
  exact h (shape_accept_lengths c pp this.1).2.2.2.2.2.1

/-- **The preprocessed commitment comes from the verifier data, never from the proof**, and a
foreign verifier data changes what the verifier checks against: the first Merkle cap used by every
query round of an accepted proof is `vd.constantsSigmasCap`. -/
theorem accepted_queries_open_vd_cap (c : CommonData) (vd : VerifierOnly) (pp : ProofWithPis)
    (hacc : Plonk.verify c vd pp = .accept) :
    let pih := publicInputsHash pp.publicInputs
    let ch := getChallenges c pih vd.circuitDigest pp.proof
    ∀ xq ∈ ch.fri.queryIndices.zip pp.proof.openingProof.queries,
      ∀ leafPath ∈ xq.2.initial.head?,
        verifyToCap digestHasher leafPath.1 xq.1 vd.constantsSigmasCap leafPath.2 = .ok := by
  intro pih ch xq hxq leafPath hlp
  have h := (verify_accept_iff c vd pp).1 hacc
  have hfri := h.2.2
  have hq := ((P2.Props.C05.verify_accept_iff _ _ _ _ _ _).1 hfri).2.2.2 xq hxq
  have hinit := (P2.Props.C05.queryRound_accept _ _ _ _ _ _ _ _ hq).1
  cases hi : xq.2.initial with
  | nil => simp [hi] at hlp
  | cons x rest =>
    simp only [hi, List.head?_cons, Option.mem_def, Option.some.injEq] at hlp
    subst hlp
    have := hinit (x, vd.constantsSigmasCap) (by simp [hi, List.zip])
    simpa using this

end P2.Props.C03
