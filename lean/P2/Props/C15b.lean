/-
C15b (polynomial algebra of `field/src/polynomial`, `fft.rs`, `interpolation.rs`, `zero_poly_coset.rs`
over an arbitrary field `K`, model functions instantiated with `FOps.ofField K`):

 (a) `trim` / `degreePlusOne` against `Polynomial.natDegree`;
 (b) `add`, `sub`, `mul` are the ring operations of `K[X]` on coefficient lists;
 (c) `divRem` is Euclidean division: `a = q·b + r`, `deg r < deg b`, trimmed outputs, hence
     `q = a / b`, `r = a % b` in `K[X]`; exactly when it answers `none`; the loop leaves by its exit
     test (not by running out of fuel) for every fuel above `degreePlusOne r`;
 (d) coset transforms and low-degree extension as the driver `P2/Drv/C15.lean` composes them
     (pure forms `P2.C15b.fft`, `ifft`, `cosetFft`, `cosetIfft`, `ldeCoeffs`, `lde` in
     `P2/Lemmas/C15Poly.lean`);
 (e) `barycentricWeights` are Mathlib's `Lagrange.nodalWeight`; the barycentric formula of
     `interpolation.rs::interpolate` is `Lagrange.interpolate` (= `Poly.lagrangeEval`, C05b);
 (f) `Z_H(x) = x^n − 1` on the coset `g·⟨w⟩` is periodic with period `2^rate`:
     `ZeroPolyOnCoset::eval(i) = evals[i % rate]`.

`toPoly c = Σ_i C c[i] · X^i` (low degree first).
-/
import Mathlib.Algebra.Field.ZMod
import P2.Lemmas.C15Poly
import P2.Props.C05b
namespace P2.Props.C15b
open P2 Polynomial P2.Fft P2.Lemmas.C15Poly

section
variable {K : Type} [Field K]

theorem toPoly_def (c : List K) : toPoly c = ∑ i : Fin c.length, C c[i] * X ^ (i : Nat) := rfl

theorem toPoly_coeff (c : List K) (k : Nat) : (toPoly c).coeff k = c.getD k 0 :=
  Lemmas.C15Poly.toPoly_coeff c k

variable [DecidableEq K]

/-- Horner evaluation of the model is evaluation of the polynomial -/
theorem toPoly_eval (c : List K) (x : K) :
    (toPoly c).eval x = @Poly.eval K (FOps.ofField K) c x :=
  Lemmas.C15Poly.toPoly_eval c x

/-! ## (a) `trim`, `degreePlusOne` -/

theorem toPoly_trim (c : List K) : toPoly (@Poly.trim K (FOps.ofField K) c) = toPoly c :=
  Lemmas.C15Poly.toPoly_trim c

theorem trim_getLast?_ne_zero (c : List K) :
    (@Poly.trim K (FOps.ofField K) c).getLast? ≠ some 0 :=
  (trimmed_iff_dpo _).2 ((dpo_trim c).trans (length_trim c).symm)

theorem trim_length (c : List K) :
    (@Poly.trim K (FOps.ofField K) c).length = @Poly.degreePlusOne K (FOps.ofField K) c :=
  Lemmas.C15Poly.length_trim c

theorem degreePlusOne_eq_zero_iff (c : List K) :
    @Poly.degreePlusOne K (FOps.ofField K) c = 0 ↔ toPoly c = 0 :=
  Lemmas.C15Poly.dpo_eq_zero_iff c

theorem degreePlusOne_eq_natDegree_succ (c : List K) (h : toPoly c ≠ 0) :
    @Poly.degreePlusOne K (FOps.ofField K) c = (toPoly c).natDegree + 1 :=
  Lemmas.C15Poly.dpo_eq_natDegree_succ c h

/-- the same without a case split: `degreePlusOne c ≤ n ↔ deg (toPoly c) < n` (`deg 0 = ⊥`) -/
theorem degreePlusOne_le_iff (c : List K) (n : Nat) :
    @Poly.degreePlusOne K (FOps.ofField K) c ≤ n ↔ (toPoly c).degree < n :=
  Lemmas.C15Poly.dpo_le_iff_degree_lt c n

theorem trim_eq_self_iff (c : List K) :
    @Poly.trim K (FOps.ofField K) c = c ↔ c.getLast? ≠ some 0 :=
  Lemmas.C15Poly.trim_eq_self_iff c

/-- trimmed coefficient lists are a normal form -/
theorem trim_eq_trim_iff (a b : List K) :
    @Poly.trim K (FOps.ofField K) a = @Poly.trim K (FOps.ofField K) b ↔ toPoly a = toPoly b :=
  ⟨fun h => by rw [← toPoly_trim a, h, toPoly_trim], trim_congr⟩

/-! ## (b) `add`, `sub`, `mul` -/

theorem toPoly_add (a b : List K) :
    toPoly (@Poly.add K (FOps.ofField K) a b) = toPoly a + toPoly b := by
  ext k; rw [coeff_add, toPoly_coeff, toPoly_coeff, toPoly_coeff]
  exact getD_pointwise (· + ·) (add_zero 0) a b k

theorem toPoly_sub (a b : List K) :
    toPoly (@Poly.sub K (FOps.ofField K) a b) = toPoly a - toPoly b := by
  ext k; rw [coeff_sub, toPoly_coeff, toPoly_coeff, toPoly_coeff]
  exact getD_pointwise (· - ·) (sub_zero 0) a b k

theorem mul_length (a b : List K) (ha : a ≠ []) (hb : b ≠ []) :
    (@Poly.mul K (FOps.ofField K) a b).length = a.length + b.length - 1 := by
  unfold Poly.mul
  rw [if_neg (by rw [Bool.or_eq_true, List.isEmpty_iff, List.isEmpty_iff]; exact not_or.2 ⟨ha, hb⟩),
    List.length_map, List.length_range]

theorem add_length (a b : List K) :
    (@Poly.add K (FOps.ofField K) a b).length = max a.length b.length := by
  unfold Poly.add; rw [List.length_map, List.length_range]

theorem sub_length (a b : List K) :
    (@Poly.sub K (FOps.ofField K) a b).length = max a.length b.length := by
  unfold Poly.sub; rw [List.length_map, List.length_range]

/-- coefficient `k` of the schoolbook product is the convolution sum -/
theorem mul_coeff (a b : List K) (k : Nat) :
    (@Poly.mul K (FOps.ofField K) a b).getD k 0
      = ∑ i ∈ Finset.range (k + 1), a.getD i 0 * b.getD (k - i) 0 := by
  -- a term with `i` or `k - i` out of range vanishes
  have hz : ∀ i, a.length ≤ i ∨ b.length ≤ k - i → a.getD i 0 * b.getD (k - i) 0 = 0 := fun i h => by
    rcases h with h | h
    · rw [List.getD_eq_default _ _ h, zero_mul]
    · rw [List.getD_eq_default _ _ h, mul_zero]
  unfold Poly.mul
  split
  · next h =>
    rw [Bool.or_eq_true, List.isEmpty_iff, List.isEmpty_iff] at h
    refine (Finset.sum_eq_zero fun i _ => hz i ?_).symm
    rcases h with rfl | rfl
    · exact Or.inl (Nat.zero_le _)
    · exact Or.inr (Nat.zero_le _)
  · refine (getD_map_range _ _ k).trans ?_
    split
    · refine (Lemmas.Alg2.foldl_add_form _ _ (fun i => a.getD i 0 * b.getD (k - i) 0)
        (fun acc i => by split; rfl; rw [hz i (by omega), add_zero]) _).trans ((zero_add _).trans ?_)
      rw [← List.toFinset_range, List.sum_toFinset _ List.nodup_range]
    · exact (Finset.sum_eq_zero fun i hi => hz i (by have := Finset.mem_range.1 hi; omega)).symm

theorem toPoly_mul (a b : List K) :
    toPoly (@Poly.mul K (FOps.ofField K) a b) = toPoly a * toPoly b := by
  ext k
  rw [toPoly_coeff, mul_coeff, coeff_mul,
    Finset.Nat.sum_antidiagonal_eq_sum_range_succ (fun i j => (toPoly a).coeff i * (toPoly b).coeff j)]
  simp only [toPoly_coeff]

theorem eval_mul (a b : List K) (x : K) :
    @Poly.eval K (FOps.ofField K) (@Poly.mul K (FOps.ofField K) a b) x
      = @Poly.eval K (FOps.ofField K) a x * @Poly.eval K (FOps.ofField K) b x := by
  rw [← toPoly_eval, ← toPoly_eval, ← toPoly_eval, toPoly_mul, Polynomial.eval_mul]

theorem eval_add (a b : List K) (x : K) :
    @Poly.eval K (FOps.ofField K) (@Poly.add K (FOps.ofField K) a b) x
      = @Poly.eval K (FOps.ofField K) a x + @Poly.eval K (FOps.ofField K) b x := by
  rw [← toPoly_eval, ← toPoly_eval, ← toPoly_eval, toPoly_add, Polynomial.eval_add]

theorem eval_sub (a b : List K) (x : K) :
    @Poly.eval K (FOps.ofField K) (@Poly.sub K (FOps.ofField K) a b) x
      = @Poly.eval K (FOps.ofField K) a x - @Poly.eval K (FOps.ofField K) b x := by
  rw [← toPoly_eval, ← toPoly_eval, ← toPoly_eval, toPoly_sub, Polynomial.eval_sub]

/-! ## (c) `divRem` is Euclidean division -/

local notation "dpo" => @Poly.degreePlusOne _ (FOps.ofField _)

omit [DecidableEq K] in
/-- uniqueness of quotient and remainder in `K[X]` (the step from `divRem_spec` to `/`, `%`) -/
theorem div_mod_unique {a b q r : K[X]} (hb : b ≠ 0) (h : a = q * b + r)
    (hr : r.degree < b.degree) : q = a / b ∧ r = a % b := by
  have hmod : a % b = r := by
    rw [h, add_mod, EuclideanDomain.mod_eq_zero.2 (Dvd.intro_left q rfl), zero_add,
      (mod_eq_self_iff hb).2 hr]
  have hdiv := EuclideanDomain.div_add_mod a b
  rw [hmod] at hdiv
  have hq : b * (a / b) + r = b * q + r := hdiv.trans (h.trans (by rw [mul_comm]))
  exact ⟨(mul_left_cancel₀ hb (add_right_cancel hq)).symm, hmod.symm⟩

/-- **the fuel suffices**: started with any fuel above `degreePlusOne r` (the model starts with
`degreePlusOne a + 1` and `r = trim a`), from a state satisfying the invariant
`P = q·b + r`, `degreePlusOne r < |q| + |b|`, `q_j = 0` for `j + |b| ≤ degreePlusOne r`,
the loop `divRem.go` returns a state with the same invariant AND `degreePlusOne r < |b|`, i.e. it
leaves through its exit test: `degreePlusOne r` strictly decreases in every round. (`b` trimmed and
nonempty; `leadInv` is the inverse of its last entry.) -/
theorem divRem_loop_spec (bt : List K) (hbt : bt.getLast? ≠ some 0) (hb0 : bt ≠ []) (P : K[X])
    (fuel : Nat) (q : Array K) (r : List K)
    (hfuel : @Poly.degreePlusOne K (FOps.ofField K) r < fuel)
    (hP : P = toPoly q.toList * toPoly bt + toPoly r)
    (hsize : @Poly.degreePlusOne K (FOps.ofField K) r < q.size + bt.length)
    (hq : ∀ j, j + bt.length ≤ @Poly.degreePlusOne K (FOps.ofField K) r → q.toList.getD j 0 = 0) :
    P = toPoly (@Poly.divRem.go K (FOps.ofField K) bt bt.length (bt.getLast?.getD 1)⁻¹ fuel q r).1.toList
            * toPoly bt
          + toPoly (@Poly.divRem.go K (FOps.ofField K) bt bt.length (bt.getLast?.getD 1)⁻¹ fuel q r).2
      ∧ @Poly.degreePlusOne K (FOps.ofField K)
          (@Poly.divRem.go K (FOps.ofField K) bt bt.length (bt.getLast?.getD 1)⁻¹ fuel q r).2
        < bt.length := by
  have hl : 0 < bt.length := List.length_pos_of_ne_nil hb0
  obtain ⟨hlc, hlc0⟩ := lead_of_trimmed bt hbt hb0
  induction fuel generalizing q r with
  | zero => exact absurd hfuel (Nat.not_lt_zero _)
  | succ fuel ih =>
    rw [go_succ]
    by_cases hdr : dpo r < bt.length
    · rw [if_pos hdr]; exact ⟨hP, hdr⟩
    · rw [if_neg hdr]
      have hnd := Nat.le_of_not_lt hdr
      have hdn := Nat.sub_add_cancel hnd
      -- one round: `r' = r − coef·X^deg·bt` has the leading coefficient of `r` cancelled
      have hr' := toPoly_stepR bt r (r.getD (dpo r - 1) 0 * (bt.getLast?.getD 1)⁻¹) (dpo r - bt.length)
        (Nat.le_trans (Nat.le_of_eq hdn) (dpo_le_length r))
      have hlt := Nat.lt_of_le_of_lt
        (dpo_step_le hr' hl hdn.symm (by rw [hlc, inv_mul_cancel_right₀ hlc0]))
        (Nat.sub_one_lt (Nat.ne_of_gt (Nat.lt_of_lt_of_le hl hnd)))
      have hdq : dpo r - bt.length < q.size := Nat.sub_lt_left_of_lt_add hnd (Nat.add_comm _ _ ▸ hsize)
      refine ih _ _ ?_ ?_ ?_ ?_
      · rw [dpo_trim]; exact Nat.lt_of_lt_of_le hlt (Nat.le_of_lt_succ hfuel)
      · rw [toPoly_trim, hr', toPoly_set q _ _ hdq (hq _ (Nat.le_of_eq hdn)), hP]
        ring
      · rw [dpo_trim]; exact Nat.lt_trans hlt ((Array.size_setIfInBounds ..).symm ▸ hsize)
      · intro j hj
        rw [dpo_trim] at hj
        have hj' := Nat.lt_of_le_of_lt hj hlt
        rw [getD_set q _ _ hdq, if_neg (Nat.ne_of_lt (Nat.lt_sub_of_add_lt hj')).symm]
        exact hq j (Nat.le_of_lt hj')

/-- a zero dividend is answered `some ([], [])` for EVERY divisor, the zero divisor included -/
theorem divRem_zero_left (a b : List K) (ha : toPoly a = 0) :
    @Poly.divRem K (FOps.ofField K) a b = some ([], []) := by
  unfold Poly.divRem
  simp only [(dpo_eq_zero_iff a).2 ha, if_true]

/-- `none` (Rust: panic "Division by zero polynomial") exactly for a zero divisor and a nonzero
dividend -/
theorem divRem_eq_none_iff (a b : List K) :
    @Poly.divRem K (FOps.ofField K) a b = none ↔ toPoly b = 0 ∧ toPoly a ≠ 0 := by
  unfold Poly.divRem
  simp only [length_trim, dpo_eq_zero_iff]
  by_cases h1 : toPoly a = 0
  · simp [h1]
  · by_cases h2 : toPoly b = 0
    · simp [h1, h2]
    · rw [if_neg h1, if_neg h2]
      split <;> simp [h2]

/-- **Euclidean division**: for a nonzero divisor the model answers `some (q, r)` with
`a = q·b + r`, `deg r < deg b` (`deg 0 = ⊥`, so this covers `r = 0`), and both outputs trimmed -/
theorem divRem_spec (a b : List K) (hb : toPoly b ≠ 0) :
    ∃ q r, @Poly.divRem K (FOps.ofField K) a b = some (q, r) ∧
      toPoly a = toPoly q * toPoly b + toPoly r ∧
      (toPoly r).degree < (toPoly b).degree ∧
      q.getLast? ≠ some 0 ∧ r.getLast? ≠ some 0 := by
  have hdb : dpo b ≠ 0 := fun e => hb ((dpo_eq_zero_iff b).1 e)
  have hnil : ([] : List K).getLast? ≠ some 0 := nofun
  unfold Poly.divRem
  simp only [length_trim]
  by_cases h1 : dpo a = 0
  · rw [if_pos h1]
    refine ⟨[], [], rfl, ?_, ?_, hnil, hnil⟩
    · rw [(dpo_eq_zero_iff a).1 h1, toPoly_nil, zero_mul, zero_add]
    · rw [toPoly_nil, degree_zero]; exact bot_lt_iff_ne_bot.2 (mt degree_eq_bot.1 hb)
  · rw [if_neg h1, if_neg hdb]
    by_cases h2 : dpo a < dpo b
    · rw [if_pos h2]
      refine ⟨[], _, rfl, ?_, ?_, hnil, trim_getLast?_ne_zero a⟩
      · rw [toPoly_trim, toPoly_nil, zero_mul, zero_add]
      · rw [toPoly_trim]; exact degree_lt_of_dpo_lt h2
    · rw [if_neg h2]
      have hlen := length_trim b
      obtain ⟨k1, k2⟩ := divRem_loop_spec (@Poly.trim K (FOps.ofField K) b) (trim_getLast?_ne_zero b)
        (fun e => hdb (by rw [← hlen, e]; rfl)) (toPoly a) (dpo a + 1)
        (Array.replicate (dpo a - dpo b + 1) 0) (@Poly.trim K (FOps.ofField K) a)
        (by rw [dpo_trim]; exact Nat.lt_succ_self _)
        (by rw [Array.toList_replicate, toPoly_replicate_zero, zero_mul, zero_add,
          toPoly_trim])
        (by rw [dpo_trim, Array.size_replicate, hlen]; omega)
        (fun j _ => by
          rw [Array.toList_replicate, List.getD_eq_getElem?_getD, List.getElem?_getD_replicate_default_eq])
      rw [hlen] at k1 k2
      refine ⟨_, _, rfl, ?_, ?_, trim_getLast?_ne_zero _, trim_getLast?_ne_zero _⟩
      · rw [toPoly_trim, toPoly_trim]
        rwa [toPoly_trim] at k1
      · rw [toPoly_trim]; exact degree_lt_of_dpo_lt k2

/-- the form `r = 0 ∨ deg r < deg b` -/
theorem divRem_spec' (a b : List K) (hb : toPoly b ≠ 0) :
    ∃ q r, @Poly.divRem K (FOps.ofField K) a b = some (q, r) ∧
      toPoly a = toPoly q * toPoly b + toPoly r ∧
      (toPoly r = 0 ∨ (toPoly r).degree < (toPoly b).degree) ∧
      q.getLast? ≠ some 0 ∧ r.getLast? ≠ some 0 := by
  obtain ⟨q, r, h1, h2, h3, h4, h5⟩ := divRem_spec a b hb
  exact ⟨q, r, h1, h2, Or.inr h3, h4, h5⟩

/-- quotient and remainder are Mathlib's `/` and `%` of `K[X]` -/
theorem divRem_eq_div_mod (a b : List K) (hb : toPoly b ≠ 0) :
    ∃ q r, @Poly.divRem K (FOps.ofField K) a b = some (q, r) ∧
      toPoly q = toPoly a / toPoly b ∧ toPoly r = toPoly a % toPoly b ∧
      q.getLast? ≠ some 0 ∧ r.getLast? ≠ some 0 := by
  obtain ⟨q, r, h1, h2, h3, h4, h5⟩ := divRem_spec a b hb
  obtain ⟨e1, e2⟩ := div_mod_unique hb h2 h3
  exact ⟨q, r, h1, e1, e2, h4, h5⟩

/-- every `some` answer (zero divisor included) satisfies the division identity with trimmed
outputs; the degree bound holds whenever the divisor is nonzero -/
theorem divRem_some (a b q r : List K) (h : @Poly.divRem K (FOps.ofField K) a b = some (q, r)) :
    toPoly a = toPoly q * toPoly b + toPoly r ∧ q.getLast? ≠ some 0 ∧ r.getLast? ≠ some 0 ∧
      (toPoly b ≠ 0 → (toPoly r).degree < (toPoly b).degree) := by
  by_cases hb : toPoly b = 0
  · have ha : toPoly a = 0 := by
      by_contra ha
      rw [(divRem_eq_none_iff a b).2 ⟨hb, ha⟩] at h; cases h
    rw [divRem_zero_left a b ha] at h
    cases h
    exact ⟨by rw [ha, toPoly_nil, zero_mul, zero_add], nofun, nofun, fun h => absurd hb h⟩
  · obtain ⟨q', r', h1, h2, h3, h4, h5⟩ := divRem_spec a b hb
    rw [h1] at h
    cases h
    exact ⟨h2, h4, h5, fun _ => h3⟩

end

/-! ## (d) coset transforms and low-degree extension -/

section
variable {K : Type} [Field K]

/-- a field with a primitive `2^lgN`-th root of unity has `2^lgN ≠ 0` (so `n⁻¹` is an inverse) -/
theorem two_pow_ne_zero_of_primitive {ω : K} {lgN : Nat} (hω : IsPrimitiveRoot ω (2 ^ lgN)) :
    ((2 ^ lgN : Nat) : K) ≠ 0 := by
  cases lgN with
  | zero => rw [pow_zero, Nat.cast_one]; exact one_ne_zero
  | succ n =>
    rw [Nat.cast_pow, Nat.cast_ofNat]
    refine pow_ne_zero _ fun h2 => ?_
    -- `ω^(2^n) = −1 ≠ 1`, so `2 ≠ 0`
    have h := hω.pow_ne_one_of_pos_of_lt (Nat.two_pow_pos n).ne' (Nat.pow_lt_pow_right Nat.one_lt_two n.lt_succ_self)
    have e : 2 ^ (n + 1) = 2 ^ n * 2 := pow_succ 2 n
    rw [(hω.pow (Nat.two_pow_pos _) e).eq_neg_one_of_two_right] at h
    exact h (neg_eq_of_add_eq_zero_left (one_add_one_eq_two.trans h2))

variable [DecidableEq K] [Inhabited K]

/-- `fft` (= `fft_classic` over `fft_root_table`) evaluates `toPoly c` at `ω^i` -/
theorem fft_spec (pr : Nat → K) {lgN : Nat} (hω : IsPrimitiveRoot (pr lgN) (2 ^ lgN))
    (c : Array K) (hs : c.size = 2 ^ lgN) :
    ∃ v, @C15b.fft K (FOps.ofField K) _ pr lgN c = .ok v ∧ v.size = 2 ^ lgN ∧
      ∀ i, i < 2 ^ lgN → v[i]! = (toPoly c.toList).eval (pr lgN ^ i) :=
  ⟨_, Props.C15.fftClassic_eq_dft_rootTable pr hω c hs, (Lemmas.C15.dft_size _ c).trans hs,
    fun i hi => dft_getElem!_eval _ c i (hs ▸ hi)⟩

/-- `coset_fft(shift)` evaluates `toPoly c` at `shift·ω^i` -/
theorem cosetFft_spec (pr : Nat → K) {lgN : Nat} (hω : IsPrimitiveRoot (pr lgN) (2 ^ lgN))
    (shift : K) (c : Array K) (hs : c.size = 2 ^ lgN) :
    ∃ v, @C15b.cosetFft K (FOps.ofField K) _ pr lgN shift c = .ok v ∧ v.size = 2 ^ lgN ∧
      ∀ i, i < 2 ^ lgN → v[i]! = (toPoly c.toList).eval (shift * pr lgN ^ i) := by
  have hsz : (c.mapIdx fun i x => shift ^ i * x).size = 2 ^ lgN := (Array.size_mapIdx ..).trans hs
  refine ⟨_, cosetFft_eq pr hω shift c hs, (Lemmas.C15.dft_size _ _).trans hsz, fun i hi => ?_⟩
  rw [dft_getElem!_eval _ _ i (hsz ▸ hi), eval_scale]

/-- `coset_ifft(shift) ∘ coset_fft(shift) = id` for `shift ≠ 0` -/
theorem cosetIfft_cosetFft (pr : Nat → K) {lgN : Nat} (hω : IsPrimitiveRoot (pr lgN) (2 ^ lgN))
    (shift : K) (hsh : shift ≠ 0) (c : Array K) (hs : c.size = 2 ^ lgN) :
    ∃ v, @C15b.cosetFft K (FOps.ofField K) _ pr lgN shift c = .ok v ∧
      @C15b.cosetIfft K (FOps.ofField K) _ pr lgN shift v = .ok c := by
  have hsz : (c.mapIdx fun i x => shift ^ i * x).size = 2 ^ lgN := (Array.size_mapIdx ..).trans hs
  refine ⟨_, cosetFft_eq pr hω shift c hs, ?_⟩
  rw [cosetIfft_eq pr hω shift _ ((Lemmas.C15.dft_size _ _).trans hsz),
    Props.C15.ifft_of_dft _ _ hsz hω (two_pow_ne_zero_of_primitive hω),
    mapIdx_mapIdx_cancel _ _ _ fun i x => by
      rw [inv_pow, mul_right_comm, mul_inv_cancel₀ (pow_ne_zero i hsh), one_mul]]

/-- `coset_fft(shift) ∘ coset_ifft(shift) = id` for `shift ≠ 0` -/
theorem cosetFft_cosetIfft (pr : Nat → K) {lgN : Nat} (hω : IsPrimitiveRoot (pr lgN) (2 ^ lgN))
    (shift : K) (hsh : shift ≠ 0) (v : Array K) (hs : v.size = 2 ^ lgN) :
    ∃ c, @C15b.cosetIfft K (FOps.ofField K) _ pr lgN shift v = .ok c ∧
      @C15b.cosetFft K (FOps.ofField K) _ pr lgN shift c = .ok v := by
  refine ⟨_, cosetIfft_eq pr hω shift v hs, ?_⟩
  rw [cosetFft_eq pr hω shift _ (by
      rw [Array.size_mapIdx, Lemmas.C15.ifftPost_size, Lemmas.C15.dft_size, hs]),
    mapIdx_mapIdx_cancel _ _ _ fun i x => by
      rw [inv_pow, mul_left_comm, mul_inv_cancel₀ (pow_ne_zero i hsh), mul_one],
    Props.C15.dft_of_ifft _ _ hs hω (two_pow_ne_zero_of_primitive hω)]

/-- zero-padding to `2^(lgN+rate)` and transforming there evaluates the SAME polynomial on the
larger subgroup -/
theorem ldeCoeffs_spec (pr : Nat → K) {lgN rate : Nat}
    (hΩ : IsPrimitiveRoot (pr (lgN + rate)) (2 ^ (lgN + rate)))
    (c : Array K) (hs : c.size ≤ 2 ^ (lgN + rate)) :
    ∃ w, @C15b.ldeCoeffs K (FOps.ofField K) _ pr lgN rate c = .ok w ∧ w.size = 2 ^ (lgN + rate) ∧
      ∀ k, k < 2 ^ (lgN + rate) → w[k]! = (toPoly c.toList).eval (pr (lgN + rate) ^ k) := by
  obtain ⟨w, h1, h2, h3⟩ := fft_spec pr hΩ _ (size_padTo c _ hs)
  exact ⟨w, h1, h2, fun k hk => by rw [h3 k hk, toPoly_padTo]⟩

/-- the entries of the extension at multiples of `2^rate` are the evaluations on the small
subgroup (`pr (lgN+rate) ^ 2^rate = pr lgN`, as for `primitive_root_of_unity`) -/
theorem ldeCoeffs_subsample (pr : Nat → K) {lgN rate : Nat}
    (hω : IsPrimitiveRoot (pr lgN) (2 ^ lgN))
    (hΩ : IsPrimitiveRoot (pr (lgN + rate)) (2 ^ (lgN + rate)))
    (hrel : pr (lgN + rate) ^ (2 ^ rate) = pr lgN)
    (c : Array K) (hs : c.size = 2 ^ lgN) :
    ∃ v w, @C15b.fft K (FOps.ofField K) _ pr lgN c = .ok v ∧
      @C15b.ldeCoeffs K (FOps.ofField K) _ pr lgN rate c = .ok w ∧
      ∀ i, i < 2 ^ lgN → w[i * 2 ^ rate]! = v[i]! := by
  obtain ⟨v, a1, _, a3⟩ := fft_spec pr hω c hs
  obtain ⟨w, b1, _, b3⟩ := ldeCoeffs_spec pr hΩ c
    (hs ▸ Nat.pow_le_pow_right Nat.two_pos (Nat.le_add_right _ _))
  refine ⟨v, w, a1, b1, fun i hi => ?_⟩
  rw [b3 _ (by rw [pow_add]; exact Nat.mul_lt_mul_of_pos_right hi (Nat.two_pow_pos rate)), a3 i hi,
    Nat.mul_comm, pow_mul, hrel]

/-- the driver's `lde` request (values → `ifft` → pad → `fft`): `co = ifft v` interpolates `v` on
the small subgroup, the output `w` holds the values of `toPoly co` on the large subgroup, and
`w[i·2^rate] = v[i]` -/
theorem lde_spec (pr : Nat → K) {lgN rate : Nat}
    (hω : IsPrimitiveRoot (pr lgN) (2 ^ lgN))
    (hΩ : IsPrimitiveRoot (pr (lgN + rate)) (2 ^ (lgN + rate)))
    (hrel : pr (lgN + rate) ^ (2 ^ rate) = pr lgN)
    (v : Array K) (hs : v.size = 2 ^ lgN) :
    ∃ co w, @C15b.ifft K (FOps.ofField K) _ pr lgN v = .ok co ∧ co.size = 2 ^ lgN ∧
      (∀ i, i < 2 ^ lgN → (toPoly co.toList).eval (pr lgN ^ i) = v[i]!) ∧
      @C15b.lde K (FOps.ofField K) _ pr lgN rate v = .ok w ∧ w.size = 2 ^ (lgN + rate) ∧
      (∀ k, k < 2 ^ (lgN + rate) → w[k]! = (toPoly co.toList).eval (pr (lgN + rate) ^ k)) ∧
      (∀ i, i < 2 ^ lgN → w[i * 2 ^ rate]! = v[i]!) := by
  have hco := ifft_eq pr hω v hs
  generalize hcodef : @ifftPost K (FOps.ofField K) _ (@dft K (FOps.ofField K) (pr lgN) v)
    (((2 ^ lgN : Nat) : K))⁻¹ = co at hco
  have hcosz : co.size = 2 ^ lgN := by
    rw [← hcodef, Lemmas.C15.ifftPost_size, Lemmas.C15.dft_size, hs]
  obtain ⟨w, h1, h2, h3⟩ := ldeCoeffs_spec pr hΩ co
    (hcosz ▸ Nat.pow_le_pow_right Nat.two_pos (Nat.le_add_right _ _))
  have hback : ∀ i, i < 2 ^ lgN → (toPoly co.toList).eval (pr lgN ^ i) = v[i]! := fun i hi => by
    rw [← dft_getElem!_eval _ co i (hcosz ▸ hi), ← hcodef,
      Props.C15.dft_of_ifft v _ hs hω (two_pow_ne_zero_of_primitive hω)]
  refine ⟨co, w, hco, hcosz, hback, ?_, h2, h3, fun i hi => ?_⟩
  · unfold C15b.lde
    rw [hco]
    exact h1
  · rw [h3 _ (by rw [pow_add]; exact Nat.mul_lt_mul_of_pos_right hi (Nat.two_pow_pos rate)),
      Nat.mul_comm, pow_mul, hrel, hback i hi]

end

/-! ## (e) barycentric weights, barycentric formula -/

section
variable {K : Type} [Field K] [DecidableEq K]

theorem barycentricWeights_length (xs : List K) :
    (@Poly.barycentricWeights K (FOps.ofField K) xs).length = xs.length := by
  unfold Poly.barycentricWeights; rw [List.length_map, List.length_zipIdx]

/-- `w_i = (∏_{j≠i} (x_i − x_j))⁻¹` (no distinctness hypothesis; `0⁻¹ = 0`) -/
theorem barycentricWeights_formula (xs : List K) (i : Fin xs.length) :
    (@Poly.barycentricWeights K (FOps.ofField K) xs).getD i 0
      = (∏ j : Fin xs.length, if (i : Nat) = j then 1 else (xs[i] - xs[j]))⁻¹ := by
  unfold Poly.barycentricWeights
  rw [List.getD_eq_getElem?_getD, List.getElem?_map, List.getElem?_zipIdx,
    List.getElem?_eq_getElem i.2, Option.map_some, Option.map_some, Option.getD_some, Nat.zero_add]
  exact congrArg Inv.inv (Lemmas.Alg2.foldl_skip_prod xs _ (fun xj => xs.get i - xj) i (fun _ _ _ => rfl))

theorem barycentricWeights_eq_nodalWeight (xs : List K) (i : Fin xs.length) :
    (@Poly.barycentricWeights K (FOps.ofField K) xs).getD i 0
      = Lagrange.nodalWeight Finset.univ (fun k : Fin xs.length => xs[k]) i := by
  rw [barycentricWeights_formula, Lagrange.nodalWeight, Lemmas.Alg2.prod_ite_skip,
    Finset.prod_inv_distrib]

/-- the same when the nodes are given as a function on `Fin n` with `n` only propositionally the
length of the list -/
theorem barycentricWeights_eq_nodalWeight' (xs : List K) (n : Nat) (h : xs.length = n)
    (v : Fin n → K) (hv : ∀ k : Fin n, xs[k.1]'(h ▸ k.2) = v k) (i : Fin n) :
    (@Poly.barycentricWeights K (FOps.ofField K) xs).getD i 0
      = Lagrange.nodalWeight Finset.univ v i := by
  subst h
  obtain rfl : xs.get = v := funext hv
  exact barycentricWeights_eq_nodalWeight xs i

/-- the pair `barycentric_weights` / `interpolate` of `interpolation.rs` (node test, then
`l(x)·Σ w_i/(x − x_i)·y_i`) computes the evaluation of Mathlib's Lagrange interpolant, for
pairwise distinct nodes -/
theorem baryInterpolate_eq_interpolate (pts : List (K × K)) (hn : (pts.map Prod.fst).Nodup) (x : K) :
    @C15b.baryInterpolate K (FOps.ofField K) pts x
        (@Poly.barycentricWeights K (FOps.ofField K) (pts.map Prod.fst))
      = (Lagrange.interpolate Finset.univ (fun i : Fin pts.length => pts[i].1)
          (fun i : Fin pts.length => pts[i].2)).eval x := by
  have hinj := Lemmas.C15.injOn_fst_get pts hn
  show _ = (Lagrange.interpolate Finset.univ (fun i => (pts.get i).1) (fun i => (pts.get i).2)).eval x
  unfold C15b.baryInterpolate
  split
  · next p hp =>
    obtain ⟨i, hi, rfl⟩ := List.getElem_of_mem (List.mem_of_find?_eq_some hp)
    have hpx := List.find?_some hp
    rw [← (of_decide_eq_true hpx : pts[i].1 = x)]
    exact (Lagrange.eval_interpolate_at_node (fun i => (pts.get i).2) hinj
      (Finset.mem_univ (⟨i, hi⟩ : Fin pts.length))).symm
  · next hnone =>
    have hx : ∀ i ∈ (Finset.univ : Finset (Fin pts.length)), x ≠ (pts.get i).1 := fun i _ e =>
      absurd (decide_eq_true e.symm) (List.find?_eq_none.1 hnone _ (pts.get_mem i))
    rw [Lagrange.eval_interpolate_not_at_node _ hx, Lagrange.eval_nodal]
    refine congrArg₂ _ ?_ ?_
    · exact List.prod_eq_foldl.symm.trans (Fin.prod_univ_fun_getElem pts fun p => x - p.1).symm
    · refine List.sum_eq_foldl.symm.trans ((Lemmas.Alg2.sum_map_zipIdx pts _).trans ?_)
      exact Finset.sum_congr rfl fun i _ => congrArg (· * _ * _)
        (barycentricWeights_eq_nodalWeight' _ _ (List.length_map _) _
          (fun k => List.getElem_map _) i)

/-- … which is the model's definitional `lagrangeEval` (C05b `lagrangeEval_eq_interpolate`) -/
theorem baryInterpolate_eq_lagrangeEval (pts : List (K × K)) (hn : (pts.map Prod.fst).Nodup) (x : K) :
    @C15b.baryInterpolate K (FOps.ofField K) pts x
        (@Poly.barycentricWeights K (FOps.ofField K) (pts.map Prod.fst))
      = @Poly.lagrangeEval K (FOps.ofField K) pts x := by
  rw [baryInterpolate_eq_interpolate pts hn x, Props.C05.lagrangeEval_eq_interpolate]

/-! ## (f) `Z_H` on a coset -/

omit [DecidableEq K] in
theorem zpoly_periodic (g w : K) (nLog rate i : Nat) (hw : w ^ (2 ^ (nLog + rate)) = 1) :
    (g * w ^ i) ^ (2 ^ nLog) - 1 = g ^ (2 ^ nLog) * (w ^ (2 ^ nLog)) ^ (i % 2 ^ rate) - 1 := by
  have h1 : (w ^ (2 ^ nLog)) ^ (2 ^ rate) = 1 := by rw [← pow_mul, ← pow_add]; exact hw
  rw [mul_pow, ← pow_mul, Nat.mul_comm, pow_mul, pow_eq_pow_mod i h1]

/-- `ZeroPolyOnCoset::eval(i) = evals[i % rate]` is `Z_H(g·w^i)` as the driver's `zpoly` request
computes it, for every `i` (`v = w^n` the generator of the subgroup of order `2^rate`) -/
theorem zeroPolyOnCosetEval_eq (g w v : K) (nLog rate i : Nat) (hw : w ^ (2 ^ (nLog + rate)) = 1)
    (hv : w ^ (2 ^ nLog) = v) :
    @C15b.zeroPolyOnCosetEval K (FOps.ofField K) g v nLog rate i
      = @C15b.zpolyAt K (FOps.ofField K) g w nLog i := by
  unfold C15b.zeroPolyOnCosetEval C15b.zeroPolyOnCosetEvals C15b.zpolyAt
  rw [List.getD_eq_getElem?_getD, List.getElem?_map,
    List.getElem?_range (Nat.mod_lt _ (Nat.two_pow_pos rate))]
  simp only [Option.map_some, Option.getD_some, Lemmas.C15.pow_eq]
  exact (hv ▸ zpoly_periodic g w nLog rate i hw).symm

end

/-! ## non-vacuity -/

section
open P2.C15b

theorem toPoly_ne_zero_of_coeff {K : Type} [Field K] (c : List K) (k : Nat) (h : c.getD k 0 ≠ 0) :
    toPoly c ≠ 0 :=
  fun e => h (by rw [← toPoly_coeff, e]; simp)

private theorem b_ne : toPoly ([1, 1] : List ℚ) ≠ 0 := toPoly_ne_zero_of_coeff _ 0 (by norm_num)

/-- (a) `1 + 2X + 0·X²` -/
example : @Poly.degreePlusOne ℚ (FOps.ofField ℚ) [1, 2, 0] = (toPoly ([1, 2, 0] : List ℚ)).natDegree + 1 :=
  degreePlusOne_eq_natDegree_succ _ (toPoly_ne_zero_of_coeff _ 0 (by norm_num))

example : @Poly.degreePlusOne ℚ (FOps.ofField ℚ) [1, 2, 0] = 2 := by decide
example : @Poly.trim ℚ (FOps.ofField ℚ) [1, 2, 0] = [1, 2] := by decide

/-- (b) `(1 + X)²` has three coefficients; `(1 + X)(X − 1) = X² − 1` -/
example : (@Poly.mul ℚ (FOps.ofField ℚ) [1, 1] [1, 1]).length = 3 :=
  mul_length _ _ (by simp) (by simp)
example : @Poly.mul ℚ (FOps.ofField ℚ) [1, 1] [-1, 1] = [-1, 0, 1] := by decide +kernel

/-- (c) `X² − 1 = (X − 1)(X + 1)`; `X² + 1 = (X − 1)(X + 1) + 2` -/
example : ∃ q r, @Poly.divRem ℚ (FOps.ofField ℚ) [-1, 0, 1] [1, 1] = some (q, r) ∧
    toPoly ([-1, 0, 1] : List ℚ) = toPoly q * toPoly [1, 1] + toPoly r ∧
    (toPoly r).degree < (toPoly ([1, 1] : List ℚ)).degree ∧
    q.getLast? ≠ some 0 ∧ r.getLast? ≠ some 0 := divRem_spec _ _ b_ne
example : ∃ q r, @Poly.divRem ℚ (FOps.ofField ℚ) [-1, 0, 1] [1, 1] = some (q, r) ∧
    toPoly q = toPoly ([-1, 0, 1] : List ℚ) / toPoly [1, 1] ∧
    toPoly r = toPoly ([-1, 0, 1] : List ℚ) % toPoly [1, 1] ∧
    q.getLast? ≠ some 0 ∧ r.getLast? ≠ some 0 := divRem_eq_div_mod _ _ b_ne
example : @Poly.divRem ℚ (FOps.ofField ℚ) [-1, 0, 1] [1, 1] = some ([-1, 1], []) := by decide +kernel
example : @Poly.divRem ℚ (FOps.ofField ℚ) [1, 0, 1] [1, 1, 0] = some ([-1, 1], [2]) := by decide +kernel
/-- zero divisor, nonzero dividend: `none`; zero dividend: `some ([], [])` even for the zero divisor -/
example : @Poly.divRem ℚ (FOps.ofField ℚ) [1] [0, 0] = none :=
  (divRem_eq_none_iff _ _).2 ⟨by
    apply (degreePlusOne_eq_zero_iff _).1; decide, toPoly_ne_zero_of_coeff _ 0 (by norm_num)⟩
example : @Poly.divRem ℚ (FOps.ofField ℚ) [0, 0] [] = some ([], []) :=
  divRem_zero_left _ _ ((degreePlusOne_eq_zero_iff _).1 (by decide))
example := divRem_some ([0, 0] : List ℚ) [] [] []
  (divRem_zero_left _ _ ((degreePlusOne_eq_zero_iff _).1 (by decide)))
example : (X : ℚ[X]) = (X ^ 2) / X ∧ (0 : ℚ[X]) = (X ^ 2) % X :=
  div_mod_unique X_ne_zero (by rw [add_zero, sq]) (by rw [degree_zero, degree_X]; decide)
/-- the loop from the initial state of `divRem [0,0,1] [1,1]` -/
example := divRem_loop_spec ([1, 1] : List ℚ) (by simp) (by simp) (toPoly [0, 0, 1]) 4 #[0, 0] [0, 0, 1]
  (lt_of_le_of_lt (Lemmas.C15Poly.dpo_le_length _) (by simp))
  (by rw [show (#[0, 0] : Array ℚ).toList = List.replicate 2 0 from rfl,
        Lemmas.C15Poly.toPoly_replicate_zero]; simp)
  (lt_of_le_of_lt (Lemmas.C15Poly.dpo_le_length _) (by simp))
  (by intro j _; rcases j with _ | _ | j <;> rfl)

-- (d) over `ZMod 17`, with the roots `16` of order 2 and `4` of order 4 (`4² = 16`)
local instance : Fact (Nat.Prime 17) := ⟨by decide⟩

def pr17 (n : Nat) : ZMod 17 := if n = 1 then 16 else if n = 2 then 4 else 1

theorem pr17_one : IsPrimitiveRoot (pr17 1) (2 ^ 1) := by
  show IsPrimitiveRoot (16 : ZMod 17) 2
  refine IsPrimitiveRoot.mk_of_lt _ (by decide) (by decide) ?_
  intro l h0 hl
  interval_cases l
  decide

theorem pr17_two : IsPrimitiveRoot (pr17 (1 + 1)) (2 ^ (1 + 1)) := by
  show IsPrimitiveRoot (4 : ZMod 17) 4
  refine IsPrimitiveRoot.mk_of_lt _ (by decide) (by decide) ?_
  intro l h0 hl
  interval_cases l <;> decide

example := two_pow_ne_zero_of_primitive pr17_one
example := fft_spec pr17 pr17_one #[1, 2] rfl
example := cosetFft_spec pr17 pr17_one 3 #[1, 2] rfl
example := cosetIfft_cosetFft pr17 pr17_one 3 (by decide) #[1, 2] rfl
example := cosetFft_cosetIfft pr17 pr17_one 3 (by decide) #[1, 2] rfl
example := ldeCoeffs_spec pr17 (lgN := 1) (rate := 1) pr17_two #[1, 2] (by decide)
example := ldeCoeffs_subsample pr17 pr17_one pr17_two (by decide) #[1, 2] rfl
example := lde_spec pr17 pr17_one pr17_two (by decide) #[1, 2] rfl

/-- (e) the line through `(1, 3)`, `(2, 5)` at `4` -/
example := baryInterpolate_eq_interpolate ([(1, 3), (2, 5)] : List (ℚ × ℚ)) (by simp) 4
example := baryInterpolate_eq_lagrangeEval ([(1, 3), (2, 5)] : List (ℚ × ℚ)) (by simp) 4
example : @C15b.baryInterpolate ℚ (FOps.ofField ℚ) [(1, 3), (2, 5)] 4
    (@Poly.barycentricWeights ℚ (FOps.ofField ℚ) [1, 2]) = 9 := by decide +kernel

/-- distinctness is needed: with a repeated node the Rust-style `interpolate` returns the first
listed value, the definitional `lagrangeEval` returns `0` (`0⁻¹ = 0` in every term) -/
example : @C15b.baryInterpolate ℚ (FOps.ofField ℚ) [(1, 3), (1, 5)] 1
    (@Poly.barycentricWeights ℚ (FOps.ofField ℚ) [1, 1]) = 3 := by decide +kernel
example : @Poly.lagrangeEval ℚ (FOps.ofField ℚ) [(1, 3), (1, 5)] 1 = 0 := by decide +kernel

/-- (f) over `ZMod 17`: `n = 2`, `rate = 2`, `w = 2` of order 8, `v = w² = 4`, `g = 3`, `i = 5` -/
example := zpoly_periodic (3 : ZMod 17) 2 1 2 5 (by decide)
example := zeroPolyOnCosetEval_eq (3 : ZMod 17) 2 4 1 2 5 (by decide) (by decide)

end

end P2.Props.C15b
