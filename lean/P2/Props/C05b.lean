/-
C05b (FRI algebra over an arbitrary field `K`):
 F1 the model's `Poly.lagrangeEval` is Mathlib's Lagrange interpolant; interpolating the values of
    a polynomial of degree `< #points` gives back the polynomial;
 F2 the fold identity: interpolating `P` on the coset `x·⟨g⟩` and evaluating at `β` is the prover's
    fold `Σ β^i P_i` evaluated at `x^r` (completeness of every FRI layer check);
 F3 the verifier's combination `(reduce(evals) − reduce(openings))/(x − z)` is the evaluation at `x`
    of the quotient polynomial `divide_by_linear` produces, when the openings are the true values;
 F4 a wrong opening makes the batched numerator non-divisible by `X − z` for all but `≤ n − 1`
    values of `α`.
-/
import P2.Lemmas.Alg2
import P2.Props.C15
namespace P2.Props.C05
open P2 Polynomial P2.Lemmas.Alg2

variable {K : Type} [Field K]

/-! ## F1 `lagrangeEval` is Lagrange interpolation -/

section
variable [DecidableEq K]

/-- `Poly.lagrangeEval` (over the operations of a field) is the evaluation at `x` of Mathlib's
`Lagrange.interpolate` through the listed points, indexed by position. No distinctness hypothesis
is needed for this equality: both sides use `0⁻¹ = 0` in the same way. -/
theorem lagrangeEval_eq_interpolate (pts : List (K × K)) (x : K) :
    @Poly.lagrangeEval K (FOps.ofField K) pts x
      = (Lagrange.interpolate Finset.univ (fun i : Fin pts.length => pts[i].1)
          (fun i : Fin pts.length => pts[i].2)).eval x :=
  lagrangeEval_eq_interpolate_univ pts x

/-- the same with nodes a `Finset K`: for pairwise distinct x-coordinates and any function `r`
taking the listed values, `lagrangeEval` is `interpolate nodes id r` evaluated at `x` -/
theorem lagrangeEval_eq_interpolate_finset (pts : List (K × K)) (hn : (pts.map Prod.fst).Nodup)
    (r : K → K) (hr : ∀ p ∈ pts, r p.1 = p.2) (x : K) :
    @Poly.lagrangeEval K (FOps.ofField K) pts x
      = (Lagrange.interpolate (pts.map Prod.fst).toFinset id r).eval x := by
  have hinj := Lemmas.C15.injOn_fst_get pts hn
  rw [lagrangeEval_eq_interpolate_univ]
  refine congrArg (eval x) (Lagrange.eq_interpolate_of_eval_eq _ (Set.injOn_id _) ?_ fun a ha => ?_)
  · rw [List.toFinset_card_of_nodup hn, List.length_map]
    exact (Lagrange.degree_interpolate_lt _ hinj).trans_eq
      (by rw [Finset.card_univ, Fintype.card_fin])
  · obtain ⟨p, hp, rfl⟩ := List.mem_map.1 (List.mem_toFinset.1 ha)
    obtain ⟨i, rfl⟩ := List.get_of_mem hp
    exact (Lagrange.eval_interpolate_at_node _ hinj (Finset.mem_univ i)).trans (hr _ hp).symm

/-- interpolation reproduces polynomials: if the points are the values of `p` at pairwise distinct
nodes and `deg p < #points`, then `lagrangeEval points x = p(x)` for every `x` -/
theorem lagrangeEval_eq_poly_eval (nodes : List K) (hn : nodes.Nodup) (p : K[X])
    (hp : p.natDegree < nodes.length) (pts : List (K × K))
    (hpts : pts = nodes.map (fun a => (a, p.eval a))) (x : K) :
    @Poly.lagrangeEval K (FOps.ofField K) pts x = p.eval x := by
  subst hpts
  exact lagrangeEval_of_poly nodes hn p
    (lt_of_le_of_lt degree_le_natDegree (by exact_mod_cast hp)) x

/-- the same with the `degree` bound (covers `p = 0` with no points) -/
theorem lagrangeEval_eq_poly_eval' (nodes : List K) (hn : nodes.Nodup) (p : K[X])
    (hp : p.degree < nodes.length) (x : K) :
    @Poly.lagrangeEval K (FOps.ofField K) (nodes.map fun a => (a, p.eval a)) x = p.eval x :=
  lagrangeEval_of_poly nodes hn p hp x

end

/-! ## F2 the fold identity -/

/-- `P = Σ_{i<r} X^i·P_i(X^r)` evaluated: `P(w) = Σ w^i · P_i(w^r)` -/
theorem splitPoly_eval (r : Nat) (Pi : Fin r → K[X]) (w : K) :
    (splitPoly Pi).eval w = ∑ i : Fin r, w ^ (i : Nat) * (Pi i).eval (w ^ r) :=
  Lemmas.Alg2.splitPoly_eval Pi w

/-- `Q(Y) = Σ_{i<r} P_i(x^r)·Y^i` has degree `< r` … -/
theorem cosetPoly_degree_lt (r : Nat) (Pi : Fin r → K[X]) (y : K) :
    (cosetPoly Pi y).degree < r := Lemmas.Alg2.cosetPoly_degree_lt Pi y

/-- … and agrees with `P` on the whole coset `x·⟨g⟩` (`g^r = 1` suffices) -/
theorem splitPoly_eq_cosetPoly_on_coset (r : Nat) (Pi : Fin r → K[X]) (g x : K) (hg : g ^ r = 1)
    (j : Nat) :
    (splitPoly Pi).eval (x * g ^ j) = (cosetPoly Pi (x ^ r)).eval (x * g ^ j) :=
  Lemmas.Alg2.splitPoly_eval_coset Pi hg x j

/-- `Q(β)` is the prover's fold `Σ β^i P_i` at `x^r` -/
theorem cosetPoly_eval_eq_fold (r : Nat) (Pi : Fin r → K[X]) (y β : K) :
    (cosetPoly Pi y).eval β = (foldPoly Pi β).eval y := by
  rw [cosetPoly_eval, foldPoly_eval]

/-- every polynomial has such a split (so the fold identity applies to every `P`), and a degree
bound `deg P < d·r` gives `deg P_i < d`, hence `deg (Σ β^i P_i) < d`: folding divides the degree
bound by the arity -/
theorem split_exists (P : K[X]) (d r : Nat) (hlt : P.natDegree < d * r) :
    ∃ Pi : Fin r → K[X], splitPoly Pi = P ∧ (∀ i, (Pi i).degree < d) ∧
      ∀ β, (foldPoly Pi β).degree < d := by
  obtain ⟨Pi, h1, h2⟩ := exists_splitPoly_of_natDegree_lt P d r hlt
  exact ⟨Pi, h1, h2, fun β => foldPoly_degree_lt Pi β d h2⟩

section
variable [DecidableEq K]

/-- **fold identity**: with `g` a primitive `r`-th root of unity and `x ≠ 0`, interpolating
`{(x·g^j, P(x·g^j))}_{j<r}` and evaluating at `β` gives `Σ_{i<r} β^i · P_i(x^r)`. -/
theorem fold_identity (r : Nat) (g x : K) (hg : IsPrimitiveRoot g r) (hx : x ≠ 0)
    (Pi : Fin r → K[X]) (β : K) :
    @Poly.lagrangeEval K (FOps.ofField K)
        ((List.range r).map fun j => (x * g ^ j, (splitPoly Pi).eval (x * g ^ j))) β
      = ∑ i : Fin r, β ^ (i : Nat) * (Pi i).eval (x ^ r) := by
  have h1 : ((List.range r).map fun j => (x * g ^ j, (splitPoly Pi).eval (x * g ^ j)))
      = ((List.range r).map fun j => x * g ^ j).map
          fun a => (a, (cosetPoly Pi (x ^ r)).eval a) := by
    rw [List.map_map]
    apply List.map_congr_left
    intro j _
    simp [Lemmas.Alg2.splitPoly_eval_coset Pi hg.pow_eq_one x j]
  rw [h1, lagrangeEval_of_poly _ (coset_nodup hg hx) _ (by simpa using Lemmas.Alg2.cosetPoly_degree_lt Pi (x ^ r)),
    cosetPoly_eval]

/-- the statement with `P` and the fold spelled out (no auxiliary definitions) -/
theorem fold_identity_explicit (r : Nat) (g x : K) (hg : IsPrimitiveRoot g r) (hx : x ≠ 0)
    (Pi : Fin r → K[X]) (β : K) :
    @Poly.lagrangeEval K (FOps.ofField K)
        ((List.range r).map fun j =>
          (x * g ^ j, (∑ i : Fin r, X ^ (i : Nat) * (Pi i).comp (X ^ r) : K[X]).eval (x * g ^ j))) β
      = (∑ i : Fin r, C (β ^ (i : Nat)) * Pi i : K[X]).eval (x ^ r) := by
  have := fold_identity r g x hg hx Pi β
  rw [← foldPoly_eval] at this
  exact this

/-- `r = 2^a` (the FRI arities) -/
theorem fold_identity_pow2 (a : Nat) (g x : K) (hg : IsPrimitiveRoot g (2 ^ a)) (hx : x ≠ 0)
    (Pi : Fin (2 ^ a) → K[X]) (β : K) :
    @Poly.lagrangeEval K (FOps.ofField K)
        ((List.range (2 ^ a)).map fun j => (x * g ^ j, (splitPoly Pi).eval (x * g ^ j))) β
      = (foldPoly Pi β).eval (x ^ 2 ^ a) := by
  rw [fold_identity _ g x hg hx Pi β, foldPoly_eval]

/-- completeness of one FRI layer check, in the shape of `compute_evaluation`: the verifier is
handed the coset evaluations `ev` (already in natural order) and interpolates the points
`(cosetStart·g^i, ev[i])`; if `ev` are the true values of `P`, the result is the value at `x^r`
of the prover's next-layer polynomial `Σ β^i P_i`. -/
theorem fold_layer_complete (a : Nat) (g cosetStart : K) (hg : IsPrimitiveRoot g (2 ^ a))
    (hx : cosetStart ≠ 0) (Pi : Fin (2 ^ a) → K[X]) (β : K) (ev : List K)
    (hev : ∀ j, j < 2 ^ a → ev.getD j 0 = (splitPoly Pi).eval (cosetStart * g ^ j)) :
    @Poly.lagrangeEval K (FOps.ofField K)
        ((List.range (2 ^ a)).map fun i => (cosetStart * g ^ i, ev.getD i 0)) β
      = (foldPoly Pi β).eval (cosetStart ^ 2 ^ a) := by
  rw [← fold_identity_pow2 a g cosetStart hg hx Pi β]
  congr 1
  apply List.map_congr_left
  intro j hj
  rw [hev j (List.mem_range.1 hj)]

/-- **completeness of a FRI layer for an arbitrary polynomial** of degree `< d·2^a`: there is a
polynomial `P'` of degree `< d` (the prover's fold) such that, for every `x ≠ 0`, interpolating the
values of `P` on the coset `x·⟨g⟩` and evaluating at `β` gives `P'(x^(2^a))` -/
theorem fold_layer_complete_any (a : Nat) (g : K) (hg : IsPrimitiveRoot g (2 ^ a)) (P : K[X])
    (d : Nat) (hlt : P.natDegree < d * 2 ^ a) (β : K) :
    ∃ P' : K[X], P'.degree < d ∧ ∀ x : K, x ≠ 0 →
      @Poly.lagrangeEval K (FOps.ofField K)
          ((List.range (2 ^ a)).map fun j => (x * g ^ j, P.eval (x * g ^ j))) β
        = P'.eval (x ^ 2 ^ a) := by
  obtain ⟨Pi, h1, _, h3⟩ := split_exists P d (2 ^ a) hlt
  refine ⟨foldPoly Pi β, h3 β, fun x hx => ?_⟩
  rw [← h1]
  exact fold_identity_pow2 a g x hg hx Pi β

end

/-! ## F3 combining openings (completeness direction) -/

theorem quotient_eval (F : K[X]) (z x : K) (hx : x ≠ z) :
    (F /ₘ (X - C z)).eval x = (F.eval x - F.eval z) / (x - z) := by
  have h := congrArg (eval x) (modByMonic_add_div F (X - C z))
  rw [modByMonic_X_sub_C_eq_C_eval] at h
  simp only [eval_add, eval_C, eval_mul, eval_sub, eval_X] at h
  exact eq_div_of_mul_eq (sub_ne_zero.2 hx) (by rw [← h, add_sub_cancel_left, mul_comm])

/-- dividing by `X − z` commutes with the `α`-combination -/
theorem combine_divByMonic (n : Nat) (F : Nat → K[X]) (α z : K) :
    (∑ k ∈ Finset.range n, C (α ^ k) * F k) /ₘ (X - C z)
      = ∑ k ∈ Finset.range n, C (α ^ k) * (F k /ₘ (X - C z)) := by
  refine (div_modByMonic_unique _ (C (∑ k ∈ Finset.range n, α ^ k * (F k).eval z))
    (monic_X_sub_C z) ⟨?_, ?_⟩).1
  · rw [map_sum, Finset.mul_sum, ← Finset.sum_add_distrib]
    refine Finset.sum_congr rfl fun k _ => ?_
    rw [C_mul, mul_left_comm (X - C z), ← mul_add, ← modByMonic_X_sub_C_eq_C_eval,
      modByMonic_add_div]
  · exact degree_C_le.trans_lt (by rw [degree_X_sub_C]; exact zero_lt_one)

/-- **combine identity**: when the claimed openings are the true values `F_k(z)`, the verifier's
`(Σ α^k F_k(x) − Σ α^k F_k(z)) / (x − z)` is the evaluation at `x` of the batched quotient
polynomial `Σ α^k · (F_k /ₘ (X − z))` the prover committed to. -/
theorem combine_identity (n : Nat) (F : Nat → K[X]) (α z x : K) (hx : x ≠ z) :
    (∑ k ∈ Finset.range n, α ^ k * (F k).eval x - ∑ k ∈ Finset.range n, α ^ k * (F k).eval z)
        / (x - z)
      = (∑ k ∈ Finset.range n, C (α ^ k) * (F k /ₘ (X - C z))).eval x := by
  rw [eval_finsetSum, ← Finset.sum_sub_distrib, div_eq_mul_inv, Finset.sum_mul]
  apply Finset.sum_congr rfl
  intro k _
  rw [eval_mul, eval_C, quotient_eval _ _ _ hx]
  ring

/-- the same with the quotient of the batched polynomial -/
theorem combine_identity' (n : Nat) (F : Nat → K[X]) (α z x : K) (hx : x ≠ z) :
    (∑ k ∈ Finset.range n, α ^ k * (F k).eval x - ∑ k ∈ Finset.range n, α ^ k * (F k).eval z)
        / (x - z)
      = ((∑ k ∈ Finset.range n, C (α ^ k) * F k) /ₘ (X - C z)).eval x := by
  rw [combine_identity n F α z x hx, combine_divByMonic]

section
variable [DecidableEq K]

/-- the model's `divide_by_linear` on coefficient lists is `/ₘ (X − C z)` -/
theorem divideByLinear_eq_divByMonic (c : List K) (z : K) :
    ofList (@Poly.divideByLinear K (FOps.ofField K) c z) = ofList c /ₘ (X - C z) :=
  ofList_divideByLinear c z

/-- **combine identity on the model's own operations**: with `reduce_with_powers`, Horner
evaluation and `divide_by_linear` as modelled, for coefficient lists `cs`:
`(reduce(evals at x) − reduce(evals at z)) · (x − z)⁻¹ = reduce(evals of the quotients at x)` -/
theorem combine_identity_lists (cs : List (List K)) (α z x : K) (hx : x ≠ z) :
    (@FOps.reduceWithPowers K (FOps.ofField K)
          (cs.map fun c => @Poly.eval K (FOps.ofField K) c x) α
        - @FOps.reduceWithPowers K (FOps.ofField K)
          (cs.map fun c => @Poly.eval K (FOps.ofField K) c z) α) * (x - z)⁻¹
      = @FOps.reduceWithPowers K (FOps.ofField K)
          (cs.map fun c =>
            @Poly.eval K (FOps.ofField K) (@Poly.divideByLinear K (FOps.ofField K) c z) x) α := by
  have hne : x - z ≠ 0 := sub_ne_zero.2 hx
  rw [mul_inv_eq_iff_eq_mul₀ hne]
  induction cs with
  | nil => show (0 : K) - 0 = 0 * (x - z); ring
  | cons c cs ih =>
    simp only [FOps.reduceWithPowers, List.map_cons, List.foldr_cons] at ih ⊢
    have hs := Props.C15.divideByLinear_spec c z x
    linear_combination (α) * ih + hs

end

/-! ## F4 combining openings (soundness direction) -/

/-- if some claimed opening is wrong, `Σ α^k (F_k − v_k)` is divisible by `X − z` for at most
`n − 1` values of `α` -/
theorem combine_soundness (n : Nat) (F : Nat → K[X]) (v : Nat → K) (z : K)
    (hbad : ∃ k, k < n ∧ v k ≠ (F k).eval z) (A : Finset K)
    (hA : ∀ α ∈ A, (X - C z) ∣ ∑ k ∈ Finset.range n, C (α ^ k) * (F k - C (v k))) :
    A.card ≤ n - 1 := by
  obtain ⟨k0, hk0, hne⟩ := hbad
  -- the polynomial in `α` with coefficients `F_k(z) − v_k`: nonzero of degree `< n`, vanishing on `A`
  generalize hD : (∑ k ∈ Finset.range n, C ((F k).eval z - v k) * X ^ k : K[X]) = D
  have hcoeff : ∀ m, D.coeff m = if m ∈ Finset.range n then (F m).eval z - v m else 0 := fun m => by
    rw [← hD, finsetSum_coeff]
    simp only [coeff_C_mul_X_pow]
    exact Finset.sum_ite_eq _ _ _
  have hD0 : D ≠ 0 := fun h => hne (sub_eq_zero.1
    ((if_pos (Finset.mem_range.2 hk0)).symm.trans ((hcoeff k0).symm.trans (by rw [h, coeff_zero])))).symm
  have hnat : D.natDegree < n := (natDegree_lt_iff_degree_lt hD0).2 <|
    (degree_lt_iff_coeff_zero _ _).2 fun m hm => by
      rw [hcoeff, if_neg (fun h => Nat.not_lt.2 hm (Finset.mem_range.1 h))]
  have hsub : A.val ⊆ D.roots := fun α hα => by
    rw [mem_roots hD0, IsRoot.def, ← hD, eval_finsetSum]
    refine Eq.trans (Finset.sum_congr rfl fun k _ => ?_)
      ((eval_finsetSum _ _ _).symm.trans (dvd_iff_isRoot.1 (hA α hα)))
    rw [eval_mul, eval_C, eval_pow, eval_X, eval_mul, eval_C, eval_sub, eval_C, mul_comm]
  exact Nat.le_sub_one_of_lt (Nat.lt_of_le_of_lt (card_le_degree_of_subset_roots hsub) hnat)

/-! ## non-vacuity -/

/-- two points: the line through `(1, 3)` and `(2, 5)` at `x = 4` -/
example : @Poly.lagrangeEval ℚ (FOps.ofField ℚ) [(1, 3), (2, 5)] 4 = 9 := by decide +kernel

/-- `r = 2`, `g = −1` over `ℚ`: folding `P = P₀(X²) + X·P₁(X²)` -/
example (P0 P1 : ℚ[X]) (x β : ℚ) (hx : x ≠ 0) :
    @Poly.lagrangeEval ℚ (FOps.ofField ℚ)
        ((List.range 2).map fun j =>
          (x * (-1) ^ j, (splitPoly ![P0, P1]).eval (x * (-1) ^ j))) β
      = P0.eval (x ^ 2) + β * P1.eval (x ^ 2) := by
  rw [fold_identity 2 (-1) x (Lemmas.C15.isPrimitiveRoot_neg_one two_ne_zero) hx]
  simp [Fin.sum_univ_succ]

end P2.Props.C05
