/-
C13 property theorems: the optimised Poseidon layers of `P2.PoseidonFast` compute, on every
(not necessarily canonical) `u64` representation and without tripping any unchecked assumption, the
textbook layers modulo `P`; the native and the in-circuit challenger agree on every history (and absorbing `xs ++ ys` is
absorbing `xs`, then `ys`: `observeMany_append`, which `P2.Lemmas.C04` builds on); the S-box is a
permutation of the field.  The lemmas used are in `P2.Lemmas.C13` and, for the word arithmetic, in
`P2.Lemmas.GL0`.  At the end, one theorem of the namespace `P2.Props.C13Gen` that needs those lemmas too.
-/
import P2.Lemmas.C13
namespace P2.Props.C13
open P2 P2.L0 P2.PoseidonFast P2.Lemmas.C13

/-- `mds_multiply_freq` equals the circulant product `out[r] = Σ_i circ[i]·s[(i+r) mod 12]` on
every integer input (no range restriction: the routine is linear with literal block constants). -/
theorem mdsMultiplyFreq_eq_circulant (s0 s1 s2 s3 s4 s5 s6 s7 s8 s9 s10 s11 : Int) :
    mdsMultiplyFreq #[s0, s1, s2, s3, s4, s5, s6, s7, s8, s9, s10, s11] =
      (List.range 12).map (circulant #[s0, s1, s2, s3, s4, s5, s6, s7, s8, s9, s10, s11]) :=
  freq_eq_circulant _

/-- the same for an array; the size hypothesis is not needed, only the cells `s[0]!`, …, `s[11]!` are read -/
theorem mdsMultiplyFreq_eq_circulant_array (s : Array Int) (hs : s.size = 12) :
    mdsMultiplyFreq s = (List.range 12).map (circulant s) :=
  freq_eq_circulant s

/-- the twelve outputs as explicit linear forms (first row of the circulant:
`17 15 41 16 2 28 13 13 39 18 34 20`) -/
theorem mdsMultiplyFreq_explicit (s0 s1 s2 s3 s4 s5 s6 s7 s8 s9 s10 s11 : Int) :
    mdsMultiplyFreq #[s0, s1, s2, s3, s4, s5, s6, s7, s8, s9, s10, s11] =
   [17*s0 + 15*s1 + 41*s2 + 16*s3 + 2*s4 + 28*s5 + 13*s6 + 13*s7 + 39*s8 + 18*s9 + 34*s10 + 20*s11,
    17*s1 + 15*s2 + 41*s3 + 16*s4 + 2*s5 + 28*s6 + 13*s7 + 13*s8 + 39*s9 + 18*s10 + 34*s11 + 20*s0,
    17*s2 + 15*s3 + 41*s4 + 16*s5 + 2*s6 + 28*s7 + 13*s8 + 13*s9 + 39*s10 + 18*s11 + 34*s0 + 20*s1,
    17*s3 + 15*s4 + 41*s5 + 16*s6 + 2*s7 + 28*s8 + 13*s9 + 13*s10 + 39*s11 + 18*s0 + 34*s1 + 20*s2,
    17*s4 + 15*s5 + 41*s6 + 16*s7 + 2*s8 + 28*s9 + 13*s10 + 13*s11 + 39*s0 + 18*s1 + 34*s2 + 20*s3,
    17*s5 + 15*s6 + 41*s7 + 16*s8 + 2*s9 + 28*s10 + 13*s11 + 13*s0 + 39*s1 + 18*s2 + 34*s3 + 20*s4,
    17*s6 + 15*s7 + 41*s8 + 16*s9 + 2*s10 + 28*s11 + 13*s0 + 13*s1 + 39*s2 + 18*s3 + 34*s4 + 20*s5,
    17*s7 + 15*s8 + 41*s9 + 16*s10 + 2*s11 + 28*s0 + 13*s1 + 13*s2 + 39*s3 + 18*s4 + 34*s5 + 20*s6,
    17*s8 + 15*s9 + 41*s10 + 16*s11 + 2*s0 + 28*s1 + 13*s2 + 13*s3 + 39*s4 + 18*s5 + 34*s6 + 20*s7,
    17*s9 + 15*s10 + 41*s11 + 16*s0 + 2*s1 + 28*s2 + 13*s3 + 13*s4 + 39*s5 + 18*s6 + 34*s7 + 20*s8,
    17*s10 + 15*s11 + 41*s0 + 16*s1 + 2*s2 + 28*s3 + 13*s4 + 13*s5 + 39*s6 + 18*s7 + 34*s8 + 20*s9,
    17*s11 + 15*s0 + 41*s1 + 16*s2 + 2*s3 + 28*s4 + 13*s5 + 13*s6 + 39*s7 + 18*s8 + 34*s9 + 20*s10] := by
  rw [freq_eq_circulant]
  simp only [range12, List.map_cons, List.map_nil, circulant_explicit, Nat.reduceAdd, Nat.reduceMod,
    List.getElem!_toArray, List.getElem!_cons_succ, List.getElem!_cons_zero]

/-- on 32-bit limbs every output is a non-negative integer below `2^40`, hence a valid `u64`/`i64`: the
`as u64` casts of the Rust code are value-preserving -/
theorem mdsMultiplyFreq_range (s : Array Int)
    (hb : ∀ i, i < 12 → (0 : Int) ≤ s[i]! ∧ s[i]! < (2 : Int) ^ 32) :
    ∀ x ∈ mdsMultiplyFreq s, 0 ≤ x ∧ x < 2 ^ 40 := by
  intro x hx
  rw [freq_eq_circulant] at hx
  obtain ⟨r, _, rfl⟩ := List.mem_map.mp hx
  have hj := fun i => hb ((i + r) % 12) (Nat.mod_lt _ (by decide))
  -- the cells read are non-negative, so the row is the cast of a sum of natural numbers
  rw [circulant_eq_sum,
    List.map_congr_left (g := fun i => (circ i : Int) * ((s[(i + r) % 12]!.toNat : Nat) : Int))
      fun i _ => by rw [Int.toNat_of_nonneg (hj i).1],
    sum_cast]
  exact ⟨Int.natCast_nonneg _, by
    exact_mod_cast row_bound _ fun i => (Int.toNat_lt (hj i).1).mpr (hj i).2⟩

/-- with the `2^64` bound used by `mdsLayer`'s `okRange` flag as a corollary -/
theorem mdsMultiplyFreq_range_array (s : Array Int) (hs : s.size = 12)
    (hb : ∀ i, i < 12 → (0 : Int) ≤ s[i]! ∧ s[i]! < (2 : Int) ^ 32) :
    ∀ x ∈ mdsMultiplyFreq s, 0 ≤ x ∧ x < 2 ^ 40 ∧ x < (W64 : Int) := fun x hx =>
  have h := mdsMultiplyFreq_range s hb x hx
  ⟨h.1, h.2, Int.lt_trans h.2 (by decide)⟩

/-- for every state of twelve `u64` words (canonical or not): no trap, outputs are `u64`s, and
`out[r] ≡ Σ_i circ[i]·s[(i+r) mod 12] + diag[r]·s[r]  (mod P)` -/
theorem mdsLayer_spec (s : Array Nat) (hs : s.size = 12) (hb : ∀ i, i < 12 → s[i]! < W64) :
    (mdsLayer s).trap = false ∧ (mdsLayer s).st.size = 12 ∧
    ∀ r, r < 12 → (mdsLayer s).st[r]! < W64 ∧
      (mdsLayer s).st[r]! % P =
        (((List.range 12).map fun i => circ i * s[(i + r) % 12]!).sum + diag r * s[r]!) % P := by
  obtain ⟨h1, h2, h3⟩ := mdsLayer_rows s hs hb
  refine ⟨h1, h2, fun r hr => ⟨(h3 r hr).1, ?_⟩⟩
  rw [(h3 r hr).2]
  by_cases h0 : r = 0
  · subst h0; rw [if_pos rfl, diag0]
  · rw [if_neg h0, diag_pos r (Nat.pos_of_ne_zero h0) hr, Nat.zero_mul]

/-- the same with the diagonal spelled out (`diag = [8, 0, …, 0]`) -/
theorem mdsLayer_spec_diag (s : Array Nat) (hs : s.size = 12) (hb : ∀ i, i < 12 → s[i]! < W64) :
    (mdsLayer s).trap = false ∧
    ∀ r, r < 12 → (mdsLayer s).st[r]! < W64 ∧
      (mdsLayer s).st[r]! % P =
        (((List.range 12).map fun i => circ i * s[(i + r) % 12]!).sum +
          (if r = 0 then 8 * s[0]! else 0)) % P :=
  ⟨(mdsLayer_rows s hs hb).1, (mdsLayer_rows s hs hb).2.2⟩

theorem sbox_spec (x : Nat) (hx : x < W64) :
    (sbox x).trap = false ∧ (sbox x).val < W64 ∧ (sbox x).val % P = x ^ 7 % P := by
  refine (glSquare_good x hx).bind fun x2 h2 e2 => ?_
  refine (glSquare_good' h2 e2).bind fun x4 h4 e4 => ?_
  refine (glMul_good' hx h2 rfl e2).bind fun x3 h3 e3 => ?_
  exact (glMul_good' h3 h4 e3 e4).congr (by congr 1; ring)

theorem constantLayer_spec (s : Array Nat) (round : Nat) (hb : ∀ i, i < 12 → s[i]! < W64)
    (hr : round < 30) :
    (constantLayer s round).trap = false ∧ (constantLayer s round).st.size = 12 ∧
    ∀ i, i < 12 → (constantLayer s round).st[i]! < W64 ∧
      (constantLayer s round).st[i]! % P =
        (s[i]! + Gen.ALL_ROUND_CONSTANTS[i + 12 * round]!) % P := by
  have hg := fun i hi => addCanonicalU64_good _ _ (hb i hi) (round_const_lt i round hi hr)
  refine ⟨?_, ?_, fun i hi => ?_⟩
  · exact List.any_eq_false.mpr fun x hx => by
      obtain ⟨i, hi, rfl⟩ := List.mem_map.mp hx
      rw [(hg i (List.mem_range.mp hi)).1]
      exact Bool.false_ne_true
  · show (List.map _ (List.map _ (List.range 12))).toArray.size = 12
    rw [List.size_toArray, List.length_map, List.length_map, List.length_range]
  · dsimp only [constantLayer]
    rw [List.getElem!_toArray, List.map_map, getElem!_map_range _ hi]
    exact (hg i hi).2

/-- the native and the in-circuit challenger draw the same challenges on every history -/
theorem run_eq_rRun (p : Sponge.Perm) (ops : List Challenger.Op) (h0 : 0 < p.rate)
    (h1 : p.rate ≤ p.width)
    (h2 : ∀ st : Array P2.GL, st.size = p.width → (p.permute st).size = p.width) :
    Challenger.run p ops = Challenger.rRun p ops := by
  have hp : PermOk p := ⟨h0, h1, h2⟩
  rw [run_eq, rRun_eq]
  exact fold_rel hp ops _ _ (rel_refl hp _ (by simp [Challenger.init]) rfl) rfl

theorem observeMany_append (p : Sponge.Perm) (s : Challenger.St) (xs ys : List P2.GL) :
    Challenger.observeMany p s (xs ++ ys) =
      Challenger.observeMany p (Challenger.observeMany p s xs) ys :=
  List.foldl_append

/-- `x ↦ x^7` permutes the field (`18446744069414584321 = L0.P`; its primality,
`P2.Props.C14.P_prime`, is taken as an instance argument) -/
theorem sbox_bijective [Fact (Nat.Prime 18446744069414584321)] :
    Function.Bijective (fun x : ZMod 18446744069414584321 => x ^ 7) := by
  refine Function.bijective_iff_has_inverse.mpr ⟨fun y => y ^ 10540996611094048183, ?_, ?_⟩
  · intro x; show (x ^ 7) ^ 10540996611094048183 = x
    rw [← pow_mul]; exact pow7e x
  · intro x; show (x ^ 10540996611094048183) ^ 7 = x
    rw [← pow_mul, Nat.mul_comm]; exact pow7e x

end P2.Props.C13

namespace P2.Props.C13Gen
open P2 P2.Lemmas.C13

/-- the frequency-domain block constants are the (pre-scaled) 3-point transforms of the
circulant's first row: multiplying by them is the circulant product, in particular on the twelve
unit vectors -/
theorem freq_blocks_match_circulant_on_basis :
    ∀ k, k < 12 → ∀ r, r < 12 →
      (PoseidonFast.mdsMultiplyFreq ((Array.replicate 12 (0 : Int)).set! k 1))[r]! =
        PoseidonFast.circulant ((Array.replicate 12 (0 : Int)).set! k 1) r :=
  fun _ _ r hr => by rw [freq_eq_circulant, getElem!_map_range _ hr]

end P2.Props.C13Gen
