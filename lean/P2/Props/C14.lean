/-
C14: the L0 Goldilocks model computes field arithmetic modulo `P` and never traps on
well-formed inputs.  Property theorems only; helpers live in `P2/Lemmas/`.
-/
import P2.Lemmas.GL0
import P2.Lemmas.GL1
import P2.Lemmas.GL2

namespace P2.Props.C14
open P2.L0

theorem glAdd_spec (a b : Nat) (ha : a < W64) (hb : b < W64) :
    (glAdd a b).trap = false ∧ (glAdd a b).val < W64 ∧ (glAdd a b).val % P = (a + b) % P :=
  glAdd_good a b ha hb

theorem glSub_spec (a b : Nat) (ha : a < W64) (hb : b < W64) :
    (glSub a b).trap = false ∧ (glSub a b).val < W64 ∧ ((glSub a b).val + b) % P = a % P :=
  glSub_good a b ha hb

theorem glNeg_spec (a : Nat) (ha : a < W64) :
    (glNeg a).trap = false ∧ (glNeg a).val < P ∧ ((glNeg a).val + a) % P = 0 :=
  glNeg_good a ha

theorem toCanonical_spec (a : Nat) (ha : a < W64) : toCanonical a = a % P :=
  toCanonical_eq a ha

theorem reduce96_spec (xlo xhi : Nat) (h1 : xlo < W64) (h2 : xhi < W32) :
    (reduce96 xlo xhi).trap = false ∧ (reduce96 xlo xhi).val < W64 ∧
      (reduce96 xlo xhi).val % P = (xlo + xhi * W64) % P :=
  reduce96_good xlo xhi h1 h2

theorem reduce128_spec (x : Nat) (hx : x < W128) :
    (reduce128 x).trap = false ∧ (reduce128 x).val < W64 ∧ (reduce128 x).val % P = x % P :=
  reduce128_good x hx

example : 1461501636990620551361974531767172749817708281856 = 2 ^ 160 - 2 ^ 128 + 2 ^ 96 ∧
    1461501636990620551361974531767172749817708281856 = 2 ^ 96 * P := by decide

/-- the bound is `2^160 - 2^128 + 2^96 = 2^96 * P` -/
theorem reduce160_spec (xlo xhi : Nat) (h1 : xlo < W128) (h2 : xhi < W32)
    (h3 : xlo + xhi * W128 < 1461501636990620551361974531767172749817708281856) :
    (reduce160 xlo xhi).trap = false ∧ (reduce160 xlo xhi).val < W64 ∧
      (reduce160 xlo xhi).val % P = (xlo + xhi * W128) % P :=
  reduce160_good xlo xhi h1 h2 h3

theorem glMul_spec (a b : Nat) (ha : a < W64) (hb : b < W64) :
    (glMul a b).trap = false ∧ (glMul a b).val < W64 ∧ (glMul a b).val % P = (a * b) % P :=
  glMul_good a b ha hb

theorem glSquare_spec (a : Nat) (ha : a < W64) :
    (glSquare a).trap = false ∧ (glSquare a).val < W64 ∧ (glSquare a).val % P = (a * a) % P :=
  glSquare_good a ha

theorem glMulAcc_spec (s x y : Nat) (hs : s < W64) (hx : x < W64) (hy : y < W64) :
    (glMulAcc s x y).trap = false ∧ (glMulAcc s x y).val < W64 ∧
      (glMulAcc s x y).val % P = (s + x * y) % P :=
  glMulAcc_good s x y hs hx hy

theorem addCanonicalU64_spec (a rhs : Nat) (ha : a < W64) (hr : rhs < P) :
    (addCanonicalU64 a rhs).trap = false ∧ (addCanonicalU64 a rhs).val < W64 ∧
      (addCanonicalU64 a rhs).val % P = (a + rhs) % P :=
  addCanonicalU64_good a rhs ha hr

theorem subCanonicalU64_spec (a rhs : Nat) (ha : a < W64) (hr : rhs < P) :
    (subCanonicalU64 a rhs).trap = false ∧ (subCanonicalU64 a rhs).val < W64 ∧
      ((subCanonicalU64 a rhs).val + rhs) % P = a % P :=
  subCanonicalU64_good a rhs ha hr

/-- the guard `rhs < P` is necessary: a non-canonical `rhs` can trap -/
example : P ≤ 18446744073709551615 ∧ 18446744073709551615 < W64 ∧
    (addCanonicalU64 18446744073709551615 18446744073709551615).trap = true := by decide

theorem fromNoncanonicalI64_spec (n : Nat) (hn : n < W64) :
    (fromNoncanonicalI64 n).trap = false ∧ (fromNoncanonicalI64 n).val < P ∧
      ((fromNoncanonicalI64 n).val : Int) % 18446744069414584321 =
        (if 9223372036854775808 ≤ n then (n : Int) - 18446744073709551616 else (n : Int)) %
          18446744069414584321 :=
  fromNoncanonicalI64_good n hn

theorem expPow2_spec (a k : Nat) (ha : a < W64) :
    (expPow2 a k).trap = false ∧ (expPow2 a k).val < W64 ∧
      (expPow2 a k).val % P = (a ^ (2 ^ k)) % P :=
  expPow2_good k a a ha rfl

theorem expU64_spec (a e : Nat) (ha : a < W64) (_he : e < W64) :
    (expU64 a e).trap = false ∧ (expU64 a e).val < W64 ∧ (expU64 a e).val % P = (a ^ e) % P :=
  expU64_good a e ha

theorem P_prime : Nat.Prime P := P_prime_lit

theorem tryInverse_spec (a : Nat) (ha : a < W64) :
    (a % P = 0 → tryInverse a = none) ∧
    (a % P ≠ 0 → ∃ r, tryInverse a = some r ∧ r.trap = false ∧ r.val < W64 ∧
      (r.val * a) % P = 1) :=
  tryInverse_good a ha

/-! Delayed-reduction extension multiplication.
`extAddProds d w k a b` is coefficient `k` of `a * b` in `GF(P)[X]/(X^d - w)`:
`Σ_{i+j=k} a_i b_j + w * Σ_{i+j=k+d} a_i b_j`. -/

/-- `ext2_mul` (`X^2 = 7`): every coefficient is reduced correctly and nothing traps -/
theorem extMul_spec2_arr (a b : Array Nat) (ha : a.size = 2) (hb : b.size = 2)
    (hA : ∀ i, i < 2 → a[i]! < W64) (hB : ∀ i, i < 2 → b[i]! < W64) :
    ((extAddProds 2 7 0 a b).trap = false ∧ (extAddProds 2 7 0 a b).val < W64 ∧
      (extAddProds 2 7 0 a b).val % P =
        (a[0]! * b[0]! + 7 * (a[1]! * b[1]!)) % P) ∧
    ((extAddProds 2 7 1 a b).trap = false ∧ (extAddProds 2 7 1 a b).val < W64 ∧
      (extAddProds 2 7 1 a b).val % P =
        (a[0]! * b[1]! + a[1]! * b[0]!) % P) := by
  have hA' := mem_lt_of_getElem! ha hA
  have hB' := mem_lt_of_getElem! hb hB
  exact ⟨extAddProds_good 2 7 0 a b (.inr rfl) (by decide) (by decide) hA' hB',
    extAddProds_good 2 7 1 a b (.inr rfl) (by decide) (by decide) hA' hB'⟩

/-- `ext4_mul` (`X^4 = 7`): every coefficient is reduced correctly and nothing traps -/
theorem extMul_spec4_arr (a b : Array Nat) (ha : a.size = 4) (hb : b.size = 4)
    (hA : ∀ i, i < 4 → a[i]! < W64) (hB : ∀ i, i < 4 → b[i]! < W64) :
    ((extAddProds 4 7 0 a b).trap = false ∧ (extAddProds 4 7 0 a b).val < W64 ∧
      (extAddProds 4 7 0 a b).val % P =
        (a[0]! * b[0]! + 7 * (a[1]! * b[3]! + a[2]! * b[2]! + a[3]! * b[1]!)) % P) ∧
    ((extAddProds 4 7 1 a b).trap = false ∧ (extAddProds 4 7 1 a b).val < W64 ∧
      (extAddProds 4 7 1 a b).val % P =
        (a[0]! * b[1]! + a[1]! * b[0]! + 7 * (a[2]! * b[3]! + a[3]! * b[2]!)) % P) ∧
    ((extAddProds 4 7 2 a b).trap = false ∧ (extAddProds 4 7 2 a b).val < W64 ∧
      (extAddProds 4 7 2 a b).val % P =
        (a[0]! * b[2]! + a[1]! * b[1]! + a[2]! * b[0]! + 7 * (a[3]! * b[3]!)) % P) ∧
    ((extAddProds 4 7 3 a b).trap = false ∧ (extAddProds 4 7 3 a b).val < W64 ∧
      (extAddProds 4 7 3 a b).val % P =
        (a[0]! * b[3]! + a[1]! * b[2]! + a[2]! * b[1]! + a[3]! * b[0]!) % P) := by
  have hA' := mem_lt_of_getElem! ha hA
  have hB' := mem_lt_of_getElem! hb hB
  exact ⟨extAddProds_good 4 7 0 a b (.inr rfl) (by decide) (by decide) hA' hB',
    extAddProds_good 4 7 1 a b (.inr rfl) (by decide) (by decide) hA' hB',
    extAddProds_good 4 7 2 a b (.inr rfl) (by decide) (by decide) hA' hB',
    extAddProds_good 4 7 3 a b (.inr rfl) (by decide) (by decide) hA' hB'⟩

/-- `ext5_mul` (`X^5 = 3`): every coefficient is reduced correctly and nothing traps -/
theorem extMul_spec5_arr (a b : Array Nat) (ha : a.size = 5) (hb : b.size = 5)
    (hA : ∀ i, i < 5 → a[i]! < W64) (hB : ∀ i, i < 5 → b[i]! < W64) :
    ((extAddProds 5 3 0 a b).trap = false ∧ (extAddProds 5 3 0 a b).val < W64 ∧
      (extAddProds 5 3 0 a b).val % P =
        (a[0]! * b[0]! + 3 * (a[1]! * b[4]! + a[2]! * b[3]! + a[3]! * b[2]! + a[4]! * b[1]!)) % P) ∧
    ((extAddProds 5 3 1 a b).trap = false ∧ (extAddProds 5 3 1 a b).val < W64 ∧
      (extAddProds 5 3 1 a b).val % P =
        (a[0]! * b[1]! + a[1]! * b[0]! + 3 * (a[2]! * b[4]! + a[3]! * b[3]! + a[4]! * b[2]!)) % P) ∧
    ((extAddProds 5 3 2 a b).trap = false ∧ (extAddProds 5 3 2 a b).val < W64 ∧
      (extAddProds 5 3 2 a b).val % P =
        (a[0]! * b[2]! + a[1]! * b[1]! + a[2]! * b[0]! + 3 * (a[3]! * b[4]! + a[4]! * b[3]!)) % P) ∧
    ((extAddProds 5 3 3 a b).trap = false ∧ (extAddProds 5 3 3 a b).val < W64 ∧
      (extAddProds 5 3 3 a b).val % P =
        (a[0]! * b[3]! + a[1]! * b[2]! + a[2]! * b[1]! + a[3]! * b[0]! + 3 * (a[4]! * b[4]!)) % P) ∧
    ((extAddProds 5 3 4 a b).trap = false ∧ (extAddProds 5 3 4 a b).val < W64 ∧
      (extAddProds 5 3 4 a b).val % P =
        (a[0]! * b[4]! + a[1]! * b[3]! + a[2]! * b[2]! + a[3]! * b[1]! + a[4]! * b[0]!) % P) := by
  have hA' := mem_lt_of_getElem! ha hA
  have hB' := mem_lt_of_getElem! hb hB
  exact ⟨extAddProds_good 5 3 0 a b (.inl rfl) (by decide) (by decide) hA' hB',
    extAddProds_good 5 3 1 a b (.inl rfl) (by decide) (by decide) hA' hB',
    extAddProds_good 5 3 2 a b (.inl rfl) (by decide) (by decide) hA' hB',
    extAddProds_good 5 3 3 a b (.inl rfl) (by decide) (by decide) hA' hB',
    extAddProds_good 5 3 4 a b (.inl rfl) (by decide) (by decide) hA' hB'⟩

/-! Witnesses that the rare branches are reachable. -/

/-- both `overflowing_add`s of `glAdd` overflow -/
example :
    (oadd64 18446744073709551615 18446744073709551615).2 = true ∧
    (oadd64 (oadd64 18446744073709551615 18446744073709551615).1 EPS).2 = true ∧
    glAdd 18446744073709551615 18446744073709551615 = ⟨8589934588, false⟩ := by decide

/-- both `overflowing_sub`s of `glSub` underflow -/
example :
    (osub64 0 18446744073709551615).2 = true ∧
    (osub64 (osub64 0 18446744073709551615).1 EPS).2 = true ∧
    glSub 0 18446744073709551615 = ⟨18446744065119617027, false⟩ := by decide

/-- the borrow branch of `reduce128` (`x_lo < x_hi_hi`) -/
example :
    (osub64 (79228162514264337593543950336 % W64) (79228162514264337593543950336 / W64 / W32)).2 = true ∧
    reduce128 79228162514264337593543950336 = ⟨18446744069414584320, false⟩ := by decide

end P2.Props.C14
