/-
C09, continued: `verify_stark_proof_with_challenges` / `verify_stark_proof` never panic after
`recover_degree_bits` — for AIRs WITH lookups and with cross-table-lookup check variables
(`C09.verifyWithChallenges_never_panics_partial` / `C09.verify_never_panics_partial` are the
instances without them). The predicates `LookupsOK`, `CtlVarsOK` and the theorems `evalHelperColumns_some`,
`evalLookups_some`, `evalCtlChecks_some`, `evalVanishingPoly_some` of this namespace are in
`P2/Lemmas/StarkNoPanic2.lean`. Core Lean only.

What has to be assumed about the AIR (verifier-side data, nothing about the proof):

* `LookupsOK a`: for every lookup of the AIR, `HelperOK a.degree #columns #filters`, i.e.
  - `constraint_degree ≠ 1` (the chunk size `constraint_degree.checked_sub(1).unwrap_or(1)` is
    non-zero). When this fails, `Lookup::num_helper_columns` divides by zero: the panic is reached in
    `validate_proof_shape` / `get_challenges` for EVERY proof (`lookups_degree_one_panics`);
  - every chunk of looking columns has length ≤ 2: `constraint_degree ≤ 3` or at most two columns
    (`min chunk #columns ≤ 2`). When this fails, `eval_helper_columns` reaches
    `todo!("Allow other constraint degrees")` (witness `todo_reachable`);
  - there is a filter for every looking column (`#columns ≤ #filters`). When this fails,
    `fs[0]` / `fs[1]` in `eval_helper_columns` can be an index panic (witness `filter_index_reachable`;
    with fewer filter CHUNKS than column chunks the `zip` silently drops helper constraints instead).
  All three are loud refusals of the library on the AIR definition: they do not depend on the proof
  beyond its passing shape validation. An AIR without lookups satisfies `LookupsOK` vacuously (any
  `constraint_degree`, also 0 and 1).
* `CtlVarsOK a.degree v` for every CTL check variable handed to the verifier (`ctlVars = some _`):
  with helper columns the same `HelperOK`; without, at least one column tuple and a filter for each
  of the (at most two) tuples that are looked at.
* `a.wf` (column/public-input indices in range) is not used by the proofs: the model reads an
  out-of-range index as zero where the code would panic, so `a.wf` is what makes the model describe
  the code; it is a hypothesis of the two main theorems for that reason.
-/
import P2.Lemmas.StarkNoPanic2
import P2.Lemmas.StarkGetChallenges
import P2.Lemmas.PoseidonEval
import P2.Props.C09
namespace P2.Props.C09d
open P2 P2.Air P2.Stark P2.Lemmas.Stark P2.Lemmas.StarkNoPanic P2.Lemmas.StarkNoPanic2
open P2.Lemmas.StarkGetChallenges (alphasPrime zetaPrime alphaPrimeDraw)
open P2.Fri (Verdict firstBad)
open P2.Props.C09 (tinyCfg isOk_exists)

/-- `chunk_size = constraint_degree.checked_sub(1).unwrap_or(1)` -/
theorem lookupChunk_def (degree : Nat) : lookupChunk degree = if degree = 0 then 1 else degree - 1 := rfl

theorem helperOK_iff (degree nc nf : Nat) :
    HelperOK degree nc nf ↔ degree ≠ 1 ∧ (degree ≤ 3 ∨ nc ≤ 2) ∧ nc ≤ nf := by
  have hmin : ∀ k, min k nc ≤ 2 ↔ k ≤ 2 ∨ nc ≤ 2 := fun k => by omega
  unfold HelperOK
  rw [Ne, lookupChunk_eq_zero_iff, hmin, lookupChunk_le_two_iff]

theorem lookupsOK_iff (a : Air) :
    LookupsOK a ↔ ∀ l ∈ a.lookups,
      a.degree ≠ 1 ∧ (a.degree ≤ 3 ∨ l.columns.length ≤ 2) ∧ l.columns.length ≤ l.filters.length :=
  forall₂_congr fun _ _ => helperOK_iff _ _ _

theorem ctlVarsOK_iff (degree : Nat) (v : CtlVars) :
    CtlVarsOK degree v ↔
      (v.helperColumns ≠ [] → degree ≠ 1 ∧ (degree ≤ 3 ∨ v.columns.length ≤ 2) ∧
        v.columns.length ≤ v.filters.length) ∧
      (v.helperColumns = [] → 1 ≤ v.columns.length ∧ min 2 v.columns.length ≤ v.filters.length) := by
  unfold CtlVarsOK
  rw [helperOK_iff]

/-- an AIR without lookups needs nothing -/
theorem lookupsOK_of_no_lookups (a : Air) (h : a.lookups = []) : LookupsOK a := by
  intro l hl; rw [h] at hl; cases hl

/-- `Lookup::num_helper_columns` for `constraint_degree ≠ 1`: `⌈#columns / chunk⌉ + 1` -/
theorem numHelperColumns_eq (l : LookupSpec) (degree : Nat) (h : degree ≠ 1) :
    numHelperColumns l degree =
      some ((l.columns.length + lookupChunk degree - 1) / lookupChunk degree + 1) :=
  numHelperColumns_of_chunk l degree (fun e => h ((lookupChunk_eq_zero_iff _).1 e))

/-- `Stark::num_lookup_helper_columns` is `num_challenges · Σ num_helper_columns` … -/
theorem numLookupHelperColumns_eq (a : Air) (c : Config) (h : a.lookups = [] ∨ a.degree ≠ 1) :
    numLookupHelperColumns a c = some (sumNh a.degree a.lookups * c.numChallenges) :=
  numLookupHelperColumns_of_chunk a c
    (h.imp id fun h e => h ((lookupChunk_eq_zero_iff _).1 e))

/-- … and undefined (division by zero) exactly for an AIR with lookups and `constraint_degree = 1` -/
theorem numLookupHelperColumns_none_iff (a : Air) (c : Config) :
    numLookupHelperColumns a c = none ↔ a.lookups ≠ [] ∧ a.degree = 1 := by
  constructor
  · intro hn
    by_cases h : a.lookups = [] ∨ a.degree ≠ 1
    · rw [numLookupHelperColumns_eq a c h] at hn; cases hn
    · exact ⟨(not_or.1 h).1, Decidable.of_not_not (not_or.1 h).2⟩
  · rintro ⟨h1, h2⟩
    unfold numLookupHelperColumns
    cases hl : a.lookups with
    | nil => exact absurd hl h1
    | cons l t =>
      simp only [List.mapM_cons, numHelperColumns_none l a.degree ((lookupChunk_eq_zero_iff _).2 h2)]
      rfl

/-- **the panic that remains when `constraint_degree = 1` and the AIR has lookups**: shape validation
(and with it `verify_stark_proof_with_challenges`) panics for every proof with the right number of
public inputs — a loud refusal of the AIR definition, independent of the proof -/
theorem lookups_degree_one_panics (a : Air) (c : Config) (pp : ProofWithPis) (ch : Stark.Challenges)
    (ctlVars : Option (List CtlVars)) (db : Nat) (fp : Fri.FriParams)
    (hl : a.lookups ≠ []) (hd : a.degree = 1) (hp : pp.publicInputs.length = a.pis)
    (hdb : recoverDegreeBits pp.proof c = .ok db) (hfp : c.friParams db = some fp) :
    verifyWithChallenges a c pp ch ctlVars = .panic "num_helper_columns" := by
  have hn := (numLookupHelperColumns_none_iff a c).2 ⟨hl, hd⟩
  unfold verifyWithChallenges
  simp only [hdb]
  have hv : ∀ nh nz, validateShape a c pp db nh nz = .panic "num_helper_columns" := by
    intro nh nz
    unfold validateShape
    simp [hp, hfp, hn]
  simp only [hv]

/-- … and `get_challenges` (so `verify_stark_proof`) panics there as well -/
theorem lookups_degree_one_verify_panics (a : Air) (c : Config) (pp : ProofWithPis) (pad : Option PadParams)
    (db : Nat) (hl : a.lookups ≠ []) (hd : a.degree = 1) (hp : pp.publicInputs.length = a.pis)
    (hdb : recoverDegreeBits pp.proof c = .ok db) :
    Stark.verify a c pp pad = .panic "num_helper_columns: division by zero" := by
  have hn := (numLookupHelperColumns_none_iff a c).2 ⟨hl, hd⟩
  unfold Stark.verify getChallenges getChallengesFrom
  simp [hp, hdb, hn, bind, Except.bind, orPanic]

/-- **`get_challenges` and the lookup challenge set** (any caller: `shared` = challenges handed in
by a multi-table system): the set returned is the one handed in, if any; otherwise it is present
exactly when the proof carries an auxiliary cap and then holds `num_challenges` pairs; and
`get_challenges` only returns for an AIR with lookups if the set is present (it panics on
`lookup_challenge_set.unwrap()` otherwise) -/
theorem getChallengesFrom_lookupSet (s : ChSt) (a : Air) (c : Config) (pp : ProofWithPis)
    (pad : Option PadParams) (shared : Option (List (GL × GL))) (ctlVars : Option (List CtlVars)) (ign : Bool)
    (ch : Stark.Challenges) (h : getChallengesFrom s a c pp pad shared ctlVars ign = .ok ch) :
    (∀ sh, shared = some sh → ch.lookupSet = some sh) ∧
    (shared = none → ch.lookupSet.isSome = pp.proof.auxCap.isSome ∧
      ∀ ls, ch.lookupSet = some ls → ls.length = c.numChallenges) ∧
    (a.usesLookups = true → ch.lookupSet.isSome = true) := by
  obtain ⟨db, _, lc, _, _, ce, _, _, hlc, _, _, _, rfl⟩ :=
    (Lemmas.StarkTranscript.getChallengesFrom_ok_iff s a c pp pad shared ctlVars ign ch).1 h
  refine ⟨?_, ?_, Lemmas.StarkTranscript.lookupChallengesOf_isSome a _ lc hlc⟩
  · rintro sh rfl; rfl
  · rintro rfl; exact Lemmas.StarkTranscript.lookupDraw_none _ _ _

/-- the single-table case: the `unwrap` of `lookup_challenge_set` in
`verify_stark_proof_with_challenges` cannot fail on challenges that `get_challenges` returned -/
theorem getChallenges_lookupSet (a : Air) (c : Config) (pp : ProofWithPis) (pad : Option PadParams)
    (ch : Stark.Challenges) (h : getChallenges a c pp pad = .ok ch) :
    ch.lookupSet.isSome = pp.proof.auxCap.isSome ∧
    (a.usesLookups = true → ∃ ls, ch.lookupSet = some ls ∧ ls.length = c.numChallenges) := by
  obtain ⟨_, hB, hC⟩ := getChallengesFrom_lookupSet _ a c pp pad none none false ch h
  refine ⟨(hB rfl).1, fun hU => ?_⟩
  obtain ⟨ls, hls⟩ := Option.isSome_iff_exists.mp (hC hU)
  exact ⟨ls, hls, (hB rfl).2 ls hls⟩

/-- after shape validation the lookup challenge set of `get_challenges` is present exactly when the
AIR uses lookups or requires CTLs (single table) -/
theorem getChallenges_lookupSet_iff (a : Air) (c : Config) (pp : ProofWithPis) (pad : Option PadParams)
    (ch : Stark.Challenges) (db nh nz : Nat) (h : getChallenges a c pp pad = .ok ch)
    (hsh : validateShape a c pp db nh nz = .accept) :
    ch.lookupSet.isSome = (a.usesLookups || a.requiresCtls) := by
  rw [(getChallenges_lookupSet a c pp pad ch h).1]
  obtain ⟨_, _, nlc, _, _, _, _, _, _, _, _, _, haux⟩ := (Lemmas.Stark.validateShape_accept_iff a c pp db nh nz).1 hsh
  unfold AuxOK at haux
  split at haux
  · rename_i hu
    obtain ⟨cap, _, _, e, _⟩ := haux
    rw [e, hu]; rfl
  · rename_i hu
    rw [haux.1]
    simp only [Bool.not_eq_true] at hu
    rw [hu]; rfl

/-- **No panic after `recover_degree_bits`, any AIR** (lookups and CTLs included). Hypotheses — all on
verifier-side data, nothing about the proof:
* `hwf`, `hlo`, `hcv`: see the header (`a.wf` is not used by the proof);
* `hdb`: `recover_degree_bits` returned `db`; `hfp`: `fri_params(db)` is defined (configuration);
* `hcons`: the consumer can be set up at ζ (`db ≤ 32`, ζ ∉ {1, g⁻¹} — `C09.consumerAt_error_iff`);
* `hal`, `hls`, `hbetas`, `hidx`: the challenges have the shapes `get_challenges` produces
  (`C09.getChallenges_shapes`, `getChallenges_lookupSet`; for a multi-table caller,
  `getChallengesFrom_lookupSet` with a shared set of `num_challenges` pairs). -/
theorem verifyWithChallenges_never_panics_lookups (a : Air) (c : Config) (pp : ProofWithPis) (ch : Stark.Challenges)
    (ctlVars : Option (List CtlVars)) (db : Nat) (fp : Fri.FriParams)
    (_hwf : a.wf = true) (hlo : LookupsOK a)
    (hcv : ∀ cv, ctlVars = some cv → ∀ v ∈ cv, CtlVarsOK a.degree v)
    (hdb : recoverDegreeBits pp.proof c = .ok db) (hfp : c.friParams db = some fp)
    (hcons : ∃ s, consumerAt ch.alphas db ch.zeta = .ok s)
    (hal : ch.alphas.length = c.numChallenges)
    (hls : a.usesLookups = true → ∃ ls, ch.lookupSet = some ls ∧ ls.length = c.numChallenges)
    (hbetas : ch.fri.betas.length = pp.proof.openingProof.commitCaps.length)
    (hidx : ∀ xi ∈ ch.fri.queryIndices, xi < 2 ^ (db + c.fri.rateBits)) :
    ∀ t, verifyWithChallenges a c pp ch ctlVars ≠ .panic t :=
  Lemmas.StarkNoPanic2.verifyWithChallenges_no_panic a c pp ch ctlVars db fp hlo hcv hdb hfp hcons hal hls
    hbetas hidx

/-- **`verify_stark_proof` never panics once `get_challenges` has returned** (single table, any
AIR with `LookupsOK`): the only panics of the single-table verifier are those of `get_challenges`
(which include `recover_degree_bits`, F-C18-3, and the `lookup_challenge_set` unwrap for a proof
without auxiliary cap) and the set-up of the consumer at ζ. -/
theorem verify_never_panics_lookups (a : Air) (c : Config) (pp : ProofWithPis) (pad : Option PadParams)
    (ch : Stark.Challenges) (db : Nat) (fp : Fri.FriParams)
    (hwf : a.wf = true) (hlo : LookupsOK a)
    (hch : getChallenges a c pp pad = .ok ch)
    (hdb : recoverDegreeBits pp.proof c = .ok db) (hfp : c.friParams db = some fp)
    (hsmall : db + c.fri.rateBits < 64)
    (hcons : ∃ s, consumerAt ch.alphas db ch.zeta = .ok s) :
    ∀ t, Stark.verify a c pp pad ≠ .panic t := by
  intro t
  unfold Stark.verify
  split
  · simp
  · simp only [hch]
    obtain ⟨db', hdb', hal, hb, hi⟩ := P2.Props.C09.getChallenges_shapes a c pp pad ch hch
    rw [hdb] at hdb'; cases hdb'
    rw [Nat.mod_eq_of_lt hsmall] at hi
    exact verifyWithChallenges_never_panics_lookups a c pp ch none db fp hwf hlo (fun cv h => by cases h)
      hdb hfp hcons hal (getChallenges_lookupSet a c pp pad ch hch).2 hb hi t

open Lemmas.StarkGetChallenges in
/-- **`get_dummy_polys` never panics** (its slice bounds always hold): it returns `num_trace` local
and next values, and auxiliary values exactly when `num_aux > 0` -/
theorem getDummyPolys_some (s : ChSt) (nt na pd : Nat) :
    ∃ dl dn da dan, (getDummyPolys s nt na pd).2 = some (dl, dn, da, dan) ∧ dl.length = nt ∧ dn.length = nt ∧
      (na = 0 → da = none ∧ dan = none) ∧
      (0 < na → ∃ x y, da = some x ∧ dan = some y ∧ x.length = na ∧ na ≤ y.length) := by
  unfold getDummyPolys
  simp only []
  generalize hk : max 1 (50 / log2Ceil pd - 1) = k
  have hk1 : 1 ≤ k := by rw [← hk]; exact Nat.le_max_left _ _
  generalize hz : getExts s ((nt * 2 + na * 2 + k - 1) / k) = gz
  have hzl : gz.2.length = (nt * 2 + na * 2 + k - 1) / k := by rw [← hz]; exact getExts_length _ _
  generalize hev : (gz.2.flatMap fun z =>
    ((List.range (min (k + 1) (nt * 2 + na * 2))).foldl
      (fun (acc : List GL2 × GL2) _ => (acc.1 ++ [acc.2], FOps.pow acc.2 pd)) ([], z)).1) = evals
  have hel : nt * 2 + na * 2 ≤ evals.length := by
    rw [← hev, Lemmas.Merkle.flatMap_length_const _ (min (k + 1) (nt * 2 + na * 2)) _
      (fun z _ => by rw [powers_fold_length]; simp), hzl]
    exact dummy_count _ _ hk1
  clear hzl hk1 hk
  rw [if_neg (by omega)]
  refine ⟨_, _, _, _, rfl, ?_, ?_, ?_, ?_⟩
  · exact List.length_take_of_le (by omega)
  · exact List.length_take_of_le (by rw [List.length_drop]; omega)
  · rintro rfl; exact ⟨rfl, rfl⟩
  · intro hp
    refine ⟨_, _, if_pos hp, if_pos hp,
      List.length_take_of_le (by rw [List.length_drop]; omega), by rw [List.length_drop]; omega⟩

/-- the α′ of the constraint-binding step: drawn after the configuration, the trace cap, the lookup
challenges (if there is an auxiliary cap) and the auxiliary cap have been absorbed -/
theorem alphasPrime_def (c : Config) (pp : ProofWithPis) :
    alphasPrime c pp =
      (getN (Lemmas.StarkTranscript.obsOpt
        (Lemmas.StarkTranscript.lookupDraw
          (Lemmas.StarkTranscript.stage1 (obs (Challenger.init perm) pp.publicInputs) c pp.proof false)
          pp.proof c.numChallenges none).1 pp.proof.auxCap) c.numChallenges).2 := rfl

/-- the ζ′ of the constraint-binding step: drawn after the dummy ζs of `get_dummy_polys` -/
theorem zetaPrime_def (a : Air) (c : Config) (pp : ProofWithPis) :
    zetaPrime a c pp =
      (getExt (getDummyPolys (alphaPrimeDraw c pp).1 a.cols
        ((pp.proof.openings.auxPolys.map (·.length)).getD 0) (max 2 (a.degree + 1))).1).2 := rfl

open Lemmas.StarkTranscript in
/-- **`get_challenges` returns** (single table, `LookupsOK a`) when — all on the still UNVALIDATED
proof, these are the panics of finding F-C18-3 —
* `hp`: the number of public inputs is right (else `from_values` asserts);
* `hdb`: `recover_degree_bits` found its Merkle path;
* `haux`: for an AIR with lookups the proof has an auxiliary cap (else `lookup_challenge_set`
  unwrap), and at least one and at least `num_lookup_helper_columns` auxiliary openings (else the
  dummy `auxiliary_polys` unwrap resp. slice panics);
* `hcons`: the consumer can be set up at the dummy point ζ′ with the α′ (`C09.consumerAt_error_iff`). -/
theorem getChallenges_returns (a : Air) (c : Config) (pp : ProofWithPis) (pad : Option PadParams) (db : Nat)
    (hlo : LookupsOK a) (hp : pp.publicInputs.length = a.pis)
    (hdb : recoverDegreeBits pp.proof c = .ok db)
    (haux : a.usesLookups = true → pp.proof.auxCap.isSome = true ∧
      ∃ aux, pp.proof.openings.auxPolys = some aux ∧ 0 < aux.length ∧
        sumNh a.degree a.lookups * c.numChallenges ≤ aux.length)
    (hcons : ∃ s, consumerAt (alphasPrime c pp) db (zetaPrime a c pp) = .ok s) :
    ∃ ch, getChallenges a c pp pad = .ok ch := by
  obtain ⟨lc, hlc, hlc'⟩ := lookupChallengesOf_returns a
    (lookupDraw (stage1 (obs (Challenger.init perm) pp.publicInputs) c pp.proof false) pp.proof
      c.numChallenges none).2 c.numChallenges fun hU => by
        obtain ⟨hs, hl⟩ := lookupDraw_none (stage1 (obs (Challenger.init perm) pp.publicInputs) c pp.proof false)
          pp.proof c.numChallenges
        obtain ⟨l, e⟩ := Option.isSome_iff_exists.mp (hs.trans (haux hU).1)
        exact ⟨l, e, hl l e⟩
  obtain ⟨dl, dn, da, dan, e, h1, h2, _, h4⟩ := getDummyPolys_some (alphaPrimeDraw c pp).1 a.cols
    ((pp.proof.openings.auxPolys.map (·.length)).getD 0) (max 2 (a.degree + 1))
  obtain ⟨ce, hce⟩ := Lemmas.StarkGetChallenges.computeEvalVanishingPoly_ok a dl dn da dan lc none pp.publicInputs (alphasPrime c pp)
    (zetaPrime a c pp) db (sumNh a.degree a.lookups * c.numChallenges) hcons h1 h2 hp hlo
    (fun chs hchs => by
      obtain ⟨hU, hn⟩ := hlc' chs hchs
      obtain ⟨_, aux, e1, e2, e3⟩ := haux hU
      have hna : (pp.proof.openings.auxPolys.map (·.length)).getD 0 = aux.length := by rw [e1]; rfl
      obtain ⟨x, y, rfl, rfl, hx, hy⟩ := h4 (hna ▸ e2)
      rw [hn]
      exact ⟨Nat.le_refl _, x, y, rfl, rfl, by omega, by omega⟩)
    nofun
  exact ⟨_, (getChallengesFrom_ok_iff _ a c pp pad none none false _).2 ⟨db, _, lc, _, none, ce, hdb,
    numLookupHelperColumns_of_chunk a c (lookupsOK_chunk a hlo), hlc, e, rfl, hce, rfl⟩⟩

/-- **the panic surface of `verify_stark_proof`** (single table, `LookupsOK a`, `fri_params` defined,
`degree_bits + rate_bits < 64`): under the four conditions of `getChallenges_returns` the challenges
exist, and then the verifier panics only if the consumer cannot be set up at ζ -/
theorem verify_panic_surface (a : Air) (c : Config) (pp : ProofWithPis) (pad : Option PadParams) (db : Nat)
    (fp : Fri.FriParams) (hwf : a.wf = true) (hlo : LookupsOK a) (hp : pp.publicInputs.length = a.pis)
    (hdb : recoverDegreeBits pp.proof c = .ok db) (hfp : c.friParams db = some fp)
    (hsmall : db + c.fri.rateBits < 64)
    (haux : a.usesLookups = true → pp.proof.auxCap.isSome = true ∧
      ∃ aux, pp.proof.openings.auxPolys = some aux ∧ 0 < aux.length ∧
        sumNh a.degree a.lookups * c.numChallenges ≤ aux.length)
    (hcons' : ∃ s, consumerAt (alphasPrime c pp) db (zetaPrime a c pp) = .ok s) :
    ∃ ch, getChallenges a c pp pad = .ok ch ∧
      ((∃ s, consumerAt ch.alphas db ch.zeta = .ok s) → ∀ t, Stark.verify a c pp pad ≠ .panic t) := by
  obtain ⟨ch, hch⟩ := getChallenges_returns a c pp pad db hlo hp hdb haux hcons'
  exact ⟨ch, hch, fun hcons => verify_never_panics_lookups a c pp pad ch db fp hwf hlo hch hdb hfp hsmall hcons⟩

theorem ctlVarsOK_of_looked (degree : Nat) (z zn : GL2) (β γ : GL) (cols : List ColSpec) (f : FilterSpec) :
    CtlVarsOK degree ⟨[], z, zn, β, γ, [cols], [f]⟩ :=
  ⟨fun h => absurd rfl h, fun _ => ⟨Nat.le_refl _, by simp⟩⟩

theorem getD_zero_of_all_zero (l : List Nat) (i : Nat) (h : ∀ n ∈ l, n = 0) : l.getD i 0 = 0 := by
  rw [List.getD_eq_getElem?_getD]
  cases hi : l[i]? with
  | none => rfl
  | some n => exact h n (List.mem_of_getElem? hi)

theorem ctlVarsOK_of_looking (degree : Nat) (byCtl : List Nat) (i : Nat) (zs : List (GL2 × GL2)) (z zn : GL2) (β γ : GL)
    (mine : List CtlSide) (hm : mine.length > 0)
    (hd : (degree ≠ 1 ∧ degree ≤ 3) ∨ ∀ n ∈ byCtl, n = 0) :
    CtlVarsOK degree ⟨(zs.take (byCtl.getD i 0)).map (·.1), z, zn, β, γ, mine.map (·.columns),
      mine.map (·.filter)⟩ := by
  refine ⟨fun hne => ?_, fun _ => ?_⟩
  · rcases hd with ⟨h1, h3⟩ | h0
    · exact (helperOK_iff _ _ _).2 ⟨h1, Or.inl h3, by simp only [List.length_map]; exact Nat.le_refl _⟩
    · exact absurd (by rw [getD_zero_of_all_zero byCtl i h0]; rfl) hne
  · simp only [List.length_map]; omega

/-- **`CtlCheckVars::from_proof` builds well-formed CTL variables**: whatever the proof, if it
returns, every variable satisfies `CtlVarsOK`, provided `constraint_degree ∈ {0, 2, 3}` or no CTL of
the table has helper columns (`byCtl` = helper columns per CTL, as `num_ctl_helpers_zs_all` reports) -/
theorem ctlVarsFromProof_ok (degree table : Nat) (p : Stark.Proof) (ctls : List CtlSpec)
    (chs : List (GL × GL)) (nlc total : Nat) (byCtl : List Nat) (out : List CtlVars)
    (hd : (degree ≠ 1 ∧ degree ≤ 3) ∨ ∀ n ∈ byCtl, n = 0)
    (h : ctlVarsFromProof table p ctls chs nlc total byCtl = .ok out) :
    ∀ v ∈ out, CtlVarsOK degree v := by
  refine Returns.ok (Q := fun out => ∀ v ∈ out, CtlVarsOK degree v) ?_ h
  unfold ctlVarsFromProof
  refine returns_bind_any fun aux => returns_bind_any fun auxNext => ?_
  refine returns_bind (P := fun st => ∀ v ∈ st.2.2, CtlVarsOK degree v)
    (returns_forIn (by intro v hv; cases hv) ?_) fun st hst => returns_pure hst
  rintro ⟨ctl, i⟩ st hst
  refine returns_bind (P := fun st => ∀ v ∈ st.2.2, CtlVarsOK degree v)
    (returns_forIn hst ?_) fun st hst => returns_pure hst
  rintro ⟨beta, gamma⟩ st hst
  dsimp -zeta only
  extract_lets zIndex st' startIndex out mine looked nh
  have hlooked : ∀ z s o, (∀ v ∈ o, CtlVarsOK degree v) →
      Returns (looked () z s o) fun r => ∀ v ∈ r.value.2.2, CtlVarsOK degree v := fun z s o ho =>
    returns_ite (fun _ => returns_bind_any fun _ =>
      returns_pure (List.forall_mem_append.2 ⟨ho, List.forall_mem_singleton.2 (ctlVarsOK_of_looked _ _ _ _ _ _ _)⟩)) fun _ => returns_pure ho
  clear_value looked
  refine returns_ite (fun hm => returns_bind_any fun _ => returns_ite (fun _ => returns_error _)
    fun _ => hlooked _ _ _ (List.forall_mem_append.2 ⟨hst, List.forall_mem_singleton.2 (ctlVarsOK_of_looking _ _ _ _ _ _ _ _ _ hm hd)⟩))
    fun _ => hlooked _ _ _ hst

/-- for `constraint_degree ≤ 1`, `num_ctl_helpers_zs_all` either panics (a table appearing twice in
a CTL: division by `constraint_degree − 1`) or reports no helper columns at all -/
theorem numCtlHelpersZsAll_byCtl (ctls : List CtlSpec) (table n degree th tz : Nat) (byCtl : List Nat)
    (h : numCtlHelpersZsAll ctls table n degree = some (th, tz, byCtl)) (hd : degree ≤ 1) :
    ∀ k ∈ byCtl, k = 0 := by
  refine Returns.some (Q := fun r => ∀ k ∈ r.2.2, k = 0) ?_ h
  unfold numCtlHelpersZsAll
  refine returns_bind (P := fun st => ∀ k ∈ st.2.2, k = 0) (returns_forIn (by intro k hk; cases hk) ?_)
    fun st hst => returns_pure hst
  intro ctl st hst
  extract_lets numHelpers st' numCtls byCtl appearances numCtls' count
  have hcount : ∀ nh l, (∀ k ∈ l, k = 0) →
      Returns (count () nh l) fun r : ForInStep (Nat × Nat × List Nat) => ∀ k ∈ r.value.2.2, k = 0 :=
    fun nh l hl => returns_ite (fun _ => returns_pure hl) fun _ => returns_pure hl
  clear_value count
  exact returns_ite (fun _ => returns_ite (fun _ => returns_none) fun h => absurd hd h)
    fun _ => hcount _ _ (List.forall_mem_append.2 ⟨hst, List.forall_mem_singleton.2 rfl⟩)

/-- **the per-table call of a multi-table verifier never panics** (`verify_multi` of the harness:
`num_ctl_helpers_zs_all`, `CtlCheckVars::from_proof`, then `verify_stark_proof_with_challenges` with
those variables), for `constraint_degree ≤ 3`; the remaining hypotheses as in
`verifyWithChallenges_never_panics_lookups` -/
theorem verifyWithChallenges_never_panics_ctl (a : Air) (c : Config) (pp : ProofWithPis) (ch : Stark.Challenges)
    (table : Nat) (ctls : List CtlSpec) (chs : List (GL × GL)) (nlc th tz : Nat) (byCtl : List Nat)
    (cv : List CtlVars) (db : Nat) (fp : Fri.FriParams)
    (hwf : a.wf = true) (hlo : LookupsOK a) (hdeg : a.degree ≤ 3)
    (hnum : numCtlHelpersZsAll ctls table c.numChallenges a.degree = some (th, tz, byCtl))
    (hcv : ctlVarsFromProof table pp.proof ctls chs nlc th byCtl = .ok cv)
    (hdb : recoverDegreeBits pp.proof c = .ok db) (hfp : c.friParams db = some fp)
    (hcons : ∃ s, consumerAt ch.alphas db ch.zeta = .ok s)
    (hal : ch.alphas.length = c.numChallenges)
    (hls : a.usesLookups = true → ∃ ls, ch.lookupSet = some ls ∧ ls.length = c.numChallenges)
    (hbetas : ch.fri.betas.length = pp.proof.openingProof.commitCaps.length)
    (hidx : ∀ xi ∈ ch.fri.queryIndices, xi < 2 ^ (db + c.fri.rateBits)) :
    ∀ t, verifyWithChallenges a c pp ch (some cv) ≠ .panic t := by
  have hd : (a.degree ≠ 1 ∧ a.degree ≤ 3) ∨ ∀ n ∈ byCtl, n = 0 := by
    by_cases h1 : a.degree ≤ 1
    · exact Or.inr (numCtlHelpersZsAll_byCtl ctls table _ a.degree th tz byCtl hnum h1)
    · exact Or.inl ⟨by omega, hdeg⟩
  have hok := ctlVarsFromProof_ok a.degree table pp.proof ctls chs nlc th byCtl cv hd hcv
  exact verifyWithChallenges_never_panics_lookups a c pp ch (some cv) db fp hwf hlo
    (fun cv' h => by cases h; exact hok) hdb hfp hcons hal hls hbetas hidx

/-! Witnesses and non-vacuity: a two-column AIR with one lookup (column 0 looked up in column 1,
frequency 1, filter 1), `constraint_degree = 2`, on a one-row trace (`degree_bits = 0`), one challenge. -/

def col0 : ColSpec := ⟨[(0, 1)], [], 0⟩
def col1 : ColSpec := ⟨[(1, 1)], [], 0⟩
def one1 : ColSpec := ⟨[], [], 1⟩
def filt1 : FilterSpec := ⟨[], [one1]⟩
def lookAir : Air :=
  { cols := 2, pis := 0, degree := 2, requiresCtls := false, constraints := [],
    lookups := [⟨[col0], col1, one1, [filt1]⟩] }
/-- auxiliary openings `[h, Z]` with `h = 3`, `Z = 0`; `q` = the quotient opening -/
def lookOpenings (q : GL2) : OpeningSet :=
  ⟨[⟨5,0⟩, ⟨5,0⟩], [⟨5,0⟩, ⟨5,0⟩], some [⟨3,0⟩, ⟨0,0⟩], some [⟨3,0⟩, ⟨0,0⟩], none, some [q]⟩
def lookFri : Fri.Proof := ⟨[], [⟨[([0,0],[]),([0,0],[]),([0],[])], []⟩], [⟨0,0⟩], 0⟩
def lookProof (q : GL2) : ProofWithPis :=
  ⟨⟨[[0,0,0,0]], some [[0,0,0,0]], some [[0,0,0,0]], lookOpenings q, lookFri⟩, []⟩
def lookCh : Stark.Challenges := ⟨some [(7, 9)], [1], ⟨2,0⟩, ⟨⟨1,0⟩, [], 0, []⟩⟩
def lookFp : Fri.FriParams := ⟨tinyCfg.fri, false, 0, []⟩

theorem lookAir_ok : LookupsOK lookAir := by
  rw [lookupsOK_iff]; intro l hl
  simp only [lookAir, List.mem_singleton] at hl
  subst hl; decide

theorem look_consumer : ∃ s, consumerAt lookCh.alphas 0 lookCh.zeta = .ok s :=
  isOk_exists _ (by decide +kernel)

/-- the lookup terms are evaluated (`h·(5 + 7) − 1`, `Z·L_0`, `(Z' − Z)·(5 + 7) − (h·(5 + 7) − 1)`
sum to 0 at α = 1) and the quotient identity `0 = (ζ − 1)·0` is checked: accepted … -/
example : verifyWithChallenges lookAir tinyCfg (lookProof ⟨0,0⟩) lookCh none = .accept := by decide +kernel
/-- … a wrong quotient opening is rejected at the identity … -/
example : verifyWithChallenges lookAir tinyCfg (lookProof ⟨1,0⟩) lookCh none = .reject "identity" := by
  decide +kernel
/-- … and so is a wrong next-row `Z` opening (the lookup terms do enter the combination) -/
example : verifyWithChallenges lookAir tinyCfg
    { lookProof ⟨0,0⟩ with proof := { (lookProof ⟨0,0⟩).proof with openings :=
      { lookOpenings ⟨0,0⟩ with auxPolysNext := some [⟨3,0⟩, ⟨1,0⟩] } } } lookCh none = .reject "identity" := by
  decide +kernel

/-- non-vacuity of `verifyWithChallenges_never_panics_lookups` (an AIR with a lookup) -/
example : ∀ t, verifyWithChallenges lookAir tinyCfg (lookProof ⟨0,0⟩) lookCh none ≠ .panic t :=
  verifyWithChallenges_never_panics_lookups lookAir tinyCfg (lookProof ⟨0,0⟩) lookCh none 0 lookFp
    (by decide) lookAir_ok (fun cv h => by cases h) rfl rfl look_consumer (by decide)
    (fun _ => ⟨_, rfl, rfl⟩) (by decide) (by decide)

/-- a proof that drops one auxiliary opening is refused by shape validation, not by a slice panic -/
example : verifyWithChallenges lookAir tinyCfg
    { lookProof ⟨0,0⟩ with proof := { (lookProof ⟨0,0⟩).proof with openings :=
      { lookOpenings ⟨0,0⟩ with auxPolys := some [⟨3,0⟩] } } } lookCh none = .reject "shape" := by
  decide +kernel

/-- the same table, now also looked at by a cross-table lookup (one Z polynomial, no helper columns) -/
def ctlAir : Air := { lookAir with requiresCtls := true }
def ctlVar : CtlVars := ⟨[], ⟨0,0⟩, ⟨0,0⟩, 3, 4, [[col0]], [filt1]⟩
def ctlOpenings (q : GL2) : OpeningSet :=
  ⟨[⟨5,0⟩, ⟨5,0⟩], [⟨5,0⟩, ⟨5,0⟩], some [⟨3,0⟩, ⟨0,0⟩, ⟨0,0⟩], some [⟨3,0⟩, ⟨0,0⟩, ⟨0,0⟩], some [0], some [q]⟩
def ctlFri : Fri.Proof := ⟨[], [⟨[([0,0],[]),([0,0,0],[]),([0],[])], []⟩], [⟨0,0⟩], 0⟩
def ctlProof (q : GL2) : ProofWithPis :=
  ⟨⟨[[0,0,0,0]], some [[0,0,0,0]], some [[0,0,0,0]], ctlOpenings q, ctlFri⟩, []⟩

theorem ctlVar_ok : CtlVarsOK ctlAir.degree ctlVar := by
  rw [ctlVarsOK_iff]; decide

/-- non-vacuity of `verifyWithChallenges_never_panics_lookups` with `ctlVars = some _` -/
example : ∀ t, verifyWithChallenges ctlAir tinyCfg (ctlProof ⟨0,0⟩) lookCh (some [ctlVar]) ≠ .panic t :=
  verifyWithChallenges_never_panics_lookups ctlAir tinyCfg (ctlProof ⟨0,0⟩) lookCh (some [ctlVar]) 0 lookFp
    (by decide) lookAir_ok
    (fun cv h v hv => by
      cases h
      simp only [List.mem_singleton] at hv
      subst hv; exact ctlVar_ok)
    rfl rfl look_consumer (by decide) (fun _ => ⟨_, rfl, rfl⟩) (by decide) (by decide)
/-- the verdict on that input: the CTL terms `(5·3 + 4)·Z − 1` (last row, transition) are non-zero,
the quotient identity fails -/
example : verifyWithChallenges ctlAir tinyCfg (ctlProof ⟨0,0⟩) lookCh (some [ctlVar]) = .reject "identity" := by
  decide +kernel
/-- CTL variables without any column tuple are not well-formed, and `evals[0]` panics -/
example : verifyWithChallenges ctlAir tinyCfg (ctlProof ⟨0,0⟩) lookCh
    (some [{ ctlVar with columns := [] }]) = .panic "eval_vanishing_poly" := by decide +kernel
example : ¬ CtlVarsOK ctlAir.degree { ctlVar with columns := [] } := by
  rw [ctlVarsOK_iff]; decide

/-- a one-CTL system in which table 0 is the looked table -/
def ctlSpec : CtlSpec := ⟨[⟨1, [col0], filt1⟩], ⟨0, [col0], filt1⟩⟩

/-- non-vacuity of `verifyWithChallenges_never_panics_ctl`: the CTL variables are the ones
`CtlCheckVars::from_proof` reads off the proof -/
example : ∃ cv, ctlVarsFromProof 0 (ctlProof ⟨0,0⟩).proof [ctlSpec] [(3, 4)] 2 0 [0] = .ok cv ∧
    numCtlHelpersZsAll [ctlSpec] 0 tinyCfg.numChallenges ctlAir.degree = some (0, 1, [0]) ∧
    cv.length = 1 ∧ ∀ t, verifyWithChallenges ctlAir tinyCfg (ctlProof ⟨0,0⟩) lookCh (some cv) ≠ .panic t := by
  refine ⟨[ctlVar], rfl, by decide +kernel, rfl, ?_⟩
  exact verifyWithChallenges_never_panics_ctl ctlAir tinyCfg (ctlProof ⟨0,0⟩) lookCh 0 [ctlSpec] [(3, 4)] 2 0 1
    [0] [ctlVar] 0 lookFp (by decide) lookAir_ok (by decide) (by decide +kernel) rfl rfl rfl
    look_consumer (by decide) (fun _ => ⟨_, rfl, rfl⟩) (by decide) (by decide)

/-- `constraint_degree = 1` with a lookup: division by zero in `num_helper_columns` -/
example : verifyWithChallenges { lookAir with degree := 1 } tinyCfg (lookProof ⟨0,0⟩) lookCh none
    = .panic "num_helper_columns" :=
  lookups_degree_one_panics _ _ _ _ _ 0 lookFp (by decide) rfl rfl rfl rfl

/-- `constraint_degree = 4` and a lookup with three columns: chunks of three columns,
`todo!("Allow other constraint degrees")` -/
def todoAir : Air :=
  { lookAir with degree := 4, lookups := [⟨[col0, col0, col0], col1, one1, [filt1, filt1, filt1]⟩] }
def todoProof : ProofWithPis :=
  { lookProof ⟨0,0⟩ with proof := { (lookProof ⟨0,0⟩).proof with openings :=
    { lookOpenings ⟨0,0⟩ with quotientPolys := some [⟨0,0⟩, ⟨0,0⟩, ⟨0,0⟩] } } }
theorem todo_reachable :
    verifyWithChallenges todoAir tinyCfg todoProof lookCh none = .panic "eval_vanishing_poly" ∧
    validateShape todoAir tinyCfg todoProof 0 0 0 = .accept ∧ ¬ LookupsOK todoAir := by
  refine ⟨by decide +kernel, by decide +kernel, ?_⟩
  rw [lookupsOK_iff]
  intro h
  have := h _ List.mem_cons_self
  revert this; decide

/-- `constraint_degree = 3` and a lookup with two columns but one filter: `fs[1]` is an index panic
(a lookup with NO filter at all does not panic: `zip` stops at the shorter list and the helper
constraints are silently skipped) -/
def noFilterAir : Air := { lookAir with degree := 3, lookups := [⟨[col0, col0], col1, one1, [filt1]⟩] }
def noFilterProof : ProofWithPis :=
  { lookProof ⟨0,0⟩ with proof := { (lookProof ⟨0,0⟩).proof with openings :=
    { lookOpenings ⟨0,0⟩ with quotientPolys := some [⟨0,0⟩, ⟨0,0⟩] } } }
theorem filter_index_reachable :
    verifyWithChallenges noFilterAir tinyCfg noFilterProof lookCh none = .panic "eval_vanishing_poly" ∧
    validateShape noFilterAir tinyCfg noFilterProof 0 0 0 = .accept ∧ ¬ LookupsOK noFilterAir := by
  refine ⟨by decide +kernel, by decide +kernel, ?_⟩
  rw [lookupsOK_iff]
  intro h
  have := h _ List.mem_cons_self
  revert this; decide

/-- the lookup challenge set missing (challenges not from `get_challenges`): the `unwrap` panics -/
example : verifyWithChallenges lookAir tinyCfg (lookProof ⟨0,0⟩) { lookCh with lookupSet := none } none
    = .panic "unwrap" := by decide +kernel

/-! `verify_stark_proof` on the lookup AIR. `look_transcript` states the values the Fiat–Shamir transcript
of the example proof takes (the numerals below), checked by kernel evaluation on
`PoseidonEval.evalPerm`; `look_getChallenges_eq` assembles `get_challenges` from them. -/

/-- for `decide` on the `Except`-valued equation of `look_transcript` -/
local instance {ε α : Type} [DecidableEq ε] [DecidableEq α] : DecidableEq (Except ε α)
  | .ok a, .ok b => decidable_of_iff (a = b) ⟨congrArg _, Except.ok.inj⟩
  | .error a, .error b => decidable_of_iff (a = b) ⟨congrArg _, Except.error.inj⟩
  | .ok _, .error _ => isFalse nofun
  | .error _, .ok _ => isFalse nofun

/-- the lookup challenges (β, γ) of the example proof -/
def lookBetaGamma : GL × GL := (13078636855731051467, 5927780613637924955)

/-- the constraint evaluation on the dummy openings of the example proof -/
def lookCe : GL2 := ⟨10482755483563089885, 1659950661378038380⟩

open Lemmas.StarkTranscript in
/-- what `get_challenges` returns on the example proof, up to the evaluation of `tailFrom` -/
def lookChallenges : Stark.Challenges :=
  tailFrom (midState (obs (Challenger.init perm) (lookProof ⟨0,0⟩).publicInputs) lookAir tinyCfg
      (lookProof ⟨0,0⟩).proof none false)
    [lookCe] (some [lookBetaGamma]) tinyCfg (lookProof ⟨0,0⟩).proof 0 none

open Lemmas.StarkTranscript Lemmas.PoseidonEval in
/-- the transcript of the example proof: the lookup challenges, the constraint evaluation at the dummy
point ζ′ (on the dummy openings, with α′), and the α and ζ drawn after it has been observed -/
theorem look_transcript :
    (lookupDraw (stage1 (obs (Challenger.init perm) (lookProof ⟨0,0⟩).publicInputs) tinyCfg
      (lookProof ⟨0,0⟩).proof false) (lookProof ⟨0,0⟩).proof tinyCfg.numChallenges none).2 =
      some [lookBetaGamma] ∧
    (let dp := getDummyPolys (alphaPrimeDraw tinyCfg (lookProof ⟨0,0⟩)).1 lookAir.cols
        (((lookProof ⟨0,0⟩).proof.openings.auxPolys.map (·.length)).getD 0) (max 2 (lookAir.degree + 1))
      let d := dp.2.getD default
      computeEvalVanishingPoly lookAir d.1 d.2.1 d.2.2.1 d.2.2.2 (some [lookBetaGamma.1]) none
        (lookProof ⟨0,0⟩).publicInputs (alphasPrime tinyCfg (lookProof ⟨0,0⟩)) (getExt dp.1).2 0 2) =
      .ok [lookCe] ∧
    lookChallenges.alphas = [15861760975963569621] ∧
    lookChallenges.zeta = ⟨1491513578320853220, 2578863088043267001⟩ := by
  delta lookChallenges midState tailFrom alphasPrime alphaPrimeDraw getDummyPolys getExts getExt lookupDraw stage1
    obsOpt obs getN Stark.perm
  rw [poseidonPerm_eq]
  decide +kernel

open Lemmas.StarkTranscript in
theorem getDummyPolys_eq_some (s : ChSt) (nt na pd : Nat) :
    (getDummyPolys s nt na pd).2 = some ((getDummyPolys s nt na pd).2.getD default) := by
  obtain ⟨_, _, _, _, e, _⟩ := getDummyPolys_some s nt na pd
  rw [e]; rfl

open Lemmas.StarkTranscript in
theorem look_getChallenges_eq : getChallenges lookAir tinyCfg (lookProof ⟨0,0⟩) none = .ok lookChallenges := by
  refine (getChallengesFrom_ok_iff _ _ _ _ _ _ _ _ _).2
    ⟨0, 2, some [lookBetaGamma.1], _, none, [lookCe], rfl, rfl, ?_, getDummyPolys_eq_some _ _ _ _, rfl,
      look_transcript.2.1, ?_⟩
  · rw [look_transcript.1]; rfl
  · rw [look_transcript.1]; rfl

/-- `get_challenges` returns on the example proof and the consumer can be set up at its ζ -/
theorem look_getChallenges : (match getChallenges lookAir tinyCfg (lookProof ⟨0,0⟩) none with
    | .ok ch => (match consumerAt ch.alphas 0 ch.zeta with | .ok _ => true | .error _ => false)
    | .error _ => false) = true := by
  -- on a variable `ch`: were `getChallenges …` rewritten in place, the kernel would compare the `match` on
  -- `.ok lookChallenges` with its reduct by evaluating the transcript again
  split
  · rename_i ch hch
    have e := Except.ok.inj (hch.symm.trans look_getChallenges_eq)
    rw [show ch.alphas = _ from e ▸ look_transcript.2.2.1, show ch.zeta = _ from e ▸ look_transcript.2.2.2]
    decide +kernel
  · rename_i e he
    rw [look_getChallenges_eq] at he
    cases he

/-- non-vacuity of `verify_never_panics_lookups` -/
example : ∀ t, Stark.verify lookAir tinyCfg (lookProof ⟨0,0⟩) none ≠ .panic t := by
  have h := look_getChallenges
  split at h
  · rename_i ch hch
    split at h
    · rename_i s hs
      exact verify_never_panics_lookups lookAir tinyCfg _ none ch 0 lookFp (by decide) lookAir_ok hch rfl rfl
        (by decide) ⟨s, hs⟩
    · cases h
  · cases h

/-- the consumer can be set up at the dummy point ζ′ of the example proof: `get_challenges` returned -/
theorem look_consumerPrime :
    ∃ s, consumerAt (alphasPrime tinyCfg (lookProof ⟨0,0⟩)) 0 (zetaPrime lookAir tinyCfg (lookProof ⟨0,0⟩)) = .ok s := by
  obtain ⟨db, s, hdb, hs⟩ :=
    Lemmas.StarkGetChallenges.getChallenges_ok_consumerPrime _ _ _ _ _ look_getChallenges_eq
  obtain rfl : 0 = db := Except.ok.inj hdb
  exact ⟨s, hs⟩

/-- non-vacuity of `getChallenges_returns` / `verify_panic_surface` -/
example : ∃ ch, getChallenges lookAir tinyCfg (lookProof ⟨0,0⟩) none = .ok ch ∧
    ((∃ s, consumerAt ch.alphas 0 ch.zeta = .ok s) →
      ∀ t, Stark.verify lookAir tinyCfg (lookProof ⟨0,0⟩) none ≠ .panic t) :=
  verify_panic_surface lookAir tinyCfg (lookProof ⟨0,0⟩) none 0 lookFp (by decide) lookAir_ok rfl rfl rfl
    (by decide) (fun _ => ⟨rfl, [⟨3,0⟩, ⟨0,0⟩], rfl, by decide, by decide⟩) look_consumerPrime

end P2.Props.C09d
