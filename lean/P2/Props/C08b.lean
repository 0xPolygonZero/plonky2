/-
C08b (the algebra behind the logUp-style lookup argument, over an arbitrary field `K`), in this order:
 - telescoping of the running-sum columns (`sum_telescope`), one step of the running sum as the verifier
   checks it (`sldc_step_iff`), naturals below the characteristic are distinct in `K`
   (`natCast_inj_below_char`), two linear combinations bind a pair (`pair_binding`);
 - the cleared-denominator form of `Σ_a m(a)/(X − a) = Σ_a m'(a)/(X − a)` forces `m = m'` on `S`, in `K`
   and in `ℕ` below the characteristic (`logup_polynomial_form*`); it follows from the rational identity
   at `≥ #S` challenge points (`logup_rational_*`);
 - specialised to looked-up values `f` and a table `t` with multiplicities: the multiset of looked-up
   values is the table with its multiplicities, in particular every looked-up value is in the table
   (`logup_multiset*`, `logup_soundness`);
 - Horner accumulation (`lutPolyEval`) binds the coefficient list; with `pair_binding` the RE polynomial
   binds the declared table (`re_polynomial*`).
-/
import P2.Lemmas.Alg2
namespace P2.Props.C08
open P2 Polynomial P2.Lemmas.Alg2

variable {K : Type} [Field K]

/-- if `z 0 = 0` and every step satisfies `(z (i+1) − z i)·d_i = n_i` with `d_i ≠ 0`, then
`z n = Σ_{i<n} n_i / d_i` -/
theorem sum_telescope (z num den : ℕ → K) (n : ℕ) (h0 : z 0 = 0)
    (hstep : ∀ i, i < n → (z (i + 1) - z i) * den i = num i)
    (hden : ∀ i, i < n → den i ≠ 0) :
    z n = ∑ i ∈ Finset.range n, num i / den i := by
  induction n with
  | zero => simpa using h0
  | succ n ih =>
    rw [Finset.sum_range_succ, ← ih (fun i hi => hstep i (Nat.lt_succ_of_lt hi))
        (fun i hi => hden i (Nat.lt_succ_of_lt hi)),
      ← hstep n (Nat.lt_succ_self n), mul_div_cancel_right₀ _ (hden n (Nat.lt_succ_self n)),
      add_sub_cancel]

/-- one step of the running sum as the verifier checks it (`check_lookup_constraints`):
`Δ · ∏_{i∈I}(α − t_i) = Σ_{i∈I} m_i · ∏_{j∈I∖i}(α − t_j)` with `α` off the `t_i` is equivalent to
`Δ = Σ_{i∈I} m_i/(α − t_i)` -/
theorem sldc_step_iff {ι : Type} [DecidableEq ι] (I : Finset ι) (t m : ι → K) (α Δ : K)
    (hα : ∀ i ∈ I, α - t i ≠ 0) :
    Δ * ∏ i ∈ I, (α - t i) = ∑ i ∈ I, m i * ∏ j ∈ I.erase i, (α - t j)
      ↔ Δ = ∑ i ∈ I, m i / (α - t i) := by
  rw [← sum_div_mul_prod I m (α - t ·) hα, mul_left_inj' (Finset.prod_ne_zero_iff.2 hα)]

/-- the side condition `hchar` holds for `N ≤ p` in characteristic `p > 0`, and for every `N` in
characteristic `0` -/
theorem natCast_inj_below_char (p : ℕ) [CharP K p] (N : ℕ) (hN : p ≠ 0 → N ≤ p) :
    ∀ n k : ℕ, n < N → k < N → (n : K) = (k : K) → n = k := by
  intro n k hn hk h
  by_cases hp : p = 0
  · subst hp
    have := CharP.charP_to_charZero K
    exact Nat.cast_injective h
  · exact CharP.natCast_injOn_Iio K p (lt_of_lt_of_le hn (hN hp)) (lt_of_lt_of_le hk (hN hp)) h

/-- **two linear combinations bind a pair** -/
theorem pair_binding (a o a' o' b₁ b₂ : K) (hb : b₁ ≠ b₂)
    (h₁ : a + b₁ * o = a' + b₁ * o') (h₂ : a + b₂ * o = a' + b₂ * o') :
    a = a' ∧ o = o' := by
  obtain rfl : o = o' := mul_left_cancel₀ (sub_ne_zero.2 hb) (by linear_combination h₁ - h₂)
  exact ⟨add_right_cancel h₁, rfl⟩

variable [DecidableEq K]

/-- **logUp, polynomial form**: if
`Σ_{a∈S} w(a)·∏_{b∈S∖a}(X − b) = Σ_{a∈S} w'(a)·∏_{b∈S∖a}(X − b)` in `K[X]`
(the identity `Σ_a w(a)/(X − a) = Σ_a w'(a)/(X − a)` multiplied by `∏_{b∈S}(X − b)`),
then `w(a) = w'(a)` for every `a ∈ S`. (Evaluate at `X = a`.) -/
theorem logup_polynomial_form_weights (S : Finset K) (w w' : K → K)
    (h : ∑ a ∈ S, w a • ∏ b ∈ S.erase a, (X - C b) = ∑ a ∈ S, w' a • ∏ b ∈ S.erase a, (X - C b)) :
    ∀ a ∈ S, w a = w' a := by
  intro a ha
  have := congrArg (eval a) (show logupPoly S w = logupPoly S w' from h)
  rw [logupPoly_eval_node S w ha, logupPoly_eval_node S w' ha] at this
  exact mul_right_cancel₀ (prod_erase_ne_zero S a) this

/-- the same for multiplicities in `ℕ`, compared in `K` -/
theorem logup_polynomial_form (S : Finset K) (m m' : K → ℕ)
    (h : ∑ a ∈ S, (m a : K) • ∏ b ∈ S.erase a, (X - C b)
       = ∑ a ∈ S, (m' a : K) • ∏ b ∈ S.erase a, (X - C b)) :
    ∀ a ∈ S, (m a : K) = (m' a : K) :=
  logup_polynomial_form_weights S (fun a => (m a : K)) (fun a => (m' a : K)) h

/-- **logUp, multiplicities as naturals**: when all multiplicities are below a bound `N` on which
`ℕ → K` is injective (`N ≤ char K`, or any `N` in characteristic zero), they agree in `ℕ`. -/
theorem logup_polynomial_form_nat (S : Finset K) (m m' : K → ℕ) (N : ℕ)
    (hchar : ∀ n k : ℕ, n < N → k < N → (n : K) = (k : K) → n = k)
    (hm : ∀ a ∈ S, m a < N ∧ m' a < N)
    (h : ∑ a ∈ S, (m a : K) • ∏ b ∈ S.erase a, (X - C b)
       = ∑ a ∈ S, (m' a : K) • ∏ b ∈ S.erase a, (X - C b)) :
    ∀ a ∈ S, m a = m' a :=
  fun a ha => hchar _ _ (hm a ha).1 (hm a ha).2 (logup_polynomial_form S m m' h a ha)

/-- the characteristic hypothesis is necessary: in characteristic `p > 0` the multiplicities `0`
and `p` satisfy the polynomial identity (`S = {0}`) but differ in `ℕ` -/
theorem logup_nat_false_without_char (p : ℕ) [CharP K p] (hp : p ≠ 0) :
    ∃ (S : Finset K) (m m' : K → ℕ),
      (∑ a ∈ S, (m a : K) • ∏ b ∈ S.erase a, (X - C b)
        = ∑ a ∈ S, (m' a : K) • ∏ b ∈ S.erase a, (X - C b))
      ∧ ∃ a ∈ S, m a ≠ m' a :=
  ⟨{0}, fun _ => 0, fun _ => p,
    by simp only [Finset.sum_singleton, CharP.cast_eq_zero, Nat.cast_zero],
    0, Finset.mem_singleton_self 0, hp.symm⟩

/-- if `Σ_{a∈S} w(a)/(x − a) = Σ_{a∈S} w'(a)/(x − a)` at `≥ #S` points `x ∉ S`, the polynomial
identity of `logup_polynomial_form_weights` holds (both sides have degree `< #S`) -/
theorem logup_rational_form (S T : Finset K) (w w' : K → K) (hdisj : Disjoint T S)
    (hcard : S.card ≤ T.card)
    (h : ∀ x ∈ T, ∑ a ∈ S, w a / (x - a) = ∑ a ∈ S, w' a / (x - a)) :
    ∑ a ∈ S, w a • ∏ b ∈ S.erase a, (X - C b) = ∑ a ∈ S, w' a • ∏ b ∈ S.erase a, (X - C b) := by
  refine eq_of_degrees_lt_of_eval_finset_eq T
    ((logupPoly_degree_lt S w).trans_le (Nat.cast_le.2 hcard))
    ((logupPoly_degree_lt S w').trans_le (Nat.cast_le.2 hcard)) fun x hx => ?_
  have hxS : x ∉ S := Finset.disjoint_left.1 hdisj hx
  exact (logupPoly_eval_off S w hxS).trans ((congrArg _ (h x hx)).trans (logupPoly_eval_off S w' hxS).symm)

theorem logup_rational_weights (S T : Finset K) (w w' : K → K) (hdisj : Disjoint T S)
    (hcard : S.card ≤ T.card)
    (h : ∀ x ∈ T, ∑ a ∈ S, w a / (x - a) = ∑ a ∈ S, w' a / (x - a)) :
    ∀ a ∈ S, w a = w' a :=
  logup_polynomial_form_weights S w w' (logup_rational_form S T w w' hdisj hcard h)

/-- **logUp, multiset form**: `f` the looked-up values, `t` the table values, `mult` the claimed
multiplicities (only `mult a` for `a ∈ t` matters). If that polynomial identity holds on
`S = f ∪ t` with `m = count in f` and `m' = mult` on `t`, `0` off `t`, and multiplicities are below
the characteristic bound, then the count of every value in `f` is its multiplicity, every looked-up
value is in the table, and `f` as a multiset is the table with its multiplicities. -/
theorem logup_multiset (f t : List K) (mult : K → ℕ) (N : ℕ)
    (hchar : ∀ n k : ℕ, n < N → k < N → (n : K) = (k : K) → n = k)
    (hf : f.length < N) (hmult : ∀ a ∈ t, mult a < N)
    (h : ∑ a ∈ f.toFinset ∪ t.toFinset,
            (f.count a : K) • ∏ b ∈ (f.toFinset ∪ t.toFinset).erase a, (X - C b)
       = ∑ a ∈ f.toFinset ∪ t.toFinset,
            ((if a ∈ t then mult a else 0 : ℕ) : K) • ∏ b ∈ (f.toFinset ∪ t.toFinset).erase a, (X - C b)) :
    (∀ a, f.count a = if a ∈ t then mult a else 0) ∧
    (∀ a ∈ f, a ∈ t ∧ 0 < mult a) ∧
    (↑f : Multiset K) = ∑ a ∈ t.toFinset, mult a • ({a} : Multiset K) := by
  have key : ∀ a, f.count a = if a ∈ t then mult a else 0 := by
    intro a
    by_cases ha : a ∈ f.toFinset ∪ t.toFinset
    · refine logup_polynomial_form_nat _ (fun a => f.count a) (fun a => if a ∈ t then mult a else 0)
        N hchar (fun b _ => ⟨List.count_le_length.trans_lt hf, ?_⟩) h a ha
      split
      · exact hmult b ‹_›
      · exact Nat.zero_lt_of_lt hf
    · rw [Finset.mem_union, List.mem_toFinset, List.mem_toFinset, not_or] at ha
      rw [if_neg ha.2, List.count_eq_zero_of_not_mem ha.1]
  refine ⟨key, fun a ha => ?_, ?_⟩
  · have hc : 0 < f.count a := List.count_pos_iff.2 ha
    rw [key a] at hc
    split at hc
    · exact ⟨‹_›, hc⟩
    · exact absurd hc (Nat.lt_irrefl 0)
  · ext a
    rw [Multiset.coe_count, key a, Multiset.count_sum']
    simp only [Multiset.count_nsmul, Multiset.count_singleton, mul_ite, mul_one, mul_zero,
      Finset.sum_ite_eq, List.mem_toFinset]

/-- **logUp, from challenge evaluations**: `t` duplicate-free. If the verifier-side identity
`Σ_j 1/(x − f_j) = Σ_i mult(t_i)/(x − t_i)` holds at `≥ #(f ∪ t)` points `x` outside `f ∪ t`,
the conclusions of `logup_multiset` hold. (For a single random `x` this is the Schwartz–Zippel
step: a violation leaves at most `#(f ∪ t) − 1` good `x`.) -/
theorem logup_multiset_of_evals (f t : List K) (ht : t.Nodup) (mult : K → ℕ) (N : ℕ)
    (hchar : ∀ n k : ℕ, n < N → k < N → (n : K) = (k : K) → n = k)
    (hf : f.length < N) (hmult : ∀ a ∈ t, mult a < N)
    (T : Finset K) (hdisj : Disjoint T (f.toFinset ∪ t.toFinset))
    (hcard : (f.toFinset ∪ t.toFinset).card ≤ T.card)
    (h : ∀ x ∈ T, (f.map fun a => (x - a)⁻¹).sum = (t.map fun a => (mult a : K) * (x - a)⁻¹).sum) :
    (∀ a, f.count a = if a ∈ t then mult a else 0) ∧
    (∀ a ∈ f, a ∈ t ∧ 0 < mult a) ∧
    (↑f : Multiset K) = ∑ a ∈ t.toFinset, mult a • ({a} : Multiset K) := by
  refine logup_multiset f t mult N hchar hf hmult
    (logup_rational_form _ T _ _ hdisj hcard fun x hx => ?_)
  have := h x hx
  rw [sum_map_eq_count_sum f _ Finset.subset_union_left,
    sum_map_eq_ite_sum t ht _ Finset.subset_union_right] at this
  simp only [div_eq_mul_inv]
  exact this

/-- a violation is caught by all but `< #(f ∪ t)` challenges: if some looked-up value is not in
the table, every set of challenges (off `f ∪ t`) at which the identity holds is smaller than
`#(f ∪ t)` -/
theorem logup_soundness (f t : List K) (ht : t.Nodup) (mult : K → ℕ) (N : ℕ)
    (hchar : ∀ n k : ℕ, n < N → k < N → (n : K) = (k : K) → n = k)
    (hf : f.length < N) (hmult : ∀ a ∈ t, mult a < N)
    (hbad : ∃ a ∈ f, a ∉ t)
    (T : Finset K) (hdisj : Disjoint T (f.toFinset ∪ t.toFinset))
    (h : ∀ x ∈ T, (f.map fun a => (x - a)⁻¹).sum = (t.map fun a => (mult a : K) * (x - a)⁻¹).sum) :
    T.card < (f.toFinset ∪ t.toFinset).card := by
  by_contra hlt
  obtain ⟨a, haf, hat⟩ := hbad
  exact hat ((logup_multiset_of_evals f t ht mult N hchar hf hmult T hdisj (not_lt.1 hlt) h).2.1
    a haf).1

/-- **Horner accumulation binds the coefficients**: two coefficient lists of the same length `n`
whose Horner evaluations agree at `≥ n` distinct points are equal -/
theorem re_polynomial (c c' : List K) (hl : c.length = c'.length) (D : Finset K)
    (hD : c.length ≤ D.card)
    (h : ∀ δ ∈ D, @Poly.eval K (FOps.ofField K) c δ = @Poly.eval K (FOps.ofField K) c' δ) :
    c = c' := by
  apply ofList_injective_of_length hl
  apply eq_of_degrees_lt_of_eval_finset_eq D
  · exact (ofList_degree_lt c).trans_le (by exact_mod_cast hD)
  · exact (ofList_degree_lt c').trans_le (by rw [← hl]; exact_mod_cast hD)
  · intro δ hδ
    rw [ofList_eval, ofList_eval, h δ hδ]

/-- soundness count: distinct lists of the same length `n ≥ 1` agree at fewer than `n` points -/
theorem re_polynomial_soundness (c c' : List K) (hl : c.length = c'.length) (hne : c ≠ c')
    (D : Finset K)
    (h : ∀ δ ∈ D, @Poly.eval K (FOps.ofField K) c δ = @Poly.eval K (FOps.ofField K) c' δ) :
    D.card < c.length := by
  by_contra hlt
  exact hne (re_polynomial c c' hl D (not_lt.1 hlt) h)

/-- **the RE polynomial binds the declared table** (shape of `lutPolyEval`: coefficients
`inp + b·out`, reversed, Horner at `δ`): tables of the same length `n` whose accumulations agree
for two distinct `b` and, for each, at `≥ n` distinct `δ`, are equal entry by entry -/
theorem re_polynomial_binds_table (tab tab' : List (K × K)) (hl : tab.length = tab'.length)
    (b₁ b₂ : K) (hb : b₁ ≠ b₂) (D₁ D₂ : Finset K) (hD₁ : tab.length ≤ D₁.card)
    (hD₂ : tab.length ≤ D₂.card)
    (h₁ : ∀ δ ∈ D₁, @Poly.eval K (FOps.ofField K) (tab.map fun p => p.1 + b₁ * p.2).reverse δ
      = @Poly.eval K (FOps.ofField K) (tab'.map fun p => p.1 + b₁ * p.2).reverse δ)
    (h₂ : ∀ δ ∈ D₂, @Poly.eval K (FOps.ofField K) (tab.map fun p => p.1 + b₂ * p.2).reverse δ
      = @Poly.eval K (FOps.ofField K) (tab'.map fun p => p.1 + b₂ * p.2).reverse δ) :
    tab = tab' := by
  have e₁ := List.reverse_injective
    (re_polynomial _ _ (by simp [hl]) D₁ (by simpa using hD₁) h₁)
  have e₂ := List.reverse_injective
    (re_polynomial _ _ (by simp [hl]) D₂ (by simpa using hD₂) h₂)
  apply List.ext_getElem hl
  intro i hi hi'
  have g₁ := congrArg (fun l => l[i]?) e₁
  have g₂ := congrArg (fun l => l[i]?) e₂
  simp only [List.getElem?_map, List.getElem?_eq_getElem hi, List.getElem?_eq_getElem hi',
    Option.map_some, Option.some.injEq] at g₁ g₂
  obtain ⟨p1, p2⟩ := pair_binding _ _ _ _ b₁ b₂ hb g₁ g₂
  exact Prod.ext p1 p2

/-- `f = [1,1,2]`, `t = [1,2,3]`, multiplicities `2,1,0` over `ℚ`: the hypothesis of
`logup_multiset` holds -/
example :
    let f : List ℚ := [1, 1, 2]
    let t : List ℚ := [1, 2, 3]
    let mult : ℚ → ℕ := fun a => if a = 1 then 2 else if a = 2 then 1 else 0
    ∑ a ∈ f.toFinset ∪ t.toFinset,
        (f.count a : ℚ) • ∏ b ∈ (f.toFinset ∪ t.toFinset).erase a, (X - C b)
      = ∑ a ∈ f.toFinset ∪ t.toFinset,
        ((if a ∈ t then mult a else 0 : ℕ) : ℚ) • ∏ b ∈ (f.toFinset ∪ t.toFinset).erase a, (X - C b) := by
  intro f t mult
  refine Finset.sum_congr rfl fun a ha => ?_
  have : f.count a = if a ∈ t then mult a else 0 := by
    revert a
    decide +kernel
  rw [this]

example : @Poly.eval ℚ (FOps.ofField ℚ) [1, 2, 3] 2 = 17 := by
  decide +kernel

end P2.Props.C08
