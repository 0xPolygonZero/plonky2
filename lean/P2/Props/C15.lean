/-
C15 (general theorems): bit reversal is an involution and decomposes over a split of the bit width;
the index arithmetic of `reverse_index_bits` (small / large / chunked variants) is bit reversal for
every size; Horner evaluation is the defining sum and `divide_by_linear` satisfies the division
identity; `ifft ∘ fft = id`, `fft ∘ ifft = id` for the O(n²) definition; the invariant of one
Cooley–Tukey round, and `fft_classic` (`r = 0`) computes the O(n²) definition.
-/
import P2.Lemmas.C15Fft
import P2.Props.C15Gen
set_option linter.unusedSectionVars false
namespace P2.Props.C15
open P2 P2.BitRev P2.Fft P2.Lemmas.C15

/-! ## T1 bit reversal -/

theorem bitrev_lt : ∀ b i, bitrev b i < 2 ^ b := Lemmas.C15.bitrev_lt

theorem bitrev_involutive : ∀ b i, i < 2 ^ b → bitrev b (bitrev b i) = i := Lemmas.C15.bitrev_involutive

/-- full decomposition: the low `b` bits are reversed into the high positions, the remaining high
bits are reversed into the low `a` positions. (Holds for every `i`; `bitrev` ignores bits above its
width.) -/
theorem bitrev_split : ∀ a b i, i < 2 ^ (a + b) →
    bitrev (a + b) i = bitrev a (i / 2 ^ b) + bitrev b (i % 2 ^ b) * 2 ^ a :=
  fun a b i _ => Lemmas.C15.bitrev_add a b i

/-! ## T2 `reverse_index_bits` -/

theorem srcLarge_eq_bitrev : ∀ nPower, 6 < nPower → ∀ i, i < 2 ^ nPower →
    srcLarge nPower i = bitrev nPower i := by
  intro nPower h i _
  conv_rhs => rw [← Nat.sub_add_cancel (Nat.le_of_lt h), bitrev_add]
  rw [srcLarge, Props.C15Gen.table_is_bitrev6.2 _ (Nat.mod_lt _ (by decide))]

theorem reverseIndexBits_eq_spec {α : Type} [Inhabited α] : ∀ (arr : Array α) nPower,
    arr.size = 2 ^ nPower → reverseIndexBits arr nPower = reverseIndexBitsSpec arr nPower := by
  intro arr nPower hs
  refine map_range_congr _ _ _ fun i hi => ?_
  rw [hs] at hi
  split
  · next h => rw [Props.C15Gen.srcSmall_eq_bitrev nPower h i hi]
  · next h => rw [srcLarge_eq_bitrev nPower (Nat.lt_of_not_le h) i hi]

/-! ## T3 chunked variant -/

theorem chunkedMap_eq_bitrev : ∀ lbN i, i < 2 ^ lbN → chunkedMap lbN i = bitrev lbN i :=
  fun lbN i _ => Lemmas.C15.chunkedMap_eq_bitrev lbN i

/-! ## T4 polynomials over a field -/

section
variable {K : Type} [Field K] [DecidableEq K]

/-- Horner evaluation is the defining sum -/
theorem eval_eq_sum (c : List K) (x : K) :
    @Poly.eval K (FOps.ofField K) c x = ∑ i : Fin c.length, c[i] * x ^ (i : Nat) :=
  Lemmas.C15.eval_eq_sum c x

/-- `divide_by_linear(z)`: `p = q·(X − z) + p(z)` as functions (for every `c`, empty included) -/
theorem divideByLinear_spec (c : List K) (z x : K) :
    @Poly.eval K (FOps.ofField K) c x
      = @Poly.eval K (FOps.ofField K) (@Poly.divideByLinear K (FOps.ofField K) c z) x * (x - z)
        + @Poly.eval K (FOps.ofField K) c z := by
  cases c with
  | nil => simp [divideByLinear_nil, eval_nil]
  | cons a c =>
    rw [divideByLinear_cons, eval_cons, eval_cons, synth_spec c z x]
    ring

/-- the quotient has one coefficient fewer -/
theorem divideByLinear_length (c : List K) (z : K) :
    (@Poly.divideByLinear K (FOps.ofField K) c z).length = c.length - 1 := by
  cases c with
  | nil => rfl
  | cons a c =>
    rw [divideByLinear_cons, synth_length, List.length_cons, Nat.add_sub_cancel]

/-- the same identity coefficient by coefficient: `c_i = q_{i−1} − z·q_i` (with `q_{−1} := p(z)`), i.e.
`q·(X − z) + p(z) = p` as coefficient lists -/
theorem divideByLinear_coeff (c : List K) (z : K) (i : Nat) :
    c.getD i 0
      = (if i = 0 then @Poly.eval K (FOps.ofField K) c z
          else (@Poly.divideByLinear K (FOps.ofField K) c z).getD (i - 1) 0)
        - (@Poly.divideByLinear K (FOps.ofField K) c z).getD i 0 * z := by
  rw [divideByLinear_getD c z i, getD_eq_eval_drop c z i]
  cases i with
  | zero => simp
  | succ i => rw [if_neg (by omega), divideByLinear_getD c z (i + 1 - 1)]; simp

end

/-! ## T5 inverse transform -/

section
variable {K : Type} [Field K] [DecidableEq K] [Inhabited K]

/-- `ifft(fft(c)) = c`: `ifft_with_options` = forward transform followed by `ifftPost`.
(The statement `ifftPost (dft ω c) n⁻¹ = c` is false: `ifftPost` after ONE forward transform is the
inverse transform `n⁻¹·Σ c_j ω^(−ij)` of `c`, see `ifftPost_dft`; it undoes a transform only when
applied to the transform of the transformed data.) -/
theorem ifft_of_dft {ω : K} (c : Array K) (n : Nat) (hs : c.size = n) (hω : IsPrimitiveRoot ω n)
    (hn : (n : K) ≠ 0) :
    @ifftPost K (FOps.ofField K) _ (@dft K (FOps.ofField K) ω (@dft K (FOps.ofField K) ω c))
      ((n : K))⁻¹ = c := by
  subst hs; exact Lemmas.C15.ifft_of_dft c hω hn

/-- `fft(ifft(c)) = c` -/
theorem dft_of_ifft {ω : K} (c : Array K) (n : Nat) (hs : c.size = n) (hω : IsPrimitiveRoot ω n)
    (hn : (n : K) ≠ 0) :
    @dft K (FOps.ofField K) ω (@ifftPost K (FOps.ofField K) _ (@dft K (FOps.ofField K) ω c)
      ((n : K))⁻¹) = c := by
  subst hs
  apply array_ext!
  · rw [dft_size, ifftPost_size, dft_size]
  · intro i hi
    rw [dft_size, ifftPost_size, dft_size] at hi
    rw [dft_getElem! _ _ _ (by rw [ifftPost_size, dft_size]; exact hi), ifftPost_size, dft_size,
      dftFn_congr _ _ (fun m => dftFn ω⁻¹ (fun j => c[j]!) c.size m * (c.size : K)⁻¹) _ _
        (fun j hj => ifftPost_dft_getElem! c hω _ j hj),
      dftFn_smul, dftFn_dftFn hω.inv (mul_inv_cancel₀ (hω.ne_zero (by omega))) (fun j => c[j]!) i hi,
      mul_inv_cancel_right₀ hn]

/-- what `ifftPost` after one forward transform is: the scaled transform with `ω⁻¹` -/
theorem ifftPost_dft {ω : K} (c : Array K) (n : Nat) (hs : c.size = n) (hω : IsPrimitiveRoot ω n)
    (s : K) (i : Nat) (hi : i < n) :
    (@ifftPost K (FOps.ofField K) _ (@dft K (FOps.ofField K) ω c) s)[i]!
      = (∑ j ∈ Finset.range n, c[j]! * (ω⁻¹) ^ (i * j)) * s := by
  subst hs; exact Lemmas.C15.ifftPost_dft_getElem! c hω s i hi

/-- the model's `dft` is the defining sum -/
theorem dft_eq_sum (ω : K) (c : Array K) (i : Nat) (hi : i < c.size) :
    (@dft K (FOps.ofField K) ω c)[i]! = ∑ j ∈ Finset.range c.size, c[j]! * ω ^ (i * j) :=
  Lemmas.C15.dft_getElem! ω c i hi

/-- the statement `ifftPost (dft ω c) n⁻¹ = c` fails already for `n = 2` in every field of
characteristic `≠ 2` -/
theorem ifft_as_stated_false (h2 : (2 : K) ≠ 0) :
    ∃ (ω : K) (c : Array K), c.size = 2 ∧ IsPrimitiveRoot ω 2 ∧
      @ifftPost K (FOps.ofField K) _ (@dft K (FOps.ofField K) ω c) ((2 : K))⁻¹ ≠ c := by
  have hp := isPrimitiveRoot_neg_one h2
  refine ⟨-1, #[0, 1], rfl, hp, fun h => ?_⟩
  have h0 := (ifftPost_dft_getElem! #[0, 1] hp _ 0 Nat.two_pos).symm.trans (congrArg (·[0]!) h)
  exact inv_ne_zero h2 (by simpa [dftFn, Finset.sum_range_succ] using h0)

/-! ## T6 Cooley–Tukey -/

/-- single-round invariant: one radix-2 round with half block size `2^t` (twiddles
`table[t][j] = (ω^(2^(lgN−t−1)))^j`) takes `RoundInv` (block `q` holds the size-`2^t` transform of
the decimated subsequence) from `t` to `t+1`. -/
theorem round_invariant {ω : K} {lgN : Nat} (hω : IsPrimitiveRoot ω (2 ^ lgN)) (values v : Array K)
    (table : Array (Array K)) (t : Nat) (ht : t < lgN)
    (htab : ∀ j, j < 2 ^ t → (table[t]!)[j]! = (ω ^ (2 ^ (lgN - t - 1))) ^ j)
    (hv : RoundInv ω values lgN t v) :
    RoundInv ω values lgN (t + 1) (@round K (FOps.ofField K) _ v table t) := by
  obtain ⟨hsz, hv⟩ := hv
  refine ⟨by rw [round_size, hsz], ?_⟩
  -- with `lgN = t + 1 + L`: block `q < 2^L` of the output is the butterfly of blocks `2q`, `2q + 1`
  obtain ⟨L, rfl⟩ : ∃ L, lgN = t + 1 + L := ⟨lgN - (t + 1), (Nat.add_sub_cancel' ht).symm⟩
  have h1 : t + 1 + L - t = L + 1 := by omega
  rw [Nat.add_sub_cancel_left, pow_succ' 2 t]
  rw [h1] at hv
  rw [h1, Nat.add_sub_cancel] at htab
  have hζ : (ω ^ 2 ^ L) ^ 2 ^ t = -1 := by
    have := primitive_half hω (Nat.lt_of_lt_of_le t.succ_pos (Nat.le_add_right _ _))
    rwa [Nat.add_right_comm, Nat.add_sub_cancel, Nat.add_comm t L, pow_add, pow_mul] at this
  have hζ2 : ω ^ 2 ^ (L + 1) = (ω ^ 2 ^ L) ^ 2 := by rw [← pow_mul, pow_succ]
  intro q j hq hj
  have hq0 : 2 * q < 2 ^ (L + 1) := by rw [pow_succ']; exact Nat.mul_lt_mul_of_pos_left hq Nat.two_pos
  have hq1 : 2 * q + 1 < 2 ^ (L + 1) := by rw [pow_succ']; omega
  have hbound : q * (2 * 2 ^ t) + j < v.size := by
    rw [hsz, pow_add, pow_succ']; exact lt_mul_of_digits q j _ _ hq hj
  have f0 : (fun s => values[s * 2 ^ (L + 1) + bitrev (L + 1) (2 * q)]!)
      = (fun s => values[2 * s * 2 ^ L + bitrev L q]!) := by
    funext s; rw [bitrev_two_mul, pow_succ', ← Nat.mul_assoc, Nat.mul_comm s 2]
  have f1 : (fun s => values[s * 2 ^ (L + 1) + bitrev (L + 1) (2 * q + 1)]!)
      = (fun s => values[(2 * s + 1) * 2 ^ L + bitrev L q]!) := by
    funext s
    rw [bitrev_two_mul_add_one, pow_succ', ← Nat.mul_assoc, Nat.mul_comm s 2, ← Nat.add_assoc,
      ← Nat.succ_mul]
  rw [round_getElem! v table t q j hj hbound]
  by_cases hlo : j < 2 ^ t
  · rw [if_pos hlo, hv _ _ hq0 hlo, hv _ _ hq1 hlo, htab j hlo, dftFn_butterfly_lo, hζ2, f0, f1]
  · obtain ⟨j', rfl⟩ : ∃ j', j = j' + 2 ^ t := ⟨j - 2 ^ t, (Nat.sub_add_cancel (Nat.le_of_not_lt hlo)).symm⟩
    have hlo' : j' < 2 ^ t := by omega
    rw [if_neg hlo, Nat.add_sub_cancel, hv _ _ hq0 hlo', hv _ _ hq1 hlo', htab j' hlo',
      dftFn_butterfly_hi _ _ _ _ hζ, hζ2, f0, f1]

/-- the invariant holds initially for the bit-reversed input -/
theorem round_invariant_init (ω : K) (values : Array K) (lgN : Nat) (hs : values.size = 2 ^ lgN) :
    RoundInv ω values lgN 0 (reverseIndexBitsSpec values lgN) := by
  refine ⟨by simp [reverseIndexBitsSpec, hs], ?_⟩
  intro q j hq hj
  have hj0 : j = 0 := by simpa using hj
  subst hj0
  unfold reverseIndexBitsSpec
  rw [getElem!_map_range _ _ _ (by rw [hs]; simpa using hq)]
  simp [dftFn]

theorem roundInv_fold {ω : K} {lgN : Nat} (hω : IsPrimitiveRoot ω (2 ^ lgN)) (values : Array K)
    (hs : values.size = 2 ^ lgN) (table : Array (Array K))
    (htab : ∀ t j, t < lgN → j < 2 ^ t → (table[t]!)[j]! = (ω ^ (2 ^ (lgN - t - 1))) ^ j)
    (t : Nat) (ht : t ≤ lgN) :
    RoundInv ω values lgN t
      ((List.range t).foldl (fun v t => @round K (FOps.ofField K) _ v table (0 + t))
        (reverseIndexBitsSpec values lgN)) := by
  induction t with
  | zero => exact round_invariant_init ω values lgN hs
  | succ t ih =>
    rw [List.range_succ, List.foldl_append]
    simp only [List.foldl_cons, List.foldl_nil, Nat.zero_add]
    have := ih (by omega)
    simp only [Nat.zero_add] at this
    exact round_invariant hω values _ table t (by omega) (fun j hj => htab t j (by omega) hj) this

/-- after the last round the single block holds the whole transform -/
theorem roundInv_final {ω : K} {lgN : Nat} (values v : Array K) (hs : values.size = 2 ^ lgN)
    (h : RoundInv ω values lgN lgN v) : v = @dft K (FOps.ofField K) ω values := by
  apply array_ext!
  · rw [dft_size, h.1, hs]
  · intro i hi
    rw [h.1] at hi
    have := h.2 0 i (by simp) hi
    simp only [Nat.sub_self, pow_zero, pow_one, Nat.zero_mul, Nat.zero_add, Nat.mul_one, bitrev,
      Nat.add_zero] at this
    rw [this, dft_getElem! _ _ _ (by rw [hs]; exact hi), hs]

/-- `fft_classic` (`r = 0`) over any table of the right shape computes the defining sum -/
theorem fftClassic_eq_dft_of_table {ω : K} {lgN : Nat} (hω : IsPrimitiveRoot ω (2 ^ lgN))
    (values : Array K) (hs : values.size = 2 ^ lgN) (table : Array (Array K))
    (hsize : table.size = lgN)
    (htab : ∀ t j, t < lgN → j < 2 ^ t → (table[t]!)[j]! = (ω ^ (2 ^ (lgN - t - 1))) ^ j) :
    @fftClassic K (FOps.ofField K) _ values lgN 0 table = .ok (@dft K (FOps.ofField K) ω values) := by
  unfold fftClassic
  simp only [hsize, ne_eq, not_true_eq_false, if_false, gt_iff_lt, Nat.lt_irrefl, Nat.sub_zero]
  congr 1
  exact roundInv_final values _ hs (roundInv_fold hω values hs table htab lgN (Nat.le_refl _))

/-- for an arbitrary `primitive_root_of_unity` function: only its value at `lgN` matters -/
theorem fftClassic_eq_dft_rootTable (pr : Nat → K) {lgN : Nat} (hω : IsPrimitiveRoot (pr lgN) (2 ^ lgN))
    (values : Array K) (hs : values.size = 2 ^ lgN) :
    @fftClassic K (FOps.ofField K) _ values lgN 0 (@rootTable K (FOps.ofField K) pr lgN)
      = .ok (@dft K (FOps.ofField K) (pr lgN) values) :=
  fftClassic_eq_dft_of_table hω values hs _ (rootTable_size _ _) (rootTable_getElem! pr lgN)

/-- `fft_classic(values, 0, fft_root_table(n))` is the DFT, for every `lgN` -/
theorem fftClassic_eq_dft {ω : K} {lgN : Nat} (hω : IsPrimitiveRoot ω (2 ^ lgN))
    (values : Array K) (hs : values.size = 2 ^ lgN) :
    @fftClassic K (FOps.ofField K) _ values lgN 0 (@rootTable K (FOps.ofField K) (fun _ => ω) lgN)
      = .ok (@dft K (FOps.ofField K) ω values) :=
  fftClassic_eq_dft_rootTable (fun _ => ω) hω values hs

/-- with the code's bit-reversal arithmetic in place of the specification -/
theorem fftClassic_eq_dft' {ω : K} {lgN : Nat} (hω : IsPrimitiveRoot ω (2 ^ lgN))
    (values : Array K) (hs : values.size = 2 ^ lgN) :
    (reverseIndexBits values lgN = reverseIndexBitsSpec values lgN) ∧
    @fftClassic K (FOps.ofField K) _ values lgN 0 (@rootTable K (FOps.ofField K) (fun _ => ω) lgN)
      = .ok (@dft K (FOps.ofField K) ω values) :=
  ⟨reverseIndexBits_eq_spec values lgN hs, fftClassic_eq_dft hω values hs⟩

end

end P2.Props.C15
