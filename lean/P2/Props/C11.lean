/-
C11 (component equivalences): the variable-degree gadgets of the in-circuit STARK verifier compute
what the native verifier computes.
 (i)   `degree = 2^degree_bits` from the `degree_bits` target: equal to the native value exactly when
       `degree_bits < 2^width`, unsatisfiable otherwise (the width condition that seeded change
       C11-m1 violates for circuits whose degree_bits is a power of two); `zeta^degree` from the
       bits of `degree` equals the native `exp_power_of_2`;
 (ii)  recombining a chunk of quotient openings with `ReducingFactorTarget(ζ^n)` is the native
       `reduce_with_powers`; seeded change C11-m2 computes it for the REVERSED chunk;
 (iii) the conditional Merkle gadget with a window of final states checks exactly the native
       verification of the path prefix whose length the degree selects;
 (iv)  evaluating the zero-padded final polynomial equals evaluating the unpadded one.
 (v)   the circuit's `step_active` flag of step `j` is on iff `j < numSteps` (`stepActive_eq`,
       `lt_numSteps_iff`), and the native `ConstantArityBits` schedule makes exactly `numSteps`
       reductions (`constantArityBits_var`); that a FRI step is active in the circuit iff the native
       schedule has it is the combination of the three and is not stated as one theorem.
Core Lean only.
-/
import P2.Model.StarkCircuit
import P2.Props.C06
namespace P2.Props.C11
open P2 P2.Merkle P2.CircuitVerifier P2.StarkCircuit

variable {K : Type}

/-! ## (i) degree from bits -/

/-- the multiplicative laws the power lemmas need (a monoid) -/
structure MulLaws (K : Type) [Mul K] (one : K) : Prop where
  one_mul : ∀ x : K, one * x = x
  mul_one : ∀ x : K, x * one = x
  mul_assoc : ∀ x y z : K, x * y * z = x * (y * z)

theorem natLaws : MulLaws Nat 1 := ⟨Nat.one_mul, Nat.mul_one, Nat.mul_assoc⟩

/-- `x^n` by repeated multiplication on the right -/
def npow [Mul K] (one x : K) : Nat → K
  | 0 => one
  | n + 1 => npow one x n * x

/-- value of little-endian bits -/
def bitsVal : List Bool → Nat
  | [] => 0
  | b :: bs => (if b then 1 else 0) + 2 * bitsVal bs

section
variable [Mul K] {one : K} (L : MulLaws K one)
include L

theorem npow_add (x : K) (a b : Nat) : npow one x (a + b) = npow one x a * npow one x b := by
  induction b with
  | zero => simp [npow, L.mul_one]
  | succ b ih => rw [← Nat.add_assoc]; simp only [npow]; rw [ih, L.mul_assoc]

theorem npow_comm (x : K) (n : Nat) : x * npow one x n = npow one x n * x := by
  induction n with
  | zero => simp [npow, L.mul_one, L.one_mul]
  | succ n ih => simp only [npow]; rw [← L.mul_assoc, ih]

theorem npow_sq (x : K) (n : Nat) : npow one (x * x) n = npow one x (2 * n) := by
  induction n with
  | zero => simp [npow]
  | succ n ih =>
    have : 2 * (n + 1) = 2 * n + 1 + 1 := by omega
    rw [this]; simp only [npow]; rw [ih, L.mul_assoc]

/-- the exponentiation gate computes `base^(value of the bits)` -/
theorem expFromBits_eq (base : K) (bs : List Bool) :
    expFromBits one base bs = npow one base (bitsVal bs) := by
  unfold expFromBits
  rw [List.foldl_reverse]
  induction bs with
  | nil => simp [bitsVal, npow]
  | cons b bs ih =>
    simp only [List.foldr_cons, bitsVal]
    rw [ih, ← npow_add L]
    cases b with
    | false =>
      simp only [Bool.false_eq_true, if_false, L.mul_one]
      congr 1; omega
    | true =>
      simp only [if_true]
      have : 1 + 2 * bitsVal bs = (bitsVal bs + bitsVal bs) + 1 := by omega
      rw [this]; simp [npow]

/-- `exp_extension_from_bits` computes `res · base^(value of the bits)` -/
theorem expExtFromBits_eq (bs : List Bool) : ∀ (base res : K),
    expExtFromBits base bs res = res * npow one base (bitsVal bs) := by
  induction bs with
  | nil => intro base res; simp [expExtFromBits, bitsVal, npow, L.mul_one]
  | cons b bs ih =>
    intro base res
    simp only [expExtFromBits, bitsVal]
    rw [ih, npow_sq L]
    cases b with
    | false => simp
    | true =>
      simp only [if_true]
      have : 1 + 2 * bitsVal bs = 2 * bitsVal bs + 1 := by omega
      rw [this]; simp only [npow]
      rw [L.mul_assoc, npow_comm L]

/-- native `exp_power_of_2` -/
theorem expPowerOf2_eq (d : Nat) : ∀ x : K, expPowerOf2 x d = npow one x (2 ^ d) := by
  induction d with
  | zero => intro x; simp [expPowerOf2, npow, L.one_mul]
  | succ d ih =>
    intro x
    simp only [expPowerOf2]
    rw [ih, npow_sq L]
    congr 1; rw [Nat.pow_succ]; omega

end

theorem bitsVal_lowBits (n x : Nat) : bitsVal (lowBits n x) = x % 2 ^ n := by
  induction n generalizing x with
  | zero => rw [Nat.pow_zero, Nat.mod_one]; rfl
  | succ n ih =>
    rw [lowBits, bitsVal, ih, Nat.pow_succ', Nat.mod_mul]
    rcases Nat.mod_two_eq_zero_or_one x with h | h <;> rw [h] <;> rfl

theorem npow_nat (b n : Nat) : npow 1 b n = b ^ n := by
  induction n with
  | zero => rfl
  | succ n ih => simp [npow, ih, Nat.pow_succ]

/-- **`builder.exp`**: the exponent must fit the declared width, and then the result is the power. -/
theorem expGadget_eq [Mul K] {one : K} (L : MulLaws K one) (base : K) (e n : Nat) :
    expGadget one base e n = if e < 2 ^ n then some (npow one base e) else none := by
  unfold expGadget splitLe
  by_cases h : e < 2 ^ n
  · simp only [h, if_true, Option.map_some]
    rw [expFromBits_eq L, bitsVal_lowBits, Nat.mod_eq_of_lt h]
  · simp [h]

/-- **The degree gadget.** `exp(2, degree_bits, width)` yields the native `2^degree_bits` exactly
when `degree_bits < 2^width`; otherwise the decomposition of `degree_bits` into `width` bits is
unsatisfiable and the circuit rejects. -/
theorem degreeGadget_eq (width d : Nat) :
    degreeGadget width d = if d < 2 ^ width then some (2 ^ d) else none := by
  unfold degreeGadget
  rw [expGadget_eq natLaws, npow_nat]

theorem lt_two_pow_succ {d m : Nat} (h : d ≤ m) : d < 2 ^ (m + 1) :=
  Nat.lt_of_lt_of_le (Nat.lt_succ_of_le h) (Nat.le_of_lt Nat.lt_two_pow_self)

/-- the code's width `degree_bits(circuit) + 1` is always enough: every supported length works -/
theorem degreeGadget_code_width (maxBits d : Nat) (h : d ≤ maxBits) :
    degreeGadget (maxBits + 1) d = some (2 ^ d) := by
  rw [degreeGadget_eq, if_pos (lt_two_pow_succ h)]

/-- a width of `j` bits cannot carry `degree_bits = 2^j`: with seeded change C11-m1 the width is
`log2_ceil(degree_bits(circuit))`, which is `j` for a circuit sized for `2^j`, and a proof of
exactly the circuit's length is rejected -/
theorem degreeGadget_too_narrow (width d : Nat) (h : 2 ^ width ≤ d) : degreeGadget width d = none := by
  rw [degreeGadget_eq, if_neg (Nat.not_lt.mpr h)]

example : degreeGadget (log2Ceil 4) 4 = none := by decide
example : degreeGadget (log2Ceil 8) 8 = none := by decide
example : degreeGadget (log2Ceil 2) 2 = none := by decide
example : degreeGadget (log2Ceil 5) 5 = some 32 := by decide
example : degreeGadget (log2Ceil 8) 7 = some 128 := by decide
example : degreeGadget (8 + 1) 8 = some 256 := by decide

/-- **`degree_bits_vec`.** For a supported length the bits are those of `2^degree_bits`; a
`degree_bits` above the circuit's maximum fails the range check `split_le(degree, maxBits + 1)`. -/
theorem degreeBitsVec_eq (maxBits d : Nat) :
    degreeBitsVec (maxBits + 1) maxBits d =
      if d ≤ maxBits then some (lowBits (maxBits + 1) (2 ^ d)) else none := by
  rw [degreeBitsVec, degreeGadget_eq]
  by_cases h : d ≤ maxBits
  · rw [if_pos (lt_two_pow_succ h), if_pos h]
    exact if_pos (Nat.pow_lt_pow_right (by decide) (Nat.lt_succ_of_le h))
  · rw [if_neg h]
    split
    · exact if_neg fun hh => h (Nat.le_of_lt_succ ((Nat.pow_lt_pow_iff_right (by decide)).1 hh))
    · rfl

/-- **`zeta_pow_deg` in the circuit = native `zeta.exp_power_of_2(degree_bits)`** for every
supported length; rejection above the maximum. -/
theorem zetaPowDeg_eq_native [Mul K] {one : K} (L : MulLaws K one) (zeta : K) (maxBits d : Nat) :
    zetaPowDeg one zeta (maxBits + 1) maxBits d =
      if d ≤ maxBits then some (expPowerOf2 zeta d) else none := by
  unfold zetaPowDeg
  rw [degreeBitsVec_eq]
  by_cases h : d ≤ maxBits
  · have h2 : 2 ^ d < 2 ^ (maxBits + 1) := Nat.pow_lt_pow_right (by omega) (by omega)
    simp only [h, if_true, Option.map_some]
    rw [expExtFromBits_eq L, bitsVal_lowBits, Nat.mod_eq_of_lt h2, L.one_mul, expPowerOf2_eq L]
  · simp [h]

/-! ## (ii) quotient recombination, (iv) zero-padded final polynomial -/

theorem foldr_replicate_zero (f : K → K → K) (z : K) (hz : f z z = z) (k : Nat) :
    List.foldr f z (List.replicate k z) = z := by
  induction k with
  | zero => rfl
  | succ k ih => simp [List.replicate_succ, ih, hz]

section Reduce
variable [FOps K]

/-- **`ReducingFactorTarget::reduce` = native `reduce_with_powers`**, whatever the number of zeros
that fill up the last reducing gate. `hc`: multiplication by `α` commutes (the circuit multiplies
`α·acc`, the native code `acc·α`); `hz`: `α·0 + 0 = 0`. -/
theorem reducingReduce_eq_native (alpha : K) (terms : List K) (pad : Nat)
    (hc : ∀ x : K, alpha * x = x * alpha) (hz : alpha * (FOps.zero : K) + FOps.zero = FOps.zero) :
    reducingReduce FOps.zero alpha terms pad = FOps.reduceWithPowers terms alpha := by
  unfold reducingReduce FOps.reduceWithPowers
  rw [List.foldl_reverse, List.foldr_append,
    foldr_replicate_zero (fun t acc => alpha * acc + t) FOps.zero hz]
  congr 1
  funext t acc
  rw [hc]

/-- the circuit's identity check on a chunk is the native one -/
theorem quotientCheck_circuit_eq_native (vanishing zH zetaPow : K) (chunk : List K)
    (hc : ∀ x : K, zetaPow * x = x * zetaPow)
    (hz : zetaPow * (FOps.zero : K) + FOps.zero = FOps.zero) :
    quotientCheckCircuit vanishing zH zetaPow chunk = quotientCheckNative vanishing zH zetaPow chunk := by
  unfold quotientCheckCircuit quotientCheckNative
  rw [reducingReduce_eq_native zetaPow chunk 0 hc hz]

/-- **Seeded change C11-m2 recombines the REVERSED chunk**: its Horner loop takes `chunk[0]` as
the leading coefficient. (`hz0`: `0·α + c = c`.) -/
theorem seededM2_is_reversed (alpha c0 : K) (rest : List K)
    (hz0 : ∀ c : K, (FOps.zero : K) * alpha + c = c) :
    seededM2Reduce alpha (c0 :: rest) = some (FOps.reduceWithPowers (c0 :: rest).reverse alpha) := by
  unfold seededM2Reduce FOps.reduceWithPowers
  rw [List.foldr_reverse]
  simp [List.foldl_cons, hz0]

/-- **(iv) The zero-padded final polynomial evaluates like the unpadded one**: what
`set_fri_proof_target` assigns to a final-polynomial target longer than the proof's polynomial
(a proof of a shorter trace in the variable-degree circuit) does not change `eval_scalar`. -/
theorem paddedFinalPolyEval_eq_native (x : K) (coeffs : List K) (targetLen pad : Nat)
    (hc : ∀ y : K, x * y = y * x) (hz : x * (FOps.zero : K) + FOps.zero = FOps.zero) :
    paddedFinalPolyEval FOps.zero x coeffs targetLen pad = FOps.reduceWithPowers coeffs x := by
  unfold paddedFinalPolyEval reducingReduce
  rw [List.append_assoc, List.replicate_append_replicate]
  exact reducingReduce_eq_native x coeffs _ hc hz

end Reduce

/-- over the integers the seeded recombination differs from the native one as soon as a chunk has
two elements (`quotient_degree_factor = 2`, constraint degree 3) … -/
example : seededM2Reduce 2 [1, 0] = some 2 ∧ (List.foldr (fun x acc => acc * 2 + x) 0 [1, 0] : Nat) = 1 := by decide
/-- … and agrees on one-element chunks (constraint degree ≤ 2), where it goes unnoticed -/
example : seededM2Reduce 7 [5] = some 5 ∧ (List.foldr (fun x acc => acc * 7 + x) 0 [5] : Nat) = 5 := by decide

/-! ## (iii) conditional Merkle verification with a window of final states -/

theorem lowBits_take (n i k : Nat) (h : k ≤ n) : (lowBits n i).take k = lowBits k i := by
  induction n generalizing i k with
  | zero => have : k = 0 := by omega
            subst this; simp [lowBits]
  | succ n ih =>
    cases k with
    | zero => simp [lowBits]
    | succ k => simp only [lowBits, List.take_succ_cons]; rw [ih _ _ (by omega)]

section Window
variable {L D : Type}

/-- the states after 1, 2, … layers -/
def pathStates (h : Hasher L D) : D → List (Bool × D) → List D
  | _, [] => []
  | st, bs :: rest => layer h st bs :: pathStates h (layer h st bs) rest

theorem pathStates_length (h : Hasher L D) (l : List (Bool × D)) : ∀ st, (pathStates h st l).length = l.length := by
  induction l with
  | nil => intro st; rfl
  | cons b l ih => intro st; simp [pathStates, ih]

theorem pathStates_get (h : Hasher L D) (l : List (Bool × D)) : ∀ (st : D) (i : Nat), i < l.length →
    (pathStates h st l)[i]? = some ((l.take (i + 1)).foldl (layer h) st) := by
  induction l with
  | nil => intro st i hi; simp at hi
  | cons b l ih =>
    intro st i hi
    cases i with
    | zero => simp [pathStates]
    | succ i =>
      simp only [pathStates, List.getElem?_cons_succ, List.take_succ_cons, List.foldl_cons]
      exact ih _ i (by simpa using hi)

/-- the window after all layers: the last `num` entries of `num` copies of the leaf hash followed
by the path states -/
theorem window_invariant (h : Hasher L D) (num : Nat) (hn : 1 ≤ num) (l : List (Bool × D)) :
    ∀ (st : D) (pre : List D) (t : Nat), t + num = pre.length →
      (l.foldl (fun (sw : D × List D) bs =>
          let s := layer h sw.1 bs
          (s, sw.2.drop 1 ++ [s])) (st, pre.drop t)).2
        = (pre ++ pathStates h st l).drop (t + l.length) := by
  induction l with
  | nil => intro st pre t _; rw [pathStates, List.append_nil]; rfl
  | cons b l ih =>
    intro st pre t ht
    have ht1 : t + 1 ≤ pre.length := by omega
    show (l.foldl _ (layer h st b, (pre.drop t).drop 1 ++ [layer h st b])).2 = _
    rw [List.drop_drop, ← List.drop_append_of_le_length (l₂ := [layer h st b]) ht1,
      ih _ (pre ++ [layer h st b]) (t + 1) (by rw [List.length_append, List.length_singleton]; omega),
      pathStates, List.append_assoc, List.singleton_append, List.length_cons, Nat.add_assoc,
      Nat.add_comm 1]

theorem take_zip' {α β : Type} (l1 : List α) (l2 : List β) (n : Nat) :
    (l1.zip l2).take n = (l1.take n).zip (l2.take n) := List.take_zipWith

/-- `final_states` in closed form -/
theorem windowStates_eq (h : Hasher L D) (leaf : L) (bits : List Bool) (proof : List D) (num : Nat)
    (hn : 1 ≤ num) :
    windowStates h leaf bits proof num
      = (List.replicate num (h.hashLeaf leaf) ++ pathStates h (h.hashLeaf leaf) (bits.zip proof)).drop
          (bits.zip proof).length := by
  have inv := window_invariant h num hn (bits.zip proof) (h.hashLeaf leaf)
    (List.replicate num (h.hashLeaf leaf)) 0 (by rw [List.length_replicate, Nat.zero_add])
  rw [Nat.zero_add] at inv
  exact inv

theorem windowStates_length (h : Hasher L D) (leaf : L) (bits : List Bool) (proof : List D) (num : Nat)
    (hn : 1 ≤ num) : (windowStates h leaf bits proof num).length = num := by
  rw [windowStates_eq h leaf bits proof num hn, List.length_drop, List.length_append,
    List.length_replicate, pathStates_length, Nat.add_sub_cancel]

/-- **Entry `j` of `final_states`**: with `n = min(bits, siblings)` layers hashed, entry `j` of the
window holds the state after `k = n + j + 1 − num` layers (provided that many layers exist;
`k = 0` is the leaf hash the window is initialised with). -/
theorem windowStates_get (h : Hasher L D) (leaf : L) (bits : List Bool) (proof : List D)
    (num j k : Nat) (hj : j < num) (hk : k + num = (bits.zip proof).length + j + 1) :
    (windowStates h leaf bits proof num)[j]? =
      some (circuitPathState h leaf (bits.take k) (proof.take k)) := by
  rw [windowStates_eq h leaf bits proof num (by omega), List.getElem?_drop, circuitPathState,
    ← take_zip']
  generalize bits.zip proof = l at hk ⊢
  rcases Nat.lt_or_ge (l.length + j) num with hlt | hge
  · obtain rfl : k = 0 := by omega
    rw [List.getElem?_append_left (by rwa [List.length_replicate]), List.getElem?_replicate,
      if_pos hlt]
    rfl
  · obtain ⟨m, hm⟩ := Nat.exists_eq_add_of_le hge
    obtain rfl : k = m + 1 := by omega
    rw [List.getElem?_append_right (by rwa [List.length_replicate]), List.length_replicate, hm,
      Nat.add_sub_cancel_left, pathStates_get h _ _ _ (by omega)]
    rfl

/-- **The conditional Merkle gadget ⇔ native verification of the selected prefix.** The circuit is
built for paths of up to `proof.length` siblings and `bits` are the canonical low bits of the leaf
index; `nIndex` (the degree index) selects the window entry holding the state after `k` layers,
`k = proof.length + nIndex + 1 − num`. With the condition on, the gadget's assertion holds iff
native `verify_merkle_proof_to_cap` accepts the first `k` siblings against the cap entry
`capIndex = index / 2^k`. -/
theorem condMerkle_iff_native [DecidableEq D] (h : Hasher L D) (leaf : L) (index : Nat)
    (cap : List D) (proof : List D) (num nIndex k : Nat) (hj : nIndex < num)
    (hk : k + num = proof.length + nIndex + 1) :
    condMerkleHolds h true leaf (lowBits proof.length index) num nIndex (index / 2 ^ k) cap proof = true ↔
      verifyToCap h leaf index cap (proof.take k) = .ok := by
  have hz : ((lowBits proof.length index).zip proof).length = proof.length := by
    simp [P2.Props.C06.lowBits_length]
  have hw := windowStates_get h leaf (lowBits proof.length index) proof num nIndex k hj (by rw [hz]; exact hk)
  have hkl : k ≤ proof.length := by omega
  have hnat := P2.Props.C06.merkle_circuit_iff_native h leaf index cap (proof.take k)
  rw [List.length_take, Nat.min_eq_left hkl] at hnat
  rw [← hnat]
  unfold condMerkleHolds circuitMerkleHolds
  rw [hw, lowBits_take _ _ _ hkl]
  cases hc : cap[index / 2 ^ k]? with
  | none => simp
  | some c => simp

/-- with the condition off (a skipped FRI step) the assertion only needs both indices in range -/
theorem condMerkle_off [DecidableEq D] (h : Hasher L D) (leaf : L) (bits : List Bool)
    (num nIndex capIndex : Nat) (cap : List D) (proof : List D)
    (h1 : capIndex < cap.length) (h2 : nIndex < num) :
    condMerkleHolds h false leaf bits num nIndex capIndex cap proof = true := by
  rw [condMerkleHolds, List.getElem?_eq_getElem h1,
    List.getElem?_eq_getElem (by rw [windowStates_length h leaf bits proof num (by omega)]; exact h2)]
  rfl

end Window

/-! ## (v) the skipped FRI steps are the ones the native schedule does not have -/

theorem lowBits_getElem? (n : Nat) : ∀ (x i : Nat), i < n → (lowBits n x)[i]? = some (x.testBit i) := by
  induction n with
  | zero => intro x i hi; omega
  | succ n ih =>
    intro x i hi
    cases i with
    | zero => rw [lowBits, List.getElem?_cons_zero, Nat.testBit_zero, Bool.beq_eq_decide_eq]
    | succ i =>
      rw [lowBits, List.getElem?_cons_succ, ih _ i (Nat.lt_of_succ_lt_succ hi), Nat.testBit_succ]

theorem lowBits_pred_two_pow (n d i : Nat) (h : i < n) :
    (lowBits n (2 ^ d - 1))[i]? = some (decide (i < d)) := by
  rw [lowBits_getElem? n _ i h, Nat.testBit_two_pow_sub_one]

/-- **`step_active`**: for a supported length, step `j` of the circuit's schedule is active iff the
trace is long enough to reach it: `finalBits + j·a < degree_bits` -/
theorem stepActive_eq (maxBits d finalBits a j : Nat) (hd : d ≤ maxBits)
    (hj : finalBits + j * a < maxBits) :
    (degreeSubOneBits maxBits d).map (fun v => stepActive v finalBits a j)
      = some (decide (finalBits + j * a < d)) := by
  have hlt : 2 ^ d - 1 < 2 ^ maxBits :=
    Nat.lt_of_lt_of_le (Nat.sub_one_lt (Nat.ne_of_gt (Nat.two_pow_pos d)))
      (Nat.pow_le_pow_right Nat.two_pos hd)
  rw [degreeSubOneBits, splitLe, if_pos hlt, Option.map_some, stepActive, List.getD_eq_getElem?_getD,
    lowBits_pred_two_pow maxBits d _ hj]
  rfl

/-- number of reductions of the native `ConstantArityBits(a, f)` schedule under the cap height the
variable-degree mode needs -/
def numSteps (a f d : Nat) : Nat := if d ≤ f + 1 then 0 else (d - f - 2) / a + 1

theorem lt_numSteps_iff (a f d j : Nat) (ha : 1 ≤ a) : j < numSteps a f d ↔ f + 1 + j * a < d := by
  unfold numSteps
  split
  · have : 0 ≤ j * a := Nat.zero_le _
    omega
  · rw [Nat.lt_succ_iff, Nat.le_div_iff_mul_le (by omega)]
    omega

theorem numSteps_of_le (a f d : Nat) (h : d ≤ f + 1) : numSteps a f d = 0 := if_pos h

theorem numSteps_add (a f d : Nat) (ha : 1 ≤ a) (hd : f + 2 ≤ d + a) :
    numSteps a f (d + a) = numSteps a f d + 1 := by
  rw [numSteps, if_neg (Nat.not_le.2 hd), numSteps, Nat.sub_sub, Nat.sub_sub]
  split
  · next h => rw [Nat.div_eq_of_lt (Nat.sub_lt_left_of_lt_add hd (by omega))]
  · next h => rw [Nat.sub_add_comm (Nat.lt_of_not_le h), Nat.add_div_right _ ha]

/-- **The native schedule.** With `cap_height = f + 2 + rate_bits − a` (the relation under which one
circuit can serve every shorter length, see `gen_var_config` in harness/src/c11.rs), `1 ≤ a ≤ f + 2`
and `rate_bits ≥ 1`, `ConstantArityBits(a, f)` reduces a trace of `2^d` rows exactly
`numSteps a f d` times — i.e. (by `lt_numSteps_iff` and `stepActive_eq` with `finalBits = f + 1`)
step `j` exists natively iff the circuit's `step_active` flag of step `j` is on. -/
theorem constantArityBits_var (a f rate cap : Nat) (ha : 1 ≤ a) (haf : a ≤ f + 2) (hr : 1 ≤ rate)
    (hcap : cap + a = f + 2 + rate) :
    ∀ fuel d, d ≤ fuel →
      Fri.constantArityBits a f rate cap fuel d = some (List.replicate (numSteps a f d) a) := by
  intro fuel
  induction fuel with
  | zero =>
    intro d hd
    rw [numSteps_of_le a f d (Nat.le_trans hd (Nat.zero_le _))]
    rfl
  | succ fuel ih =>
    intro d hd
    rw [Fri.constantArityBits]
    by_cases hstep : f + 2 ≤ d
    · obtain ⟨e, rfl⟩ : ∃ e, d = e + a :=
        ⟨d - a, (Nat.sub_add_cancel (Nat.le_trans haf hstep)).symm⟩
      rw [if_pos ⟨Nat.lt_of_succ_lt hstep, Or.inr (hcap ▸ Nat.add_le_add_right hstep rate)⟩,
        if_neg (Nat.not_lt.2 (Nat.le_add_left a e)), Nat.add_sub_cancel, ih e (by omega),
        numSteps_add a f e ha hstep]
      rfl
    · rw [if_neg (by omega), numSteps_of_le a f d (Nat.le_of_lt_succ (Nat.lt_of_not_le hstep))]
      rfl

end P2.Props.C11
