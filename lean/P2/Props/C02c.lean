/-
C02c: the glue between the vanishing-polynomial algebra (C02b, C01b, C07b, C08b) and the MODEL
function `Plonk.evalVanishingPoly` / `Plonk.identityHolds` / `Plonk.verify` itself.

 (a) `vanishingTerms`: the list of constraint terms `eval_vanishing_poly` α-combines, in the model's
     order; `evalVanishingPoly = alphas.map (reduceExt vanishingTerms ∘ ofBase)`; its length.
 (b) every constraint family is a sublist of it: `L_0(x)(Z_i(x) − 1)`, the partial-product checks,
     the lookup checks (when the circuit has lookups) and the gate constraints — none can be
     dropped without changing `vanishingTerms`.
 (c) `evaluateGateConstraints` at index `j` is the filtered sum over the gates, in fold order; with
     selector semantics (all filters but one are zero) it is the one selected gate's constraint.
 (d) acceptance exposes the quotient identity per challenge, free of `all`/`zipIdx`/`getD` plumbing.
 (e) the α-combination of the model is `PlonkAlg.reduceWithPowers` at `K = GL2`, the function the
     Schwartz–Zippel statements of C02b are about.
 (f) STARK model: `Stark.evalVanishingPoly` without lookups/CTLs is `alphas.map` of the Horner
     combination of the weighted constraint list; with lookups/CTLs the table constraints enter first.
-/
import P2.Lemmas.Vanishing
import P2.Props.C03
import P2.Props.C02b
import P2.Lemmas.StarkAlg
import P2.Lemmas.PoseidonEval
namespace P2.Props.C02c
open P2 P2.Plonk P2.Gates P2.Merkle P2.Lemmas.Vanishing
open P2.Fri (Verdict)

/-- `L_0(x)·(Z_i(x) − 1)` -/
def zTerm (c : CommonData) (x : GL2) (o : OpeningSet) (i : Nat) : GL2 :=
  evalL0 (2 ^ c.degreeBits) x * (o.plonkZs.getD i FOps.zero - FOps.one)

/-- numerators `w_j + β_i·k_j·x + γ_i` of the permutation argument for challenge `i` -/
def ppNums (c : CommonData) (x : GL2) (o : OpeningSet) (ch : Challenges) (i : Nat) : List GL2 :=
  (List.range c.config.numRoutedWires).map fun j =>
    o.wires.getD j FOps.zero + GL2.scalarMul (GL2.scalarMul x (c.kIs.getD j 0)) (ch.betas.getD i 0) +
      GL2.ofBase (ch.gammas.getD i 0)

/-- denominators `w_j + β_i·σ_j(x) + γ_i` -/
def ppDens (c : CommonData) (o : OpeningSet) (ch : Challenges) (i : Nat) : List GL2 :=
  (List.range c.config.numRoutedWires).map fun j =>
    o.wires.getD j FOps.zero + GL2.scalarMul (o.plonkSigmas.getD j FOps.zero) (ch.betas.getD i 0) +
      GL2.ofBase (ch.gammas.getD i 0)

/-- the partial-product openings of challenge `i` -/
def ppPartials (c : CommonData) (o : OpeningSet) (i : Nat) : List GL2 :=
  (o.partialProducts.drop (i * c.numPartialProducts)).take c.numPartialProducts

/-- the partial-product checks of challenge `i` -/
def ppTerms (c : CommonData) (x : GL2) (o : OpeningSet) (ch : Challenges) (i : Nat) : List GL2 :=
  checkPartialProducts (ppNums c x o ch i) (ppDens c o ch i) (ppPartials c o i)
    (o.plonkZs.getD i FOps.zero) (o.plonkZsNext.getD i FOps.zero) c.quotientDegreeFactor

/-- the lookup checks of challenge `i` (as called by `eval_vanishing_poly` when the circuit has
lookups) -/
def lookupTermsAt (c : CommonData) (o : OpeningSet) (ch : Challenges) (i : Nat) : List GL2 :=
  checkLookupConstraints c o.wires
    ((o.lookupZs.drop (c.numLookupPolys * i)).take c.numLookupPolys)
    ((o.lookupZsNext.drop (c.numLookupPolys * i)).take c.numLookupPolys)
    ((o.constants.drop c.numSelectors).take c.numLookupSelectors)
    ((ch.deltas.drop (NUM_COINS_LOOKUP * i)).take NUM_COINS_LOOKUP)

def lookupTerms (c : CommonData) (o : OpeningSet) (ch : Challenges) (i : Nat) : List GL2 :=
  if c.numLookupPolys ≠ 0 then lookupTermsAt c o ch i else []

/-- the `terms` list of `eval_vanishing_poly`: all `L_0(Z_i − 1)`, then all partial-product checks,
then all lookup checks, then the gate constraints -/
def vanishingTerms (c : CommonData) (x : GL2) (o : OpeningSet) (pih : Digest) (ch : Challenges) :
    List GL2 :=
  (List.range c.config.numChallenges).map (zTerm c x o) ++
  (List.range c.config.numChallenges).flatMap (ppTerms c x o ch) ++
  (List.range c.config.numChallenges).flatMap (lookupTerms c o ch) ++
  evaluateGateConstraints c o.constants o.wires pih

/-- **Structure of the vanishing combination**: one Horner combination of the SAME term list per
`α`. -/
theorem evalVanishingPoly_eq (c : CommonData) (x : GL2) (o : OpeningSet) (pih : Digest)
    (ch : Challenges) :
    evalVanishingPoly c x o pih ch =
      ch.alphas.map fun a => Fri.reduceExt (vanishingTerms c x o pih ch) (GL2.ofBase a) := by
  simp only [evalVanishingPoly, vanishingTerms, List.map_map, List.flatMap_map]
  rfl

theorem evalVanishingPoly_length (c : CommonData) (x : GL2) (o : OpeningSet) (pih : Digest)
    (ch : Challenges) : (evalVanishingPoly c x o pih ch).length = ch.alphas.length := by
  rw [evalVanishingPoly_eq, List.length_map]

theorem evalVanishingPoly_getElem? (c : CommonData) (x : GL2) (o : OpeningSet) (pih : Digest)
    (ch : Challenges) (i : Nat) :
    (evalVanishingPoly c x o pih ch)[i]? =
      ch.alphas[i]?.map fun a => Fri.reduceExt (vanishingTerms c x o pih ch) (GL2.ofBase a) := by
  rw [evalVanishingPoly_eq, List.getElem?_map]

theorem evaluateGateConstraints_length (c : CommonData) (constants wires : List GL2) (pih : Digest) :
    (evaluateGateConstraints c constants wires pih).length = c.numGateConstraints := by
  rw [evaluateGateConstraints_eq, Array.length_toList, (gateFold_spec _ _ _ _ _).1,
    Array.size_replicate]

/-- number of partial-product checks per challenge: `⌈num_routed_wires / quotient_degree_factor⌉` -/
def numPPChecks (c : CommonData) : Nat :=
  if c.quotientDegreeFactor = 0 then 0
  else (c.config.numRoutedWires + c.quotientDegreeFactor - 1) / c.quotientDegreeFactor

/-- number of lookup checks per challenge: `Z_RE`-initial/final and `SLDC`-initial (3), one per LUT
(`num_lookup_selectors − 4`), the `RE` recurrence (1), two per `SLDC` polynomial -/
def numLookupChecks (c : CommonData) : Nat :=
  if c.numLookupPolys ≠ 0 then 4 + (c.numLookupSelectors - 4) + 2 * (c.numLookupPolys - 1) else 0

theorem ppTerms_length (c : CommonData) (x : GL2) (o : OpeningSet) (ch : Challenges) (i : Nat) :
    (ppTerms c x o ch i).length = numPPChecks c := by
  rw [ppTerms, numPPChecks, checkPartialProducts_length, ppNums, List.length_map, List.length_range]

theorem lookupTerms_length (c : CommonData) (o : OpeningSet) (ch : Challenges) (i : Nat)
    (hi : i < c.config.numChallenges) (hl : o.lookupZs.length = c.numAllLookupPolys) :
    (lookupTerms c o ch i).length = numLookupChecks c := by
  unfold lookupTerms numLookupChecks
  by_cases h0 : c.numLookupPolys = 0
  · simp [h0]
  · simp only [ne_eq, h0, not_false_eq_true, if_true, lookupTermsAt, checkLookupConstraints_length,
      List.length_take, List.length_drop, hl, CommonData.numAllLookupPolys]
    have : c.numLookupPolys * (i + 1) ≤ c.config.numChallenges * c.numLookupPolys := by
      rw [Nat.mul_comm]; exact Nat.mul_le_mul_right _ hi
    rw [Nat.mul_succ, Nat.add_comm] at this
    rw [Nat.min_eq_left (Nat.le_sub_of_add_le this)]

/-- **Length of the term list** under the one shape fact it depends on (the lookup openings have
the validated length): `num_challenges·(1 + #pp-checks + #lookup-checks) + num_gate_constraints`. -/
theorem vanishingTerms_length (c : CommonData) (x : GL2) (o : OpeningSet) (pih : Digest)
    (ch : Challenges) (hl : o.lookupZs.length = c.numAllLookupPolys) :
    (vanishingTerms c x o pih ch).length =
      c.config.numChallenges + c.config.numChallenges * numPPChecks c +
        c.config.numChallenges * numLookupChecks c + c.numGateConstraints := by
  unfold vanishingTerms
  simp only [List.length_append, List.length_map, List.length_range, evaluateGateConstraints_length]
  rw [length_flatMap_const _ _ (numPPChecks c) (fun i _ => ppTerms_length c x o ch i),
    length_flatMap_const _ _ (numLookupChecks c)
      (fun i hi => lookupTerms_length c o ch i (List.mem_range.1 hi) hl),
    List.length_range]

/-- … in plonky2's own parameters: `num_partial_products = ⌈routed/qdf⌉ − 1` (as
`CircuitBuilder::build` sets it) gives `num_partial_products + 1` checks per challenge. -/
theorem vanishingTerms_length_plonky2 (c : CommonData) (x : GL2) (o : OpeningSet) (pih : Digest)
    (ch : Challenges) (hl : o.lookupZs.length = c.numAllLookupPolys)
    (hq : 0 < c.quotientDegreeFactor)
    (hpp : c.numPartialProducts + 1 =
      (c.config.numRoutedWires + c.quotientDegreeFactor - 1) / c.quotientDegreeFactor) :
    (vanishingTerms c x o pih ch).length =
      c.config.numChallenges * (1 + (c.numPartialProducts + 1) + numLookupChecks c) +
        c.numGateConstraints := by
  rw [vanishingTerms_length c x o pih ch hl]
  have : numPPChecks c = c.numPartialProducts + 1 := by
    unfold numPPChecks
    have : c.quotientDegreeFactor ≠ 0 := Nat.ne_of_gt hq
    simp only [this, if_false, hpp]
  rw [this]
  simp only [Nat.mul_add, Nat.mul_one]

/-- the terms are exactly the members of the four families -/
theorem mem_vanishingTerms_iff (c : CommonData) (x : GL2) (o : OpeningSet) (pih : Digest)
    (ch : Challenges) (t : GL2) :
    t ∈ vanishingTerms c x o pih ch ↔
      (∃ i, i < c.config.numChallenges ∧ t = zTerm c x o i) ∨
      (∃ i, i < c.config.numChallenges ∧ t ∈ ppTerms c x o ch i) ∨
      (c.numLookupPolys ≠ 0 ∧ ∃ i, i < c.config.numChallenges ∧ t ∈ lookupTermsAt c o ch i) ∨
      t ∈ evaluateGateConstraints c o.constants o.wires pih := by
  simp only [vanishingTerms, lookupTerms, List.mem_append, List.mem_flatMap, List.mem_map,
    List.mem_range, List.mem_ite_nil_right, or_assoc, eq_comm (a := t)]
  exact or_congr Iff.rfl (or_congr Iff.rfl (or_congr
    ⟨fun ⟨i, hi, hlk, ht⟩ => ⟨hlk, i, hi, ht⟩, fun ⟨hlk, i, hi, ht⟩ => ⟨i, hi, hlk, ht⟩⟩ Iff.rfl))

/-- `L_0(x)·(Z_i(x) − 1)` is the `i`-th term, for every challenge index -/
theorem zTerm_getElem? (c : CommonData) (x : GL2) (o : OpeningSet) (pih : Digest) (ch : Challenges)
    (i : Nat) (hi : i < c.config.numChallenges) :
    (vanishingTerms c x o pih ch)[i]? =
      some (evalL0 (2 ^ c.degreeBits) x * (o.plonkZs.getD i FOps.zero - FOps.one)) := by
  unfold vanishingTerms
  rw [List.append_assoc, List.append_assoc,
    List.getElem?_append_left (by rw [List.length_map, List.length_range]; exact hi),
    List.getElem?_map, List.getElem?_range hi]
  rfl

theorem zTerm_mem (c : CommonData) (x : GL2) (o : OpeningSet) (pih : Digest) (ch : Challenges)
    (i : Nat) (hi : i < c.config.numChallenges) :
    evalL0 (2 ^ c.degreeBits) x * (o.plonkZs.getD i FOps.zero - FOps.one) ∈
      vanishingTerms c x o pih ch :=
  List.mem_of_getElem? (zTerm_getElem? c x o pih ch i hi)

/-- every partial-product check of every challenge index is a term -/
theorem ppTerm_mem (c : CommonData) (x : GL2) (o : OpeningSet) (pih : Digest) (ch : Challenges)
    (i : Nat) (hi : i < c.config.numChallenges) (t : GL2)
    (ht : t ∈ checkPartialProducts (ppNums c x o ch i) (ppDens c o ch i) (ppPartials c o i)
      (o.plonkZs.getD i FOps.zero) (o.plonkZsNext.getD i FOps.zero) c.quotientDegreeFactor) :
    t ∈ vanishingTerms c x o pih ch :=
  (mem_vanishingTerms_iff c x o pih ch t).2 (Or.inr (Or.inl ⟨i, hi, ht⟩))

/-- when the circuit has lookups, every lookup check of every challenge index is a term -/
theorem lookupTerm_mem (c : CommonData) (x : GL2) (o : OpeningSet) (pih : Digest) (ch : Challenges)
    (hlk : c.numLookupPolys ≠ 0) (i : Nat) (hi : i < c.config.numChallenges) (t : GL2)
    (ht : t ∈ checkLookupConstraints c o.wires
      ((o.lookupZs.drop (c.numLookupPolys * i)).take c.numLookupPolys)
      ((o.lookupZsNext.drop (c.numLookupPolys * i)).take c.numLookupPolys)
      ((o.constants.drop c.numSelectors).take c.numLookupSelectors)
      ((ch.deltas.drop (NUM_COINS_LOOKUP * i)).take NUM_COINS_LOOKUP)) :
    t ∈ vanishingTerms c x o pih ch :=
  (mem_vanishingTerms_iff c x o pih ch t).2 (Or.inr (Or.inr (Or.inl ⟨hlk, i, hi, ht⟩)))

/-- every gate constraint is a term; they are the LAST `num_gate_constraints` terms -/
theorem gateTerm_mem (c : CommonData) (x : GL2) (o : OpeningSet) (pih : Digest) (ch : Challenges)
    (t : GL2) (ht : t ∈ evaluateGateConstraints c o.constants o.wires pih) :
    t ∈ vanishingTerms c x o pih ch :=
  (mem_vanishingTerms_iff c x o pih ch t).2 (Or.inr (Or.inr (Or.inr ht)))

theorem gateTerms_suffix (c : CommonData) (x : GL2) (o : OpeningSet) (pih : Digest) (ch : Challenges) :
    (vanishingTerms c x o pih ch).drop
        ((vanishingTerms c x o pih ch).length - c.numGateConstraints) =
      evaluateGateConstraints c o.constants o.wires pih := by
  unfold vanishingTerms
  rw [List.length_append, evaluateGateConstraints_length, Nat.add_sub_cancel,
    List.drop_left]

/-- the evaluation variables every gate sees: the constants after the selector and lookup-selector
columns, all wires, the public-inputs hash embedded in `GL2` -/
def gateVars (c : CommonData) (constants wires : List GL2) (pih : Digest) : EvalVars GL2 :=
  Lemmas.Vanishing.gateVars c constants wires pih

/-- the filter of the gate at index `i`: `compute_filter(i, group of its selector, selector value,
num_selectors > 1)` -/
def gateFilter (c : CommonData) (constants : List GL2) (i : Nat) : GL2 :=
  computeFilter i (c.groups.getD (c.selectorIndices.getD i 0) (0, 0))
    (constants.getD (c.selectorIndices.getD i 0) FOps.zero) (c.numSelectors > 1)

/-- gate `g` with filter `filter` contributes `filter·(g's j-th constraint)` to the running sum `s`
if it has a `j`-th constraint, nothing otherwise -/
def addFiltered (filter : GL2) (cs : List GL2) (j : Nat) (s : GL2) : GL2 :=
  match cs[j]? with
  | some cv => s + filter * cv
  | none => s

/-- **Gate constraint accumulation**: for `j < num_gate_constraints`, the `j`-th gate term is
`Σ_i filter_i · (gate_i.eval_unfiltered vars)[j]` over the gates having a `j`-th constraint, summed
from `0` in gate order (no field law is used: this is the model's own association order). -/
theorem evaluateGateConstraints_getElem? (c : CommonData) (constants wires : List GL2) (pih : Digest)
    (j : Nat) (hj : j < c.numGateConstraints) :
    (evaluateGateConstraints c constants wires pih)[j]? =
      some ((c.gates.zipIdx).foldl (fun s (gi : GateKind × Nat) =>
        addFiltered (gateFilter c constants gi.2)
          (gi.1.evalUnfiltered (gateVars c constants wires pih)) j s) FOps.zero) := by
  obtain ⟨hs, hv⟩ := gateFold_spec c constants (Lemmas.Vanishing.gateVars c constants wires pih)
    c.gates.zipIdx (Array.replicate c.numGateConstraints FOps.zero)
  have hj' : j < (Array.replicate c.numGateConstraints (FOps.zero : GL2)).size := by
    rwa [Array.size_replicate]
  have e := hv j hj'
  rw [getElem!_pos _ j (hs ▸ hj'), getElem!_pos _ j hj', Array.getElem_replicate] at e
  rw [evaluateGateConstraints_eq, Array.getElem?_toList, Array.getElem?_eq_getElem (hs ▸ hj'), e]
  rfl

/-- constraints of a gate beyond `num_gate_constraints` are DROPPED by `evaluate_gate_constraints`
(the Rust code asserts `num_gate_constraints ≥ gate.num_constraints()` when building the circuit;
the verifier itself does not): no term exists at such an index -/
theorem evaluateGateConstraints_getElem?_none (c : CommonData) (constants wires : List GL2)
    (pih : Digest) (j : Nat) (hj : c.numGateConstraints ≤ j) :
    (evaluateGateConstraints c constants wires pih)[j]? = none := by
  rw [List.getElem?_eq_none_iff, evaluateGateConstraints_length]
  exact hj

/-- **Selector semantics.** If the filter of every gate other than the one at index `i0` is zero
(what `C02.filters_disjoint`/`filter_unused_eq_zero` give on a row selected for `i0`), the `j`-th
gate term is `filter_{i0} · (gate_{i0}'s j-th constraint)` — zero if it has none. (Uses only
`s + 0·x = s` and `0 + x = x` in `GL2`.) -/
theorem evaluateGateConstraints_single (c : CommonData) (constants wires : List GL2) (pih : Digest)
    (j : Nat) (hj : j < c.numGateConstraints) (i0 : Nat) (g : GateKind)
    (hg : c.gates[i0]? = some g)
    (h0 : ∀ i, i < c.gates.length → i ≠ i0 → gateFilter c constants i = FOps.zero) :
    (evaluateGateConstraints c constants wires pih)[j]? =
      some (match (g.evalUnfiltered (gateVars c constants wires pih))[j]? with
        | some cv => gateFilter c constants i0 * cv
        | none => FOps.zero) := by
  rw [evaluateGateConstraints_getElem? c constants wires pih j hj]
  refine congrArg some ((foldl_single _ _ c.gates.zipIdx i0 (g, i0)
    (by rw [List.getElem?_zipIdx, hg, Nat.zero_add]; rfl) fun i hi hne s => ?_).trans ?_)
  · rw [List.length_zipIdx] at hi
    rw [List.getElem_zipIdx, Nat.zero_add]
    exact (congrArg (addAt · _ j s) (h0 i hi hne)).trans (addAt_zero _ j s)
  · dsimp only
    rw [addFiltered]
    cases (g.evalUnfiltered (gateVars c constants wires pih))[j]? with
    | none => rfl
    | some cv => exact gl2_zero_add _

/-- the openings of the `i`-th challenge's quotient chunks `t_{i,0}, …, t_{i,qdf−1}` at `ζ` -/
def quotientChunk (c : CommonData) (o : OpeningSet) (i : Nat) : List GL2 :=
  (o.quotientPolys.drop (i * c.quotientDegreeFactor)).take c.quotientDegreeFactor

theorem getChallenges_alphas_length (c : CommonData) (pih circuitDigest : Digest) (p : Proof) :
    (getChallenges c pih circuitDigest p).alphas.length = c.config.numChallenges := by
  unfold getChallenges
  dsimp only
  have e : ∀ (h : Prop) [Decidable h] (x : Nat),
      ((if h then [Challenger.Op.get x] else []).map opCount).sum = (if h then [x] else []).sum :=
    fun h _ x => by split <;> rfl
  rw [splitBy_getD_length]
  · split <;> rfl
  -- the counts are what the `get`s of the schedule squeeze, in order
  · rw [run_length]
    simp only [plonkSchedule, friSchedule, List.map_append, List.map_cons, List.sum_append,
      List.sum_cons, List.map_nil, List.sum_nil, caps_count, opCount, e, List.sum_replicate_nat]
    omega

/-- **The verifier's algebraic check, without list plumbing.** With the validated number of
quotient openings and one `α` per challenge, `identityHolds` is exactly: for every challenge index
`i`, `Σ_k terms[k]·α_i^k = Z_H(ζ) · Σ_k t_{i,k}(ζ)·(ζ^n)^k` with `n = 2^degree_bits`,
`Z_H(ζ) = ζ^n − 1`, `terms = vanishingTerms`. -/
theorem identityHolds_iff_forall (c : CommonData) (p : Proof) (pih : Digest) (ch : Challenges)
    (hq : 0 < c.quotientDegreeFactor)
    (hlen : p.openings.quotientPolys.length = c.numQuotientPolys)
    (ha : ch.alphas.length = c.config.numChallenges) :
    identityHolds c p pih ch = true ↔
      ∀ i, i < c.config.numChallenges →
        Fri.reduceExt (vanishingTerms c ch.zeta p.openings pih ch) (GL2.ofBase (ch.alphas.getD i 0)) =
          (FOps.pow ch.zeta (2 ^ c.degreeBits) - FOps.one) *
            Fri.reduceExt (quotientChunk c p.openings i) (FOps.pow ch.zeta (2 ^ c.degreeBits)) := by
  rw [identityHolds_iff, chunksOf_length_exact _ _ _ hq hlen]
  refine forall₂_congr fun i hi => ?_
  rw [evalVanishingPoly_getElem?, List.getElem?_eq_getElem (ha ▸ hi), Option.map_some,
    Option.some_inj, List.getD_eq_getElem _ _ (ha ▸ hi)]
  rfl

/-- an accepted identity check needs one `α` per challenge: too few `α`s make it fail -/
theorem identityHolds_alphas_length_ge (c : CommonData) (p : Proof) (pih : Digest) (ch : Challenges)
    (hq : 0 < c.quotientDegreeFactor)
    (hlen : p.openings.quotientPolys.length = c.numQuotientPolys)
    (h : identityHolds c p pih ch = true) : c.config.numChallenges ≤ ch.alphas.length := by
  rw [identityHolds_iff, chunksOf_length_exact _ _ _ hq hlen] at h
  -- otherwise there is no entry at index `alphas.length`
  refine Nat.le_of_not_lt fun hlt => ?_
  have := h _ hlt
  rw [evalVanishingPoly_getElem?, List.getElem?_eq_none (Nat.le_refl _)] at this
  nomatch this

/-- Why `0 < quotient_degree_factor` is a hypothesis: with `quotient_degree_factor = 0` the model
has no quotient chunk to compare with and the identity check is vacuous. (The Rust code calls
`chunks(0)`, which panics; plonky2 builds circuits with `quotient_degree_factor ≥ 1` only —
an admissibility condition on the common data, not on the proof.) -/
theorem identityHolds_of_qdf_zero (c : CommonData) (p : Proof) (pih : Digest) (ch : Challenges)
    (hq : c.quotientDegreeFactor = 0) : identityHolds c p pih ch = true := by
  rw [identityHolds_iff]
  intro i hi
  simp [Plonk.chunksOf, PlonkAlg.chunksOf, hq] at hi

/-- **Acceptance exposes the identity per challenge** (`verify_with_challenges`, any challenges). -/
theorem verifyWithChallenges_accept_identity (c : CommonData) (vd : VerifierOnly) (p : Proof)
    (pih : Digest) (ch : Challenges) (hq : 0 < c.quotientDegreeFactor)
    (hlen : p.openings.quotientPolys.length = c.numQuotientPolys)
    (ha : ch.alphas.length = c.config.numChallenges)
    (hacc : verifyWithChallenges c vd p pih ch = .accept) :
    ∀ i, i < c.config.numChallenges →
      Fri.reduceExt (vanishingTerms c ch.zeta p.openings pih ch) (GL2.ofBase (ch.alphas.getD i 0)) =
        (FOps.pow ch.zeta (2 ^ c.degreeBits) - FOps.one) *
          Fri.reduceExt (quotientChunk c p.openings i) (FOps.pow ch.zeta (2 ^ c.degreeBits)) := by
  apply (identityHolds_iff_forall c p pih ch hq hlen ha).1
  unfold verifyWithChallenges at hacc
  by_cases hi : identityHolds c p pih ch = true
  · exact hi
  · simp [hi] at hacc

/-- **Acceptance exposes the identity per challenge** (`verify`): for the challenges `ζ`, `α_i`
recomputed from the statement and the proof, every accepted proof satisfies, for every challenge
index `i < num_challenges`,
`reduce(vanishingTerms(ζ), α_i) = (ζ^n − 1) · reduce(quotient chunk i, ζ^n)`. -/
theorem verify_accept_identity (c : CommonData) (vd : VerifierOnly) (pp : ProofWithPis)
    (hq : 0 < c.quotientDegreeFactor) (hacc : Plonk.verify c vd pp = .accept) :
    let pih := publicInputsHash pp.publicInputs
    let ch := getChallenges c pih vd.circuitDigest pp.proof
    ∀ i, i < c.config.numChallenges →
      Fri.reduceExt (vanishingTerms c ch.zeta pp.proof.openings pih ch)
          (GL2.ofBase (ch.alphas.getD i 0)) =
        (FOps.pow ch.zeta (2 ^ c.degreeBits) - FOps.one) *
          Fri.reduceExt (quotientChunk c pp.proof.openings i) (FOps.pow ch.zeta (2 ^ c.degreeBits)) := by
  intro pih ch
  obtain ⟨hs, hid, _⟩ := (C03.verify_accept_iff c vd pp).1 hacc
  have hl : pp.proof.openings.quotientPolys.length = c.numQuotientPolys :=
    (C03.shape_accept_lengths c pp hs).2.2.2.2.2.2.2.2.2.1
  exact (identityHolds_iff_forall c pp.proof pih ch hq hl
    (getChallenges_alphas_length c pih vd.circuitDigest pp.proof)).1 hid

/-- the circuit of the concrete instances below (one challenge): one routed wire, one
`ConstantGate(1)` in a single selector group, `quotient_degree_factor = 1`,
`num_partial_products = ⌈1/1⌉ − 1 = 0`, no lookups, FRI without query rounds -/
def tinyC : CommonData :=
  { config := ⟨1, 1, 1, 0, 1, false, 1⟩
    friParams := ⟨⟨0, 0, 0, .fixed [], 0⟩, false, 0, []⟩
    gates := [.constant 1]
    selectorIndices := [0]
    groups := [(0, 1)]
    quotientDegreeFactor := 1
    numGateConstraints := 1
    numConstants := 2
    numPublicInputs := 0
    kIs := [1]
    numPartialProducts := 0
    numLookupPolys := 0
    numLookupSelectors := 0
    luts := [] }
/-- openings at `ζ = 2`: selector `0`, constant `5`, wire `7` (so the gate constraint is `5 − 7`),
`σ(ζ) = k·ζ = 2`, `Z(ζ) = Z(gζ) = 1`, quotient opening `−8` -/
def tinyO : OpeningSet :=
  { constants := [⟨0, 0⟩, ⟨5, 0⟩], plonkSigmas := [⟨2, 0⟩], wires := [⟨7, 0⟩], plonkZs := [⟨1, 0⟩],
    plonkZsNext := [⟨1, 0⟩], partialProducts := [], quotientPolys := [⟨18446744069414584313, 0⟩],
    lookupZs := [], lookupZsNext := [] }
def tinyCh : Challenges := ⟨[3], [4], [2], [], ⟨2, 0⟩, ⟨⟨1, 0⟩, [], 0, []⟩⟩
def tinyP : Proof := ⟨[[0,0,0,0]], [[0,0,0,0]], [[0,0,0,0]], tinyO, ⟨[], [], [⟨0, 0⟩], 0⟩⟩
def tinyVd : VerifierOnly := ⟨[[0,0,0,0]], [0,0,0,0]⟩

/-- the three terms: `L_0(2)·(1 − 1) = 0`, the partial-product check `1·(7+3·2+4) − 1·(7+3·2+4) = 0`,
the filtered gate constraint `1·(5 − 7) = −2` -/
example : vanishingTerms tinyC tinyCh.zeta tinyO [0,0,0,0] tinyCh =
    [⟨0, 0⟩, ⟨0, 0⟩, ⟨18446744069414584319, 0⟩] := by decide +kernel
/-- `0 + 0·2 + (−2)·2² = −8 = (2 − 1)·(−8)`: the identity holds with non-zero sides -/
example : identityHolds tinyC tinyP [0,0,0,0] tinyCh = true := by decide +kernel
example : verifyWithChallenges tinyC tinyVd tinyP [0,0,0,0] tinyCh = .accept := by decide +kernel
example : validateShape tinyC ⟨tinyP, []⟩ = .accept := by decide +kernel
/-- … and a wrong quotient opening is rejected -/
example : verifyWithChallenges tinyC tinyVd
    { tinyP with openings := { tinyO with quotientPolys := [⟨1, 0⟩] } } [0,0,0,0] tinyCh
    = .reject "identity" := by decide +kernel
-- hypotheses of `vanishingTerms_length(_plonky2)`, `identityHolds_iff_forall`,
-- `verifyWithChallenges_accept_identity`:
example : tinyO.lookupZs.length = tinyC.numAllLookupPolys := by decide
example : 0 < tinyC.quotientDegreeFactor ∧ tinyC.numPartialProducts + 1 =
    (tinyC.config.numRoutedWires + tinyC.quotientDegreeFactor - 1) / tinyC.quotientDegreeFactor := by decide
example : tinyO.quotientPolys.length = tinyC.numQuotientPolys ∧
    tinyCh.alphas.length = tinyC.config.numChallenges := by decide
example : (vanishingTerms tinyC tinyCh.zeta tinyO [0,0,0,0] tinyCh).length = 3 := by
  rw [vanishingTerms_length_plonky2 _ _ _ _ _ (by decide) (by decide) (by decide)]; decide
-- hypotheses of the membership lemmas (b) and of (c):
example : (0 : Nat) < tinyC.config.numChallenges ∧ (0 : Nat) < tinyC.numGateConstraints := by decide
/-- hypotheses of `evaluateGateConstraints_single` (a circuit with one gate: no other filter) -/
example : tinyC.gates[0]? = some (.constant 1) ∧
    ∀ i, i < tinyC.gates.length → i ≠ 0 → gateFilter tinyC tinyO.constants i = FOps.zero :=
  ⟨rfl, fun _ hi hne => absurd (Nat.lt_one_iff.1 hi) hne⟩
/-- … with a second gate whose filter vanishes on the row: two `ConstantGate`s in one group,
selector value `0` selects gate `0`; the filter of gate `1` is `0 − 0 = 0` -/
def tinyC2 : CommonData :=
  { tinyC with
    gates := [.constant 1, .constant 1]
    selectorIndices := [0, 0]
    groups := [(0, 2)] }
example : ∀ i, i < tinyC2.gates.length → i ≠ 0 → gateFilter tinyC2 tinyO.constants i = FOps.zero := by
  intro i hi hne
  have : i = 1 := by simp [tinyC2] at hi; omega
  subst this
  decide +kernel
/-- a lookup circuit shape for `lookupTerm_mem` (`num_lookup_polys ≠ 0`) -/
example : ({ tinyC with numLookupPolys := 2, numLookupSelectors := 5 } : CommonData).numLookupPolys ≠ 0 := by
  decide

/-- one `ConstantGate(1)`, no routed wire: every term is zero whatever the challenges are, so the
proof below is accepted by `verify` with its Fiat–Shamir challenges (evaluated in the kernel) — the hypothesis of `verify_accept_identity` is satisfiable with `num_challenges = 1` -/
def tinyC0 : CommonData := { tinyC with config := ⟨1, 0, 1, 0, 1, false, 1⟩, kIs := [] }
def tinyP0 : Proof := ⟨[[0,0,0,0]], [[0,0,0,0]], [[0,0,0,0]],
  { tinyO with plonkSigmas := [], wires := [⟨5, 0⟩], quotientPolys := [⟨0, 0⟩] }, ⟨[], [], [⟨0, 0⟩], 0⟩⟩
set_option maxRecDepth 100000 in
example : Plonk.verify tinyC0 tinyVd ⟨tinyP0, []⟩ = .accept := by
  have hs : validateShape tinyC0 ⟨tinyP0, []⟩ = .accept := by decide +kernel
  have hp : publicInputsHash [] = [0,0,0,0] := by decide +kernel
  -- everything the challenger squeezes for this proof, in order: β, γ, α, ζ, the FRI α, the PoW response.
  -- The kernel is slow on Poseidon over `Fin` and slower still when the challenges reach the identity
  -- check unevaluated, so they are computed once, on the `Nat` rendering, and handed on as literals.
  have ho : Challenger.run Lemmas.PoseidonEval.evalPerm
      (plonkSchedule tinyC0 [0,0,0,0] tinyVd.circuitDigest tinyP0 ++
        friSchedule tinyP0.openingProof tinyC0.friParams.config.numQueryRounds) =
      [6647497224958806908, 6503804297443198824, 16173705425675381136, 16703577511235858903,
        16917221621400947129, 8895243621696018761, 2637710592740003687, 2109495782570773102] := by
    decide +kernel
  rw [Plonk.verify, hs]
  dsimp only
  rw [hp]
  delta getChallenges
  dsimp only
  rw [Lemmas.PoseidonEval.poseidonPerm_eq, ho]
  decide +kernel
example : 0 < tinyC0.quotientDegreeFactor ∧ 0 < tinyC0.config.numChallenges := by decide

/-- the model's `reduceExt` is the field-generic `PlonkAlg.reduceWithPowers` at `K = GL2` — the
function `C02.reduceWithPowers_eq_sum`, `C02.reduceWithPowers_zero_set` and
`C02.terms_zero_of_many_zeros` are about (there over a Mathlib field through `FOps.ofField`). -/
theorem reduceExt_eq_reduceWithPowers (xs : List GL2) (α : GL2) :
    Fri.reduceExt xs α = PlonkAlg.reduceWithPowers xs α := rfl

/-- (a) with `reduceWithPowers`: entry `i` of `eval_vanishing_poly` is
`reduce_with_powers(vanishingTerms, α_i)`. -/
theorem evalVanishingPoly_eq_reduceWithPowers (c : CommonData) (x : GL2) (o : OpeningSet)
    (pih : Digest) (ch : Challenges) :
    evalVanishingPoly c x o pih ch =
      ch.alphas.map fun a =>
        PlonkAlg.reduceWithPowers (vanishingTerms c x o pih ch) (GL2.ofBase a) :=
  evalVanishingPoly_eq c x o pih ch

section field
variable {K : Type} [Field K] [DecidableEq K]
open P2.PlonkAlg

/-- `C02.terms_zero_of_many_zeros` for a term list of the shape (a) establishes: if the
α-combination of `zs ++ pps ++ lks ++ gts` (the four families of `vanishingTerms`) vanishes at
`length`-many distinct `α`, then EVERY term of EVERY family is zero; contrapositive with
`C02.reduceWithPowers_zero_set`: one non-zero constraint term is annihilated by at most
`length − 1` values of `α`. Over `K = GL2` as a field this is the statement about
`Fri.reduceExt (vanishingTerms …)` by `reduceExt_eq_reduceWithPowers`. -/
theorem families_zero_of_many_zeros (zs pps lks gts : List K) (S : Finset K)
    (hcard : (zs ++ pps ++ lks ++ gts).length ≤ S.card)
    (hS : ∀ α ∈ S, @reduceWithPowers K (FOps.ofField K) (zs ++ pps ++ lks ++ gts) α = 0) :
    (∀ t ∈ zs, t = 0) ∧ (∀ t ∈ pps, t = 0) ∧ (∀ t ∈ lks, t = 0) ∧ (∀ t ∈ gts, t = 0) := by
  have h := C02.terms_zero_of_many_zeros _ S hcard hS
  exact ⟨fun t ht => h t (List.mem_append_left _ (List.mem_append_left _ (List.mem_append_left _ ht))),
    fun t ht => h t (List.mem_append_left _ (List.mem_append_left _ (List.mem_append_right _ ht))),
    fun t ht => h t (List.mem_append_left _ (List.mem_append_right _ ht)),
    fun t ht => h t (List.mem_append_right _ ht)⟩

example : (([0] : List ℚ) ++ [0] ++ [] ++ [0]).length ≤ ({0, 1, 2} : Finset ℚ).card ∧
    ∀ α ∈ ({0, 1, 2} : Finset ℚ),
      @reduceWithPowers ℚ (FOps.ofField ℚ) ([0] ++ [0] ++ [] ++ [0]) α = 0 := by
  decide +kernel
end field

section stark
open P2.Air P2.Lemmas.StarkAlg

/-- the weighted table-constraint values the consumer receives, in emission order: constraint
value × (`lagrange_first` | `lagrange_last` | `z_last` | 1) according to its kind -/
def starkConstraintTerms (a : Air) (lv nv : List GL2) (pis : List P2.GL) (z l0 ll : GL2) : List GL2 :=
  a.constraints.map fun p =>
    weigh z l0 ll p.1 (p.2.eval lv.toArray nv.toArray (pis.map GL2.ofBase).toArray)

/-- **STARK `eval_vanishing_poly` without lookups/CTLs**: entry `i` is the Horner combination in
`α_i` of `starkConstraintTerms` — the FIRST constraint gets the highest power, i.e.
`reduce_with_powers` of the reversed list. Never a panic (`some`). -/
theorem stark_evalVanishingPoly_plain (a : Air) (lv nv : List GL2) (pis : List P2.GL)
    (alphas : List P2.GL) (z l0 ll : GL2) :
    Stark.evalVanishingPoly a lv nv pis none none (Consumer.new (alphas.map GL2.ofBase) z l0 ll) =
      some (alphas.map fun α =>
        Fri.reduceExt (starkConstraintTerms a lv nv pis z l0 ll).reverse (GL2.ofBase α)) := by
  show some (a.evalConstraints lv.toArray nv.toArray (pis.map GL2.ofBase).toArray _).accs = _
  rw [evalConstraints_eq]
  show some ((starkConstraintTerms a lv nv pis z l0 ll).foldl Consumer.constraint
    (Consumer.new (alphas.map GL2.ofBase) z l0 ll)).accs = _
  rw [consumer_foldl_accs, List.map_map]
  congr 1
  apply List.map_congr_left
  intro α _
  exact horner_eq_reduce_generic _ _

/-- **With lookups and/or CTLs the table constraints still enter first**: `eval_vanishing_poly` is
the lookup and CTL stages run from the consumer that has absorbed `starkConstraintTerms`.
(`_partial`: the lookup/CTL stages are not unrolled into a term list here; their per-term algebra is
C10b, their panic conditions C18b/`StarkNoPanic`.) -/
theorem stark_evalVanishingPoly_constraints_first_partial (a : Air) (lv nv : List GL2)
    (pis : List P2.GL) (lk : Option (List GL2 × List GL2 × List P2.GL))
    (ctl : Option (List Stark.CtlVars)) (s : Consumer GL2) :
    Stark.evalVanishingPoly a lv nv pis lk ctl s =
      Stark.evalVanishingPoly { a with constraints := [] } lv nv pis lk ctl
        ((starkConstraintTerms a lv nv pis s.zLast s.lagrangeFirst s.lagrangeLast).foldl
          Consumer.constraint s) := by
  have h := evalConstraints_eq a lv.toArray nv.toArray (pis.map GL2.ofBase).toArray s
  unfold Stark.evalVanishingPoly
  simp only []
  rw [h]
  rfl

/-- a one-constraint AIR at a point: `local[0] − public[0] = 5 − 3`, weight 1 (kind `all`) -/
example : starkConstraintTerms
    { cols := 1, pis := 1, degree := 1, requiresCtls := false, lookups := [],
      constraints := [(Kind.all, Expr.sub (.loc 0) (.pub 0))] }
    [⟨5, 0⟩] [⟨5, 0⟩] [3] ⟨1, 0⟩ ⟨1, 0⟩ ⟨1, 0⟩ = [⟨2, 0⟩] := by decide +kernel
end stark

end P2.Props.C02c
