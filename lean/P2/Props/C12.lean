/-
C12: Merkle commitments open only to the committed leaf at the committed position.
Property theorems about `P2.Model.Merkle` for an arbitrary hasher (all heights, positions, caps).
-/
import P2.Lemmas.Merkle
namespace P2.Props.C12
open P2.Merkle

variable {L D : Type}

/-- an explicit collision of the compression function or of the leaf hash -/
def Collision (h : Hasher L D) : Prop :=
  (∃ a b a' b', (a, b) ≠ (a', b') ∧ h.two a b = h.two a' b') ∨
  (∃ l l', l ≠ l' ∧ h.hashLeaf l = h.hashLeaf l')

theorem step_inj (h : Hasher L D) (idx : Nat) (s s' cur cur' : D)
    (heq : (if idx % 2 = 1 then h.two s cur else h.two cur s) =
           (if idx % 2 = 1 then h.two s' cur' else h.two cur' s')) :
    (cur = cur' ∧ s = s') ∨ (∃ a b a' b', (a, b) ≠ (a', b') ∧ h.two a b = h.two a' b') := by
  by_cases hb : idx % 2 = 1
  · simp only [hb, if_true] at heq
    by_cases hp : (s, cur) = (s', cur')
    · left; have := Prod.mk.inj hp; exact ⟨this.2, this.1⟩
    · right; exact ⟨s, cur, s', cur', hp, heq⟩
  · simp only [hb, if_false] at heq
    by_cases hp : (cur, s) = (cur', s')
    · left; have := Prod.mk.inj hp; exact ⟨this.1, this.2⟩
    · right; exact ⟨cur, s, cur', s', hp, heq⟩

theorem foldPath_inj (h : Hasher L D) :
    ∀ (π π' : List D) (c c' : D) (i : Nat), π.length = π'.length →
      (foldPath h c i π).1 = (foldPath h c' i π').1 →
      (c = c' ∧ π = π') ∨ (∃ a b a' b', (a, b) ≠ (a', b') ∧ h.two a b = h.two a' b') := by
  intro π
  induction π with
  | nil =>
    intro π' c c' i hl heq
    cases π' with
    | nil => exact .inl ⟨heq, rfl⟩
    | cons _ _ => cases hl
  | cons s rest ih =>
    intro π' c c' i hl heq
    cases π' with
    | nil => cases hl
    | cons s' rest' =>
      rcases ih rest' _ _ _ (Nat.succ.inj hl) heq with ⟨h1, h2⟩ | hc
      · rcases step_inj h i s s' c c' h1 with ⟨a, b⟩ | hc
        · exact .inl ⟨a, by rw [b, h2]⟩
        · exact .inr hc
      · exact .inr hc

theorem foldPath_index (h : Hasher L D) :
    ∀ (π : List D) (c : D) (i : Nat), (foldPath h c i π).2 = i / 2 ^ π.length :=
  P2.Lemmas.Merkle.foldPath_snd h

theorem verifyToCap_ok [DecidableEq D] (h : Hasher L D) (leaf : L) (i : Nat)
    (cap π : List D) (hok : verifyToCap h leaf i cap π = .ok) :
    cap[(foldPath h (h.hashLeaf leaf) i π).2]? = some (foldPath h (h.hashLeaf leaf) i π).1 := by
  unfold verifyToCap at hok
  generalize foldPath h (h.hashLeaf leaf) i π = r at hok ⊢
  obtain ⟨d, j⟩ := r
  simp only at hok ⊢
  cases hc : cap[j]? with
  | none => simp [hc] at hok
  | some c =>
    simp only [hc] at hok
    by_cases e : d = c
    · rw [e]
    · simp [e] at hok

/-- **Binding.** Two openings accepted at the same position against the same cap, with proofs of
the same length, open the same leaf with the same siblings — or the run exhibits an explicit
collision of the compression function or of the leaf hash. Holds for every hasher, every cap
(any length), every position and proof length. -/
theorem verify_binds [DecidableEq D] (h : Hasher L D) (cap : List D) (i : Nat)
    (l l' : L) (π π' : List D) (hlen : π.length = π'.length)
    (h1 : verifyToCap h l i cap π = .ok) (h2 : verifyToCap h l' i cap π' = .ok) :
    (l = l' ∧ π = π') ∨ Collision h := by
  have a1 := verifyToCap_ok h l i cap π h1
  have a2 := verifyToCap_ok h l' i cap π' h2
  rw [foldPath_index] at a1 a2
  rw [← hlen, a1] at a2
  have heq := Option.some.inj a2
  rcases foldPath_inj h π π' _ _ i hlen heq with ⟨hh, hp⟩ | hc2
  · by_cases hl : l = l'
    · left; exact ⟨hl, hp⟩
    · right; right; exact ⟨l, l', hl, hh⟩
  · right; left; exact hc2

/-- Corollary in the property's words: a different leaf at the same position, or altered siblings,
cannot also be accepted unless a collision is exhibited. -/
theorem other_opening_rejected [DecidableEq D] (h : Hasher L D) (cap : List D) (i : Nat)
    (l l' : L) (π π' : List D) (hlen : π.length = π'.length)
    (hne : l ≠ l' ∨ π ≠ π') (h1 : verifyToCap h l i cap π = .ok) :
    verifyToCap h l' i cap π' ≠ .ok ∨ Collision h := by
  by_cases h2 : verifyToCap h l' i cap π' = .ok
  · rcases verify_binds h cap i l l' π π' hlen h1 h2 with ⟨a, b⟩ | c
    · rcases hne with hne | hne
      · exact absurd a hne
      · exact absurd b hne
    · right; exact c
  · left; exact h2

/-- an altered cap entry is rejected (no hash assumption needed) -/
theorem altered_cap_rejected [DecidableEq D] (h : Hasher L D) (cap cap' : List D) (i : Nat)
    (l : L) (π : List D) (h1 : verifyToCap h l i cap π = .ok)
    (hne : cap'[i / 2 ^ π.length]? ≠ cap[i / 2 ^ π.length]?) :
    verifyToCap h l i cap' π ≠ .ok := by
  intro h2
  have a1 := verifyToCap_ok h l i cap π h1
  have a2 := verifyToCap_ok h l i cap' π h2
  rw [foldPath_index] at a1 a2
  exact hne (a2.trans a1.symm)

/-- a toy hasher on `Nat` for the concrete examples -/
def toy : Hasher Nat Nat := ⟨fun l => l + 1, fun a b => 2 * a + 3 * b + 7⟩
/-- non-vacuity: a two-leaf tree whose honest openings are accepted -/
example : verifyToCap toy 5 0 [2 * 6 + 3 * 10 + 7] [10] = .ok ∧
          verifyToCap toy 9 1 [2 * 6 + 3 * 10 + 7] [6] = .ok := by decide

end P2.Props.C12
