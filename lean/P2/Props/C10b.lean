/-
C10 (general theorems over an arbitrary field `K`): the logUp algebra behind
`eval_helper_columns` / `eval_packed_lookups_generic` (`starky/src/lookup.rs`).

 A. helper columns: the constraint emitted for a chunk of one or two columns holds iff the helper
    value is the sum of the `filter/(column + α)` fractions of the chunk (denominators non-zero);
 B. the running sum `Z`: the per-row constraint `(Z(next) − Z)·(t + α) − (Σ helpers·(t + α) − m) = 0`
    on a cyclic domain forces `Σ_rows (Σ helpers − m/(t + α)) = 0`; combined with A:
    `Σ_rows Σ_columns f/(x + α) = Σ_rows m/(t + α)`.
The classical logUp conclusion (equality of the two rational functions in `α` ⇒ multiset
relation) is not stated here.
-/
import Mathlib.Tactic.Ring
import Mathlib.Tactic.FieldSimp
import Mathlib.Tactic.LinearCombination
import Mathlib.Tactic.NormNum
import Mathlib.Algebra.BigOperators.Intervals
import Mathlib.Algebra.BigOperators.Fin
import Mathlib.Algebra.Group.Fin.Basic
import Mathlib.Tactic.IntervalCases
import P2.Model.Stark
import Mathlib.Algebra.Field.Rat
import Mathlib.Algebra.Order.Ring.Rat
namespace P2.Props.C10b
open P2

variable {K : Type} [Field K]

/-! ## A. helper columns -/

/-- the value `eval_helper_columns` hands to the consumer for a chunk of two columns
(`combin1 * combin0 * h - f0 * combin1 - f1 * combin0`) is zero iff … -/
theorem helper_pair_constraint_iff (c0 c1 h f0 f1 : K) :
    c1 * c0 * h - f0 * c1 - f1 * c0 = 0 ↔ h * (c0 * c1) = f0 * c1 + f1 * c0 := by
  rw [sub_sub, sub_eq_zero, mul_comm c1 c0, mul_comm (c0 * c1) h]

/-- … and for a chunk of one column (`combin * h - f0`) -/
theorem helper_single_constraint_iff (c h f : K) : c * h - f = 0 ↔ h * c = f := by
  rw [sub_eq_zero, mul_comm]

theorem helper_pair_iff (h f₁ f₂ x y α : K) (hx : x + α ≠ 0) (hy : y + α ≠ 0) :
    h * ((x + α) * (y + α)) = f₁ * (y + α) + f₂ * (x + α) ↔
      h = f₁ / (x + α) + f₂ / (y + α) := by
  rw [div_add_div _ _ hx hy, eq_div_iff (mul_ne_zero hx hy), mul_comm (x + α) f₂]

/-- soundness of a two-column helper: it is the sum of the two fractions -/
theorem helper_pair_sound (h f₁ f₂ x y α : K) :
    h * ((x + α) * (y + α)) = f₁ * (y + α) + f₂ * (x + α) → x + α ≠ 0 → y + α ≠ 0 →
    h = f₁ / (x + α) + f₂ / (y + α) :=
  fun e hx hy => (helper_pair_iff h f₁ f₂ x y α hx hy).1 e

/-- completeness of a two-column helper -/
theorem helper_pair_complete (h f₁ f₂ x y α : K) (hx : x + α ≠ 0) (hy : y + α ≠ 0) :
    h = f₁ / (x + α) + f₂ / (y + α) →
    h * ((x + α) * (y + α)) = f₁ * (y + α) + f₂ * (x + α) :=
  (helper_pair_iff h f₁ f₂ x y α hx hy).2

/-- soundness of a one-column helper -/
theorem helper_single_sound (h f x α : K) : h * (x + α) = f → x + α ≠ 0 → h = f / (x + α) :=
  fun e hx => (eq_div_iff hx).2 e

/-- completeness of a one-column helper -/
theorem helper_single_complete (h f x α : K) (hx : x + α ≠ 0) :
    h = f / (x + α) → h * (x + α) = f :=
  (eq_div_iff hx).1

/-- why the non-vanishing hypothesis is needed: at `x + α = 0` with `f = 0` the constraint holds
for EVERY helper value -/
theorem helper_single_degenerate (h x α : K) (hx : x + α = 0) : h * (x + α) = 0 := by
  rw [hx, mul_zero]

/-- in the model, the combination of a one-element tuple with `β = 1` (the lookup case) is
`column + challenge` -/
theorem combine_single (γ : P2.GL) (c : GL2) :
    Stark.combine 1 γ [c] = c + GL2.ofBase γ := by
  show (⟨_, _⟩ : GL2) = ⟨_, _⟩
  congr 1
  · show (0 * (1 : P2.GL) + GL2.W * (0 * 0)) + c.a + γ = c.a + γ
    simp only [Fin.zero_mul, Fin.mul_zero, Fin.add_zero, Fin.zero_add]
  · show (0 * (0 : P2.GL) + 0 * 1) + c.b + 0 = c.b + 0
    simp only [Fin.zero_mul, Fin.add_zero, Fin.zero_add]

example : (3 : ℚ) = 4 / (1 + 1) + 3 / (2 + 1) :=
  helper_pair_sound 3 4 3 1 2 1 (by norm_num) (by norm_num) (by norm_num)
example : (2 : ℚ) = 4 / (1 + 1) :=
  helper_single_sound 2 4 1 1 (by norm_num) (by norm_num)
example : (3 : ℚ) * ((1 + 1) * (2 + 1)) = 4 * (2 + 1) + 3 * (1 + 1) :=
  helper_pair_complete 3 4 3 1 2 1 (by norm_num) (by norm_num) (by norm_num)

/-! ## B. the running sum -/

/-- the value `eval_packed_lookups_generic` hands to the consumer for the running sum
(`(next_z - z) * twc - y` with `y = Σhelpers * twc - freq`) is zero iff … -/
theorem running_constraint_iff (nz z twc hs fr : K) :
    (nz - z) * twc - (hs * twc - fr) = 0 ↔ (nz - z) * twc = hs * twc - fr :=
  sub_eq_zero

/-- cyclic telescoping on rows `0 … n−1` with next row `(r + 1) % n` (the domain of the STARK is
a cyclic group: the "next" of the last row is the first) -/
theorem running_sum_telescopes (n : Nat) (Z d : Nat → K)
    (h : ∀ r, r < n → Z ((r + 1) % n) - Z r = d r) :
    ∑ r ∈ Finset.range n, d r = 0 := by
  have h1 : ∑ r ∈ Finset.range n, d r
      = ∑ r ∈ Finset.range n, ((fun i => Z (i % n)) (r + 1) - (fun i => Z (i % n)) r) := by
    apply Finset.sum_congr rfl
    intro r hr
    have hr' := Finset.mem_range.1 hr
    show d r = Z ((r + 1) % n) - Z (r % n)
    rw [Nat.mod_eq_of_lt hr', h r hr']
  rw [h1]
  exact (Finset.sum_range_sub (fun i => Z (i % n)) n).trans (by simp)

/-- the same on `Fin n`, `i + 1` being the cyclic successor -/
theorem running_sum_telescopes_fin (n : Nat) [NeZero n] (Z d : Fin n → K)
    (h : ∀ i, Z (i + 1) - Z i = d i) : ∑ i, d i = 0 := by
  have h1 : ∑ i, d i = ∑ i, Z (i + 1) - ∑ i, Z i := by
    rw [← Finset.sum_sub_distrib]
    exact Finset.sum_congr rfl fun i _ => (h i).symm
  rw [h1, sub_eq_zero]
  exact Equiv.sum_comp (Equiv.addRight (1 : Fin n)) Z

/-- completeness: if the increments sum to zero, their prefix sums (starting at `Z(first) = 0`,
which is the `constraint_first_row(z)` of the code) satisfy the cyclic recurrence -/
theorem running_sum_complete (n : Nat) (d : Nat → K) (hd : ∑ r ∈ Finset.range n, d r = 0)
    (r : Nat) (hr : r < n) :
    (∑ i ∈ Finset.range ((r + 1) % n), d i) - ∑ i ∈ Finset.range r, d i = d r := by
  by_cases hlast : r + 1 = n
  · rw [hlast, Nat.mod_self, Finset.sum_range_zero]
    rw [← hlast, Finset.sum_range_succ] at hd
    exact (zero_sub _).trans (neg_eq_of_add_eq_zero_right hd)
  · rw [Nat.mod_eq_of_lt (by omega), Finset.sum_range_succ, add_sub_cancel_left]

/-- one row of the running-sum constraint, solved for the increment -/
theorem running_step (zn z hs t α m : K) (ht : t + α ≠ 0)
    (h : (zn - z) * (t + α) = hs * (t + α) - m) : zn - z = hs - m / (t + α) := by
  rw [eq_div_of_mul_eq ht h, sub_div, mul_div_cancel_right₀ _ ht]

/-- the running-sum constraint on every row, with non-vanishing table denominators: the helper
sums and the table fractions balance over the whole domain -/
theorem logup_running_sum (n : Nat) (Z hs t m : Nat → K) (α : K)
    (ht : ∀ r, r < n → t r + α ≠ 0)
    (h : ∀ r, r < n → (Z ((r + 1) % n) - Z r) * (t r + α) = hs r * (t r + α) - m r) :
    ∑ r ∈ Finset.range n, (hs r - m r / (t r + α)) = 0 :=
  running_sum_telescopes n Z _ fun r hr => running_step _ _ _ _ _ _ (ht r hr) (h r hr)

/-- with the helper sum spelled out as a sum over helper columns `j ∈ J` -/
theorem logup_running_sum_helpers {ι : Type} (J : Finset ι) (n : Nat) (Z t m : Nat → K)
    (h : ι → Nat → K) (α : K)
    (ht : ∀ r, r < n → t r + α ≠ 0)
    (hrun : ∀ r, r < n →
      (Z ((r + 1) % n) - Z r) * (t r + α) = (∑ j ∈ J, h j r) * (t r + α) - m r) :
    ∑ r ∈ Finset.range n, (∑ j ∈ J, h j r - m r / (t r + α)) = 0 :=
  logup_running_sum n Z (fun r => ∑ j ∈ J, h j r) t m α ht hrun

/-- logUp, helper columns covering ONE column each: helper constraints + running-sum constraint
on every row, all denominators non-zero ⇒ the looking fractions and the table fractions have the
same total over the domain -/
theorem logup_single {ι : Type} (J : Finset ι) (n : Nat) (Z t m : Nat → K)
    (h x f : ι → Nat → K) (α : K)
    (hx : ∀ r, r < n → ∀ j ∈ J, x j r + α ≠ 0)
    (ht : ∀ r, r < n → t r + α ≠ 0)
    (hhelp : ∀ r, r < n → ∀ j ∈ J, h j r * (x j r + α) = f j r)
    (hrun : ∀ r, r < n →
      (Z ((r + 1) % n) - Z r) * (t r + α) = (∑ j ∈ J, h j r) * (t r + α) - m r) :
    ∑ r ∈ Finset.range n, ∑ j ∈ J, f j r / (x j r + α)
      = ∑ r ∈ Finset.range n, m r / (t r + α) := by
  have h0 := logup_running_sum_helpers J n Z t m h α ht hrun
  rw [Finset.sum_sub_distrib, sub_eq_zero] at h0
  rw [← h0]
  apply Finset.sum_congr rfl
  intro r hr
  apply Finset.sum_congr rfl
  intro j hj
  have hr' := Finset.mem_range.1 hr
  exact (helper_single_sound _ _ _ _ (hhelp r hr' j hj) (hx r hr' j hj)).symm

/-- logUp, general chunking (constraint degree 3: chunks of two columns, possibly a last chunk of
one): helper columns `j ∈ P` cover the two columns `x0 j, x1 j`, helper columns `j ∈ S` cover the
single column `xs j` -/
theorem logup_mixed {ι κ : Type} (P : Finset ι) (S : Finset κ) (n : Nat) (Z t m : Nat → K)
    (hp x0 x1 f0 f1 : ι → Nat → K) (hs xs fs : κ → Nat → K) (α : K)
    (hx0 : ∀ r, r < n → ∀ j ∈ P, x0 j r + α ≠ 0)
    (hx1 : ∀ r, r < n → ∀ j ∈ P, x1 j r + α ≠ 0)
    (hxs : ∀ r, r < n → ∀ j ∈ S, xs j r + α ≠ 0)
    (ht : ∀ r, r < n → t r + α ≠ 0)
    (hpair : ∀ r, r < n → ∀ j ∈ P,
      hp j r * ((x0 j r + α) * (x1 j r + α)) = f0 j r * (x1 j r + α) + f1 j r * (x0 j r + α))
    (hsingle : ∀ r, r < n → ∀ j ∈ S, hs j r * (xs j r + α) = fs j r)
    (hrun : ∀ r, r < n →
      (Z ((r + 1) % n) - Z r) * (t r + α)
        = (∑ j ∈ P, hp j r + ∑ j ∈ S, hs j r) * (t r + α) - m r) :
    ∑ r ∈ Finset.range n,
        (∑ j ∈ P, (f0 j r / (x0 j r + α) + f1 j r / (x1 j r + α)) + ∑ j ∈ S, fs j r / (xs j r + α))
      = ∑ r ∈ Finset.range n, m r / (t r + α) := by
  have h0 := logup_running_sum n Z (fun r => ∑ j ∈ P, hp j r + ∑ j ∈ S, hs j r) t m α ht hrun
  rw [Finset.sum_sub_distrib, sub_eq_zero] at h0
  rw [← h0]
  apply Finset.sum_congr rfl
  intro r hr
  have hr' := Finset.mem_range.1 hr
  congr 1
  · apply Finset.sum_congr rfl
    intro j hj
    exact (helper_pair_sound _ _ _ _ _ _ (hpair r hr' j hj) (hx0 r hr' j hj) (hx1 r hr' j hj)).symm
  · apply Finset.sum_congr rfl
    intro j hj
    exact (helper_single_sound _ _ _ _ (hsingle r hr' j hj) (hxs r hr' j hj)).symm

/-- two rows, increments `5, −5`: `Z = (0, 5)` closes cyclically -/
example : ∑ r ∈ Finset.range 2, (fun r => if r = 0 then (5 : ℚ) else -5) r = 0 :=
  running_sum_telescopes 2 (fun r => if r = 0 then 0 else 5) _ (by
    intro r hr
    interval_cases r <;> norm_num)
/-- two rows, one looking column `x = (1, 2)` with filter 1, table `t = (2, 1)` with multiplicity 1,
`α = 1`: helpers `(1/2, 1/3)`, `Z = (0, 1/6)` -/
example : ∑ r ∈ Finset.range 2, ∑ j ∈ ({()} : Finset Unit),
      (fun _ _ => (1 : ℚ)) j r / ((fun _ r => if r = 0 then (1 : ℚ) else 2) j r + 1)
    = ∑ r ∈ Finset.range 2,
      (fun _ => (1 : ℚ)) r / ((fun r => if r = 0 then (2 : ℚ) else 1) r + 1) :=
  logup_single {()} 2 (fun r => if r = 0 then 0 else 1 / 6) _ _
    (fun _ r => if r = 0 then 1 / 2 else 1 / 3) _ _ 1
    (by intro r hr j _; interval_cases r <;> norm_num)
    (by intro r hr; interval_cases r <;> norm_num)
    (by intro r hr j _; interval_cases r <;> norm_num)
    (by intro r hr; interval_cases r <;> norm_num)

example : ∑ i : Fin 2, (![5, -5] : Fin 2 → ℚ) i = 0 :=
  running_sum_telescopes_fin 2 ![0, 5] ![5, -5] (by
    rw [Fin.forall_fin_two, show (1 + 1 : Fin 2) = 0 from rfl]; norm_num)
example : (∑ i ∈ Finset.range ((1 + 1) % 2), (fun r => if r = 0 then (5 : ℚ) else -5) i)
    - ∑ i ∈ Finset.range 1, (fun r => if r = 0 then (5 : ℚ) else -5) i
    = (fun r => if r = 0 then (5 : ℚ) else -5) 1 :=
  running_sum_complete 2 _ (by norm_num [Finset.sum_range_succ]) 1 (by norm_num)
/-- one row, one pair helper (`4/(1+1) + 3/(2+1) = 3`), one single helper (`2/(1+1) = 1`), table
value 1 with multiplicity 8, `α = 1` -/
example : (4 : ℚ) / (1 + 1) + 3 / (2 + 1) + 2 / (1 + 1) = 8 / (1 + 1) := by
  simpa using logup_mixed ({()} : Finset Unit) ({()} : Finset Unit) 1 (fun _ => 0) (fun _ => 1)
    (fun _ => 8) (fun _ _ => 3) (fun _ _ => 1) (fun _ _ => 2) (fun _ _ => 4) (fun _ _ => 3)
    (fun _ _ => 1) (fun _ _ => 1) (fun _ _ => 2) (1 : ℚ)
    (by intro r _ j _; norm_num) (by intro r _ j _; norm_num) (by intro r _ j _; norm_num)
    (by intro r _; norm_num) (by intro r _ j _; norm_num) (by intro r _ j _; norm_num)
    (by intro r _; norm_num)

end P2.Props.C10b
