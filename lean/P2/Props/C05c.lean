/-
C05 (batched variant): decision logic of the batch FRI verifier model (`P2.Model.BatchFri`) stated
outright, for arbitrary proofs, instances, parameters and challenges, and its agreement with the
single-degree verifier (`P2.Model.Fri`) on a single instance.
The proximity soundness of FRI itself is NOT proved here (see DESIGN.md, trusted base).
-/
import P2.Model.BatchFri
import P2.Props.C05
import P2.Lemmas.FriShape
namespace P2.Props.C05c
open P2 P2.Fri P2.Merkle P2.Props.C05
open P2.Lemmas.FriShape (QueryOK OnlyIf stepsV stepsV_cons_none validateShape_spec)

/-- **Acceptance is the conjunction of all checks** (top level of `verify_batch_fri_proof`): shape
validation over all instances, proof of work, query count, and every query round. -/
theorem verifyBatch_accept_iff (insts : List Instance) (openings : List (List (List GL2)))
    (ch : Challenges) (degreeBits : List Nat) (caps : List (List Digest)) (proof : Proof)
    (p : FriParams) :
    BatchFri.verifyBatch insts openings ch degreeBits caps proof p = .accept ↔
      BatchFri.validateShape proof insts p = .accept ∧
      powOk ch.powResponse p.config.powBits = true ∧
      p.config.numQueryRounds = proof.queries.length ∧
      ∀ xq ∈ ch.queryIndices.zip proof.queries,
        BatchFri.queryRound insts ch
          (openings.map fun op => op.map fun vals => reduceExt vals ch.alpha)
          (degreeBits.map (· + p.config.rateBits)) caps proof xq.1 xq.2 p = .accept := by
  unfold BatchFri.verifyBatch
  cases hs : BatchFri.validateShape proof insts p with
  | accept =>
    simp only [true_and]
    exact rounds_accept_iff _ _ _ _ _
  | reject s => exact ⟨fun h => (nomatch h), fun h => (nomatch h.1)⟩
  | panic s => exact ⟨fun h => (nomatch h), fun h => (nomatch h.1)⟩

/-- an insufficient proof-of-work response is rejected, whatever else the proof contains -/
theorem bad_pow_rejected (insts : List Instance) (openings : List (List (List GL2)))
    (ch : Challenges) (degreeBits : List Nat) (caps : List (List Digest)) (proof : Proof)
    (p : FriParams) (h : powOk ch.powResponse p.config.powBits = false) :
    BatchFri.verifyBatch insts openings ch degreeBits caps proof p ≠ .accept :=
  fun hacc => Bool.false_ne_true
    (h.symm.trans ((verifyBatch_accept_iff insts openings ch degreeBits caps proof p).1 hacc).2.1)

theorem zip_replicate_map {β : Type} (os : List β) (f : β → Nat) :
    ((List.replicate os.length 0).zip os).map (fun x => x.1 + f x.2) = os.map f := by
  induction os with
  | nil => rfl
  | cons o os ih =>
    rw [List.length_cons, List.replicate_succ, List.zip_cons_cons, List.map_cons, ih, Nat.zero_add,
      List.map_cons]

theorem leafLens_single (hid : Bool) (inst : Instance) (n : Nat) :
    BatchFri.leafLens hid n [inst] (List.replicate n 0) =
      if n ≠ inst.oracles.length then none
      else some (inst.oracles.map fun o => o.numPolys + saltSize (o.blinding && hid)) := by
  rw [BatchFri.leafLens]
  by_cases h : n = inst.oracles.length
  · subst h
    rw [if_neg (not_not_intro rfl), if_neg (not_not_intro rfl), BatchFri.leafLens]
    exact congrArg some (zip_replicate_map inst.oracles fun o => o.numPolys + saltSize (o.blinding && hid))
  · rw [if_pos h, if_pos h]

theorem validateShape_single (proof : Proof) (inst : Instance) (p : FriParams) :
    BatchFri.validateShape proof [inst] p = Fri.validateShape proof inst p := by
  unfold BatchFri.validateShape Fri.validateShape
  dsimp only [Id.run, bind, pure]
  -- the two sides differ in the body of the loop over the query rounds only
  congr 1
  congr 1
  funext _
  congr 3
  funext q s
  rw [leafLens_single]
  by_cases h : q.initial.length ≠ inst.oracles.length
  · rw [if_pos h, if_pos h]
  · rw [if_neg h, if_neg h]
    dsimp only
    rw [List.zip_map_right, List.forIn_map]
    rfl

/-- `codeword_len_bits -= arity_bits` never underflows along the list of arities -/
def noUF : List Nat → Nat → Prop
  | [], _ => True
  | ab :: r, b => ab ≤ b ∧ noUF r (b - ab)

/-- the loop over the query steps of `validate_fri_proof_shape` runs through only without underflow -/
theorem noUF_of_stepsV (p : FriParams) : ∀ (steps : List QueryStep) (abs : List Nat) (bits : Nat),
    steps.length = abs.length → stepsV p steps abs bits = none → noUF abs bits
  | [], [], _, _, _ => trivial
  | st :: rest, ab :: abs, bits, hl, h =>
    have ⟨hle, _, _, hr⟩ := stepsV_cons_none p st rest ab abs bits h
    ⟨hle, noUF_of_stepsV p rest abs _ (Nat.succ.inj hl) hr⟩

theorem batchFold_single (h : Hasher (List GL) Digest) (row : List GL) (H : Nat) :
    ∀ (mp : List Digest) (cur : Digest) (height idx : Nat), mp.length ≤ height →
      BatchFri.batchFold h [row] [H] cur height idx 1 mp =
        some ((foldPath h cur idx mp).1, (foldPath h cur idx mp).2, 1) := by
  intro mp
  induction mp with
  | nil => intro cur height idx _; simp [BatchFri.batchFold, foldPath]
  | cons s rest ih =>
    intro cur height idx (hlen : rest.length < height)
    simp only [BatchFri.batchFold, foldPath, Nat.ne_of_gt (Nat.zero_lt_of_lt hlen), if_false,
      List.getElem?_cons_succ, List.getElem?_nil]
    exact ih _ _ _ (Nat.le_sub_one_of_lt hlen)

theorem verifyBatchToCap_single (leaf : List GL) (H x : Nat) (cap : List Digest) (mp : List Digest)
    (hlen : mp.length ≤ H) :
    BatchFri.verifyBatchToCap digestHasher [leaf] [H] x cap mp =
      match verifyToCap digestHasher leaf x cap mp with
      | .ok => .ok
      | .err => .err
      | .panic => .panic "cap index out of range" := by
  unfold BatchFri.verifyBatchToCap verifyToCap
  simp only [List.length_cons, List.length_nil, ne_eq, not_true_eq_false, if_false]
  rw [batchFold_single _ _ _ _ _ _ _ hlen]
  simp only
  cases hc : cap[(foldPath digestHasher (digestHasher.hashLeaf leaf) x mp).2]? with
  | none => simp
  | some c =>
    by_cases hd : (foldPath digestHasher (digestHasher.hashLeaf leaf) x mp).1 = c <;> simp [hd]

theorem saltSize_false : saltSize false = 0 := rfl

/-- what `batch_fri_verify_initial_proof` hashes for an oracle on a single instance: the first
`num_polys` values of the leaf — the salt columns that `validate_batch_fri_proof_shape` requires
for a blinded oracle are cut off (finding F-C05b-1: honest hiding proofs are rejected). -/
theorem splitLeaf_single_take (i : Nat) (leaf : List GL) (inst : Instance) (o : OracleInfo)
    (ho : inst.oracles[i]? = some o) (hl : o.numPolys ≤ leaf.length) :
    BatchFri.splitLeaf i leaf [inst] 0 = some [leaf.take o.numPolys] := by
  simp only [BatchFri.splitLeaf, ho]
  have : ¬ (o.numPolys ≠ 0 ∧ leaf.length < 0 + o.numPolys) := by omega
  simp only [this, if_false, Option.map_some, List.drop_zero]

theorem splitLeaf_single (i : Nat) (leaf : List GL) (inst : Instance) (o : OracleInfo)
    (ho : inst.oracles[i]? = some o) (hl : leaf.length = o.numPolys) :
    BatchFri.splitLeaf i leaf [inst] 0 = some [leaf] := by
  rw [splitLeaf_single_take i leaf inst o ho (Nat.le_of_eq hl.symm), ← hl, List.take_length]

theorem map_zipIdx_eq_map {α β : Type} (l : List α) (F : α × Nat → β) (G : α → β)
    (h : ∀ i (hi : i < l.length), F (l[i], i) = G l[i]) : l.zipIdx.map F = l.map G := by
  apply List.ext_getElem
  · rw [List.length_map, List.length_map, List.length_zipIdx]
  · intro i h1 h2
    rw [List.getElem_map, List.getElem_map, List.getElem_zipIdx, Nat.zero_add]
    exact h i _

theorem initialChecks_single (inst : Instance) (p : FriParams) (q : QueryRound)
    (caps : List (List Digest)) (x : Nat) (hf : QueryOK inst p q)
    (hsalt : ∀ o ∈ inst.oracles, (o.blinding && p.isHiding) = false) :
    BatchFri.initialChecks [inst] [p.ldeBits] q.initial caps x = Fri.initialChecks q.initial caps x := by
  unfold BatchFri.initialChecks Fri.initialChecks
  refine map_zipIdx_eq_map _ _ _ fun i hi => ?_
  rw [List.length_zip] at hi
  have hio : i < inst.oracles.length := hf.initLen ▸ (Nat.lt_min.1 hi).1
  have hz : i < (q.initial.zip inst.oracles).length := by
    rw [List.length_zip, hf.initLen, Nat.min_self]; exact hio
  obtain ⟨hl, hmp⟩ := hf.init _ (List.getElem_mem hz)
  rw [List.getElem_zip] at hl hmp
  dsimp only at hl hmp
  rw [hsalt _ (List.getElem_mem hio), saltSize_false, Nat.add_zero] at hl
  rw [List.getElem_zip]
  dsimp only
  rw [splitLeaf_single i _ inst inst.oracles[i] (List.getElem?_eq_getElem hio) hl]
  dsimp only
  rw [verifyBatchToCap_single _ _ _ _ _ (hmp ▸ Nat.le_add_right _ _)]
  generalize verifyToCap digestHasher _ _ _ _ = o
  cases o <;> rfl

/-- the result of the single-degree chain, as the batched chain reports it with `k` instances folded in -/
def withCount (k : Nat) (r : Verdict × GL2 × GL) : Verdict × GL2 × GL × Nat := (r.1, r.2.1, r.2.2, k)

/-- once every instance is folded in (`k` is past the end of `heights`) the batched chain is the
single-degree chain, as long as `n -= arity_bits` does not underflow -/
theorem stepsFrom_all_folded (insts : List Instance) (red : List (List GL2)) (heights : List Nat)
    (proof : Proof) (ch : Challenges) (q : QueryRound) (p : FriParams) (k : Nat)
    (hk : heights[k]? = none) :
    ∀ (arities : List Nat) (i xIndex : Nat) (x : GL) (old : GL2) (n : Nat), noUF arities n →
      BatchFri.stepsFrom insts red heights proof ch q p arities i xIndex x old n k =
        withCount k (Fri.stepsFrom proof ch q arities i xIndex x old) := by
  intro arities
  induction arities with
  | nil => intro i xIndex x old n _; rfl
  | cons ab rest ih =>
    intro i xIndex x old n hn
    rw [BatchFri.stepsFrom, Fri.stepsFrom]
    dsimp only
    rcases q.steps[i]? with _ | st
    · rfl
    dsimp only
    rcases st.evals[xIndex % 2 ^ ab]? with _ | e
    · rfl
    dsimp only
    by_cases hc : (!e == old) = true
    · rw [if_pos hc, if_pos hc]; rfl
    rw [if_neg hc, if_neg hc]
    rcases ch.betas[i]? with _ | beta
    · rfl
    dsimp only
    rcases proof.commitCaps[i]? with _ | cap
    · rfl
    dsimp only
    rcases verifyToCap digestHasher (st.evals.flatMap fun v => [v.a, v.b]) (xIndex / 2 ^ ab) cap
      st.merkleProof with _ | _ | _
    · dsimp only
      rw [if_neg (Nat.not_lt.2 hn.1), hk]
      exact ih _ _ _ _ _ hn.2
    · rfl
    · rfl

theorem queryRound_single (inst : Instance) (ch : Challenges) (red : List GL2)
    (caps : List (List Digest)) (proof : Proof) (x0 : Nat) (q : QueryRound) (p : FriParams)
    (hf : QueryOK inst p q) (hsalt : ∀ o ∈ inst.oracles, (o.blinding && p.isHiding) = false) :
    BatchFri.queryRound [inst] ch [red] [p.ldeBits] caps proof x0 q p =
      Fri.queryRound inst ch red caps proof x0 q p := by
  unfold BatchFri.queryRound Fri.queryRound
  rw [initialChecks_single inst p q caps x0 hf hsalt]
  have hnoUF := noUF_of_stepsV p _ _ _ hf.stepsLen hf.steps
  cases hfb : firstBad (Fri.initialChecks q.initial caps x0) with
  | reject s => rfl
  | panic s => rfl
  | accept =>
    dsimp only [BatchFri.combineAt, BatchFri.subgroupX, List.getElem?_cons_zero]
    cases hc : combineInitial inst q.initial ch.alpha
        (GL.multGen * GL.pow (GL.primitiveRoot p.ldeBits) (BitRev.bitrev p.ldeBits x0)) red p with
    | none => rfl
    | some old0 =>
      simp only
      rw [stepsFrom_all_folded [inst] [red] [p.ldeBits] proof ch q p 1 rfl p.arityBits 0 x0 _ old0
        p.ldeBits hnoUF]
      generalize Fri.stepsFrom proof ch q p.arityBits 0 x0
        (GL.multGen * GL.pow (GL.primitiveRoot p.ldeBits) (BitRev.bitrev p.ldeBits x0)) old0 = r
      obtain ⟨v, lastEval, xf⟩ := r
      cases v <;> rfl

/-- **On a single instance the batch verifier is the single-degree verifier**, on every input whose
oracles carry no salt (`blinding && hiding` false for every oracle): same verdict, same stage. -/
theorem verifyBatch_single (inst : Instance) (openings : List (List GL2)) (ch : Challenges)
    (caps : List (List Digest)) (proof : Proof) (p : FriParams)
    (hsalt : ∀ o ∈ inst.oracles, (o.blinding && p.isHiding) = false) :
    BatchFri.verifyBatch [inst] [openings] ch [p.degreeBits] caps proof p =
      Fri.verify inst openings ch caps proof p := by
  unfold BatchFri.verifyBatch Fri.verify
  rw [validateShape_single]
  cases hs : Fri.validateShape proof inst p with
  | reject s => rfl
  | panic s => rfl
  | accept =>
    dsimp only
    congr 3
    apply List.map_congr_left
    rintro ⟨xi, q⟩ hxq
    have hshape : OnlyIf _ _ Verdict.accept := hs ▸ validateShape_spec proof inst p
    exact queryRound_single inst ch _ caps proof xi q p (hshape.2.2 q (List.of_mem_zip hxq).2) hsalt

/-- **Acceptance of one batched query round** implies each named check of that round: every batched
initial Merkle opening verifies, the combination of the largest instance is defined, the whole
reduction chain passes having folded in every instance, and the final polynomial evaluates to the
last folded value. -/
theorem queryRound_accept (insts : List Instance) (ch : Challenges) (red : List (List GL2))
    (heights : List Nat) (caps : List (List Digest)) (proof : Proof) (x0 : Nat) (q : QueryRound)
    (p : FriParams)
    (h : BatchFri.queryRound insts ch red heights caps proof x0 q p = .accept) :
    (∀ v ∈ BatchFri.initialChecks insts heights q.initial caps x0, v = .accept) ∧
    ∃ n rest old0 lastEval xf,
      heights = n :: rest ∧
      BatchFri.combineAt insts red 0 q.initial ch.alpha (BatchFri.subgroupX n x0) p = some old0 ∧
      BatchFri.stepsFrom insts red heights proof ch q p p.arityBits 0 x0 (BatchFri.subgroupX n x0) old0 n 1
        = (.accept, lastEval, xf, insts.length) ∧
      (Poly.eval proof.finalPoly (GL2.ofBase xf) == lastEval) = true := by
  revert h
  -- numbering and binder order of the cases: the premises of `BatchFri.queryRound.fun_cases`
  fun_cases BatchFri.queryRound insts ch red heights caps proof x0 q p
  case case3 _ _ _ _ _ _ _ _ hk _ hst =>
    rw [hst]; dsimp only; rw [if_pos hk]; nofun
  case case4 n rest _ old0 hc lastEval xf k hk hf hfb hst =>
    cases Decidable.not_not.1 hk
    exact fun _ => ⟨(firstBad_accept_iff _).1 hfb, n, rest, old0, lastEval, xf, rfl, hc, hst, hf⟩
  case case5 _ _ _ _ _ _ _ _ hk hf _ hst =>
    rw [hst]; dsimp only; rw [if_neg hk, if_neg hf]; nofun
  case case6 _ _ _ _ _ v _ _ _ hne _ hst =>
    rw [hst]
    cases v
    · exact (hne rfl).elim
    all_goals nofun
  case case7 hne => exact fun h => (hne h).elim
  all_goals nofun

/-- **One reduction layer of the batched chain**: if the chain from layer `i` is accepted then at
layer `i` the queried evaluation equals the value carried from the previous layer, the coset's
Merkle opening verifies against that layer's cap, and the chain continues at the point `x^arity` on
the domain of `n − arity_bits` bits: from `compute_evaluation · β + (combined value of instance k)` when
that domain is the one of the next instance `k` (which is then consumed), from `compute_evaluation`
otherwise. -/
theorem stepsFrom_accept_cons (insts : List Instance) (red : List (List GL2)) (heights : List Nat)
    (proof : Proof) (ch : Challenges) (q : QueryRound) (p : FriParams)
    (ab : Nat) (rest : List Nat) (i xIndex : Nat) (x : GL) (oldEval lastEval : GL2) (xf : GL)
    (n k kf : Nat)
    (h : BatchFri.stepsFrom insts red heights proof ch q p (ab :: rest) i xIndex x oldEval n k
      = (.accept, lastEval, xf, kf)) :
    ∃ st e beta cap,
      q.steps[i]? = some st ∧ st.evals[xIndex % 2 ^ ab]? = some e ∧ (e == oldEval) = true ∧
      ch.betas[i]? = some beta ∧ proof.commitCaps[i]? = some cap ∧
      verifyToCap digestHasher (st.evals.flatMap fun v => [v.a, v.b]) (xIndex / 2 ^ ab) cap st.merkleProof = .ok ∧
      ab ≤ n ∧
      ((heights[k]? = some (n - ab) ∧ ∃ ev,
          BatchFri.combineAt insts red k q.initial ch.alpha (BatchFri.subgroupX (n - ab) (xIndex / 2 ^ ab)) p = some ev ∧
          BatchFri.stepsFrom insts red heights proof ch q p rest (i + 1) (xIndex / 2 ^ ab) (GL.pow x (2 ^ ab))
            (computeEvaluation x (xIndex % 2 ^ ab) ab st.evals beta * beta + ev) (n - ab) (k + 1)
              = (.accept, lastEval, xf, kf)) ∨
       (heights[k]? ≠ some (n - ab) ∧
          BatchFri.stepsFrom insts red heights proof ch q p rest (i + 1) (xIndex / 2 ^ ab) (GL.pow x (2 ^ ab))
            (computeEvaluation x (xIndex % 2 ^ ab) ab st.evals beta) (n - ab) k
              = (.accept, lastEval, xf, kf))) := by
  -- along the definition of `stepsFrom`: only the three branches in which every check passes can accept
  -- (numbering and binder order: the premises of `BatchFri.stepsFrom.fun_cases`)
  generalize hl : ab :: rest = l at h
  revert hl h
  fun_cases BatchFri.stepsFrom insts red heights proof ch q p l i xIndex x oldEval n k
  case case11 _ _ _ st e beta cap ev hs hb hcap _ _ he hv _ _ hcons hlt _ hk hcomb =>
    rintro ⟨⟩ h
    exact ⟨st, e, beta, cap, hs, he, by simpa using hcons, hb, hcap, hv, Nat.le_of_not_lt hlt,
      .inl ⟨hk, ev, hcomb, h⟩⟩
  case case12 _ _ _ st e beta cap _ hs hb hcap _ _ he hv _ _ hcons hlt _ hne hk =>
    rintro ⟨⟩ h
    exact ⟨st, e, beta, cap, hs, he, by simpa using hcons, hb, hcap, hv, Nat.le_of_not_lt hlt,
      .inr ⟨fun hc => hne (Option.some.inj (hk.symm.trans hc)).symm, h⟩⟩
  case case13 _ _ _ st e beta cap hs hb hcap _ _ he hv _ _ hcons hlt _ hk =>
    rintro ⟨⟩ h
    exact ⟨st, e, beta, cap, hs, he, by simpa using hcons, hb, hcap, hv, Nat.le_of_not_lt hlt,
      .inr ⟨fun hc => (nomatch hk.symm.trans hc), h⟩⟩
  all_goals rintro ⟨⟩ ⟨⟩

end P2.Props.C05c
