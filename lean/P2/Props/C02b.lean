/-
C02 (general theorems over an arbitrary field `K`): the field-generic pieces of the PLONK vanishing
polynomial (`P2.Model.PlonkAlg`, used by the executable verifier at `K = GL2`), instantiated through
`FOps.ofField K`.

 A. selector filters: the filter of the gate at index `row` vanishes exactly on the rows whose
    selector value is a different index (or `UNUSED_SELECTOR`);
 B. `reduce_with_powers` is evaluation at `α` of the polynomial with the given coefficients, hence
    a non-zero term list is annihilated by at most `length − 1` values of `α`;
 C. `check_partial_products`: characterisation, telescoping soundness, completeness;
 D. `eval_l_0` is the Lagrange basis polynomial `L_0` of the subgroup of order `n`.
(F, completeness of the vanishing combination, is in `P2.Props.C01b`.)
-/
import P2.Lemmas.PlonkAlg
import Mathlib.Algebra.Field.Rat
import Mathlib.Algebra.Order.Ring.Rat
namespace P2.Props.C02
open P2 P2.PlonkAlg P2.Lemmas.PlonkAlg

variable {K : Type} [Field K] [DecidableEq K]

/-- On a row whose selector value is `j` (an index of the group, or `UNUSED_SELECTOR` when several
selector polynomials are used), the filter of the gate at index `row` is zero iff `j ≠ row`.
`hinj`: naturals below `2^32` are distinct in `K` (`CharZero K`, or `ringChar K > 2^32`). -/
theorem computeFilter_eq_zero_iff (lo hi row j : Nat) (many : Bool)
    (hinj : ∀ a b : Nat, a < 2 ^ 32 → b < 2 ^ 32 → (a : K) = (b : K) → a = b)
    (hrow : lo ≤ row ∧ row < hi) (hhi : hi ≤ 2 ^ 32 - 1)
    (hj : (lo ≤ j ∧ j < hi) ∨ (many = true ∧ j = UNUSED_SELECTOR)) :
    @computeFilter K (FOps.ofField K) row (lo, hi) (j : K) many = 0 ↔ j ≠ row := by
  have hU := unused_eq
  simp only [Lemmas.PlonkAlg.computeFilter_eq_zero_iff, mem_filterIdxs]
  constructor
  · rintro ⟨i, hi', he⟩
    obtain rfl := hinj i j (by omega) (by omega) he
    omega
  · exact fun hne => ⟨j, hj.imp (fun h => ⟨h.1, h.2, hne⟩) id, rfl⟩

/-- the filter of a gate is non-zero on its own rows -/
theorem computeFilter_self_ne_zero (lo hi row : Nat) (many : Bool)
    (hinj : ∀ a b : Nat, a < 2 ^ 32 → b < 2 ^ 32 → (a : K) = (b : K) → a = b)
    (hrow : lo ≤ row ∧ row < hi) (hhi : hi ≤ 2 ^ 32 - 1) :
    @computeFilter K (FOps.ofField K) row (lo, hi) (row : K) many ≠ 0 := fun h =>
  (computeFilter_eq_zero_iff lo hi row row many hinj hrow hhi (Or.inl hrow)).1 h rfl

/-- two different gates of the same selector group: on a row selected for `i`, the filter of `i'`
vanishes -/
theorem filters_disjoint (lo hi i i' : Nat) (many : Bool)
    (hinj : ∀ a b : Nat, a < 2 ^ 32 → b < 2 ^ 32 → (a : K) = (b : K) → a = b)
    (hi_ : lo ≤ i ∧ i < hi) (hi' : lo ≤ i' ∧ i' < hi) (hhi : hi ≤ 2 ^ 32 - 1) (hne : i ≠ i') :
    @computeFilter K (FOps.ofField K) i' (lo, hi) (i : K) many = 0 :=
  (computeFilter_eq_zero_iff lo hi i' i many hinj hi' hhi (Or.inl hi_)).2 hne

/-- rows of gates belonging to other selector groups carry `UNUSED_SELECTOR` in this group's
selector polynomial, which kills every filter of the group -/
theorem filter_unused_eq_zero (lo hi row : Nat)
    (hinj : ∀ a b : Nat, a < 2 ^ 32 → b < 2 ^ 32 → (a : K) = (b : K) → a = b)
    (hrow : lo ≤ row ∧ row < hi) (hhi : hi ≤ 2 ^ 32 - 1) :
    @computeFilter K (FOps.ofField K) row (lo, hi) ((UNUSED_SELECTOR : Nat) : K) true = 0 :=
  (computeFilter_eq_zero_iff lo hi row UNUSED_SELECTOR true hinj hrow hhi (Or.inr ⟨rfl, rfl⟩)).2
    (by have := unused_eq; omega)

/-- Why `many = true` is required in the `UNUSED_SELECTOR` case of `computeFilter_eq_zero_iff`:
with a single selector polynomial the factor `(UNUSED_SELECTOR − s)` is absent, so the filter is
NON-zero at `s = UNUSED_SELECTOR` although `UNUSED_SELECTOR ≠ row`. (plonky2 never assigns
`UNUSED_SELECTOR` in that configuration.) -/
theorem computeFilter_unused_single_partial (lo hi row : Nat)
    (hinj : ∀ a b : Nat, a < 2 ^ 32 → b < 2 ^ 32 → (a : K) = (b : K) → a = b)
    (hhi : hi ≤ 2 ^ 32 - 1) :
    @computeFilter K (FOps.ofField K) row (lo, hi) ((UNUSED_SELECTOR : Nat) : K) false ≠ 0 := by
  have hU := unused_eq
  simp only [Ne, Lemmas.PlonkAlg.computeFilter_eq_zero_iff, mem_filterIdxs, Bool.false_eq_true,
    false_and, or_false]
  rintro ⟨i, hi', he⟩
  have := hinj i UNUSED_SELECTOR (by omega) (by omega) he
  omega

omit [DecidableEq K] in
/-- the side condition holds in characteristic zero -/
theorem hinj_of_charZero [CharZero K] :
    ∀ a b : Nat, a < 2 ^ 32 → b < 2 ^ 32 → (a : K) = (b : K) → a = b :=
  fun _ _ _ _ h => Nat.cast_injective h

omit [DecidableEq K] in
/-- … and in characteristic `p ≥ 2^32` (Goldilocks and its extensions: `p = 2^64 − 2^32 + 1`) -/
theorem hinj_of_charP (p : Nat) [CharP K p] (hp : 2 ^ 32 ≤ p) :
    ∀ a b : Nat, a < 2 ^ 32 → b < 2 ^ 32 → (a : K) = (b : K) → a = b :=
  Lemmas.PlonkAlg.hinj_of_charP p hp

example : @computeFilter ℚ (FOps.ofField ℚ) 4 (3, 6) ((4 : Nat) : ℚ) true ≠ 0 :=
  computeFilter_self_ne_zero 3 6 4 true hinj_of_charZero (by decide) (by decide)
example : @computeFilter ℚ (FOps.ofField ℚ) 4 (3, 6) ((5 : Nat) : ℚ) true = 0 :=
  filters_disjoint 3 6 5 4 true hinj_of_charZero (by decide) (by decide) (by decide) (by decide)
example : @computeFilter ℚ (FOps.ofField ℚ) 4 (3, 6) 4 false = -1 := by
  decide +kernel

theorem reduceWithPowers_eq_sum (terms : List K) (α : K) :
    @reduceWithPowers K (FOps.ofField K) terms α
      = ∑ i : Fin terms.length, terms[i] * α ^ (i : Nat) :=
  reduce_eq_sum terms α

theorem reduceWithPowers_eq_sum_range (terms : List K) (α : K) :
    @reduceWithPowers K (FOps.ofField K) terms α
      = ∑ i ∈ Finset.range terms.length, terms.getD i 0 * α ^ i :=
  reduce_eq_sum_range terms α

/-- it is the evaluation at `α` of a polynomial of degree `< terms.length` whose `i`-th coefficient
is `terms[i]` -/
theorem reduceWithPowers_eq_eval (terms : List K) :
    ∃ p : Polynomial K, p.degree < terms.length ∧ (∀ i, p.coeff i = terms.getD i 0) ∧
      ∀ α, @reduceWithPowers K (FOps.ofField K) terms α = p.eval α :=
  ⟨Lemmas.Alg2.ofList terms, Lemmas.Alg2.ofList_degree_lt terms, Lemmas.Alg2.ofList_coeff terms,
    fun α => (Lemmas.Alg2.ofList_eval terms α).symm⟩

/-- Schwartz–Zippel for the α-combination: if some term is non-zero, at most `length − 1` values of
`α` make the combination vanish -/
theorem reduceWithPowers_zeros_card (terms : List K) (h : ∃ t ∈ terms, t ≠ 0) (S : Finset K)
    (hS : ∀ α ∈ S, @reduceWithPowers K (FOps.ofField K) terms α = 0) :
    S.card ≤ terms.length - 1 :=
  reduce_zeros_card terms h S hS

theorem reduceWithPowers_zero_set (terms : List K) (h : ∃ t ∈ terms, t ≠ 0) :
    {α : K | @reduceWithPowers K (FOps.ofField K) terms α = 0}.Finite ∧
    {α : K | @reduceWithPowers K (FOps.ofField K) terms α = 0}.ncard ≤ terms.length - 1 :=
  reduce_zero_set terms h

/-- contrapositive: vanishing at `terms.length` distinct `α` forces all terms to be zero -/
theorem terms_zero_of_many_zeros (terms : List K) (S : Finset K) (hcard : terms.length ≤ S.card)
    (hS : ∀ α ∈ S, @reduceWithPowers K (FOps.ofField K) terms α = 0) :
    ∀ t ∈ terms, t = 0 :=
  reduce_terms_zero_of_many_zeros terms S hcard hS

example : @reduceWithPowers ℚ (FOps.ofField ℚ) [1, 2, 3] 2 = 17 := by
  decide +kernel

/-- (i) the check passes iff every chunk relation holds; accumulators are
`z_x :: partials ++ [z_gx]`, chunk `i` of `xs` is `(xs.drop (i·d)).take d`, and there are
`⌈len/d⌉` chunks -/
theorem checkPartialProducts_all_zero_iff (nums dens partials : List K) (zx zgx : K) (d : Nat)
    (hd : 0 < d) (hlen : nums.length = dens.length)
    (_hp : partials.length + 1 = (nums.length + d - 1) / d) :
    (∀ t ∈ @checkPartialProducts K (FOps.ofField K) nums dens partials zx zgx d, t = 0) ↔
    ∀ i, i < (nums.length + d - 1) / d →
      (zx :: partials ++ [zgx]).getD i 0 * ((nums.drop (i * d)).take d).prod
        = (zx :: partials ++ [zgx]).getD (i + 1) 0 * ((dens.drop (i * d)).take d).prod :=
  check_all_zero_iff nums dens partials zx zgx d hd hlen

/-- the model's `chunksOf` is the chunking used in the statement above -/
theorem chunksOf_spec {α : Type} (d : Nat) (hd : 0 < d) (xs : List α) :
    (chunksOf d xs).length = (xs.length + d - 1) / d ∧
    ∀ i, i < (xs.length + d - 1) / d → (chunksOf d xs).getD i [] = (xs.drop (i * d)).take d :=
  ⟨chunksOf_length d hd xs, chunksOf_getD d hd xs⟩

/-- (ii, prefix form) each accumulator is consistent with the products of the chunks before it -/
theorem checkPartialProducts_sound_prefix (nums dens partials : List K) (zx zgx : K) (d : Nat)
    (hd : 0 < d) (hlen : nums.length = dens.length)
    (h : ∀ t ∈ @checkPartialProducts K (FOps.ofField K) nums dens partials zx zgx d, t = 0)
    (i : Nat) (hi : i ≤ (nums.length + d - 1) / d) :
    (zx :: partials ++ [zgx]).getD i 0 * (dens.take (i * d)).prod
      = zx * (nums.take (i * d)).prod := by
  rw [check_all_zero_iff nums dens partials zx zgx d hd hlen] at h
  induction i with
  | zero => rw [Nat.zero_mul, List.take_zero, List.take_zero]; rfl
  | succ i ih =>
    rw [take_succ_mul_prod, take_succ_mul_prod]
    linear_combination ((nums.drop (i * d)).take d).prod * ih (Nat.le_of_succ_le hi)
      - (dens.take (i * d)).prod * h i hi

/-- (ii) telescoping soundness. The hypothesis "every element of `dens` is non-zero" is not needed
for this multiplicative form. -/
theorem checkPartialProducts_sound (nums dens partials : List K) (zx zgx : K) (d : Nat)
    (hd : 0 < d) (hlen : nums.length = dens.length)
    (hp : partials.length + 1 = (nums.length + d - 1) / d)
    (h : ∀ t ∈ @checkPartialProducts K (FOps.ofField K) nums dens partials zx zgx d, t = 0) :
    zgx * dens.prod = zx * nums.prod := by
  have := checkPartialProducts_sound_prefix nums dens partials zx zgx d hd hlen h _ (le_refl _)
  rwa [← hp, accs_last, hp, List.take_of_length_le (hlen ▸ numChunks_mul_ge nums.length d hd),
    List.take_of_length_le (numChunks_mul_ge nums.length d hd)] at this

/-- (ii′) quotient form, using that the denominators are non-zero -/
theorem checkPartialProducts_sound_div (nums dens partials : List K) (zx zgx : K) (d : Nat)
    (hd : 0 < d) (hlen : nums.length = dens.length)
    (hp : partials.length + 1 = (nums.length + d - 1) / d)
    (hne : ∀ x ∈ dens, x ≠ 0)
    (h : ∀ t ∈ @checkPartialProducts K (FOps.ofField K) nums dens partials zx zgx d, t = 0) :
    zgx = zx * (nums.prod / dens.prod) := by
  rw [← mul_div_assoc, eq_div_iff (List.prod_ne_zero fun h0 => hne 0 h0 rfl)]
  exact checkPartialProducts_sound nums dens partials zx zgx d hd hlen hp h

/-- (iii) completeness: honest running products pass the check -/
theorem checkPartialProducts_complete (nums dens partials : List K) (zx zgx : K) (d : Nat)
    (hd : 0 < d) (hlen : nums.length = dens.length)
    (hp : partials.length + 1 = (nums.length + d - 1) / d)
    (hne : ∀ x ∈ dens, x ≠ 0)
    (hpart : ∀ i, i < partials.length →
      partials.getD i 0 = zx * ∏ k ∈ Finset.range (i + 1),
        (((nums.drop (k * d)).take d).prod / ((dens.drop (k * d)).take d).prod))
    (hz : zgx = zx * ∏ k ∈ Finset.range ((nums.length + d - 1) / d),
        (((nums.drop (k * d)).take d).prod / ((dens.drop (k * d)).take d).prod)) :
    ∀ t ∈ @checkPartialProducts K (FOps.ofField K) nums dens partials zx zgx d, t = 0 := by
  rw [check_all_zero_iff nums dens partials zx zgx d hd hlen]
  -- every accumulator is `z_x` times the quotients of the chunks before it
  have hacc : ∀ i, i ≤ (nums.length + d - 1) / d →
      (zx :: partials ++ [zgx]).getD i 0 = zx * ∏ k ∈ Finset.range i,
        (((nums.drop (k * d)).take d).prod / ((dens.drop (k * d)).take d).prod) := by
    intro i hi
    rcases i with _ | i
    · rw [Finset.prod_range_zero, mul_one]; rfl
    · by_cases hlt : i < partials.length
      · rw [accs_succ_lt _ _ _ _ hlt, hpart i hlt]
      · obtain rfl : i = partials.length := by omega
        rw [accs_last, hz, hp]
  intro i hi
  rw [hacc i (Nat.le_of_lt hi), hacc (i + 1) hi, Finset.prod_range_succ, mul_assoc, mul_assoc,
    mul_assoc, div_mul_cancel₀ _ (chunk_prod_ne_zero dens hne i d)]

/-- 5 wires, chunks of 2: honest `partials = [z·(1·2)/(1·1), z·(1·2·3·4)/(1·1·2·3)]`,
`z_gx = z·(1·2·3·4·5)/(1·1·2·3·4)` with `z = 7` -/
example : @checkPartialProducts ℚ (FOps.ofField ℚ) [1, 2, 3, 4, 5] [1, 1, 2, 3, 4] [14, 28] 7 35 2
    = [0, 0, 0] := by
  decide +kernel
/-- a wrong `z_gx` is caught -/
example : @checkPartialProducts ℚ (FOps.ofField ℚ) [1, 2, 3, 4, 5] [1, 1, 2, 3, 4] [14, 28] 7 36 2
    = [0, 0, -4] := by
  decide +kernel

/-- on the subgroup `⟨ω⟩` of order `n`, `L_0` is the indicator of the identity -/
theorem evalL0_root (n : Nat) (_hn : n ≠ 0) (_hnK : (n : K) ≠ 0) (ω : K)
    (hω : IsPrimitiveRoot ω n) (k : Nat) :
    @evalL0 K (FOps.ofField K) n (ω ^ k) = if k % n = 0 then 1 else 0 :=
  Lemmas.PlonkAlg.evalL0_root n ω hω k

/-- off the point `1`, `L_0(x) · n · (x − 1) = x^n − 1` -/
theorem evalL0_mul (n : Nat) (hnK : (n : K) ≠ 0) (x : K) (hx : x ≠ 1) :
    @evalL0 K (FOps.ofField K) n x * ((n : K) * (x - 1)) = x ^ n - 1 :=
  Lemmas.PlonkAlg.evalL0_mul n hnK x hx

/-- any other `n`-th root of unity is a zero of `L_0` -/
theorem evalL0_of_pow_eq_one (n : Nat) (x : K) (hx : x ≠ 1) (hxn : x ^ n = 1) :
    @evalL0 K (FOps.ofField K) n x = 0 :=
  Lemmas.PlonkAlg.evalL0_of_pow_eq_one n x hx hxn

theorem evalL0_one (n : Nat) : @evalL0 K (FOps.ofField K) n 1 = 1 := by
  rw [evalL0_eq, if_pos rfl]

example : @evalL0 ℚ (FOps.ofField ℚ) 2 (-1) = 0 := by
  have h : IsPrimitiveRoot (-1 : ℚ) 2 := by
    rw [show (2 : ℕ) = 2 ^ 1 by norm_num]; exact IsPrimitiveRoot.neg_one 0 (by norm_num)
  simpa using evalL0_root 2 (by norm_num) (by norm_num) (-1 : ℚ) h 1
example : @evalL0 ℚ (FOps.ofField ℚ) 2 3 = 2 := by
  decide +kernel

end P2.Props.C02
