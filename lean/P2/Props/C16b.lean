/-
C16 (part b): proof-level compression. Model: `P2.Model.Compress` (`FriProof::compress`),
`P2.Model.Decompress` (`get_inferred_elements`, `CompressedFriProof::decompress`,
`CompressedProofWithPublicInputs::{decompress, verify}`).

Proved here
 (d) the first-wins maps: lookup after the `entry().or_insert()` fold returns the FIRST pair with the
     key; `Array.qsort` is a permutation, so sorting by key preserves lookups;
 (b) acceptance by `Fri.verify` gives, for every query round, the consistency fact: every evaluation
     that compression omits equals the value `get_inferred_elements` recomputes;
 (a, partial) producer/consumer alignment for one query round over all its layers: on a compressed
     proof whose step maps store, per coset, the true evaluation vector minus the position of the
     first query on it, `get_inferred_elements` emits exactly the elements that the first loop of
     `decompress` consumes, and that loop rebuilds the TRUE vectors — also when the coset was already
     reached by an earlier query (repeated indices, shared cosets);
 (c, conditional) `verifyCompressed (compress pp) = accept` for an accepted `pp`, GIVEN the
     conclusion of the proof-level round trip.
Towards the closed round trip: (1) first-wins for the step maps (`compress_step_first_wins`), (2) the
glue over the query list for the evaluation part (`inferred_and_rebuilt`, `rebuilt_evals`, under the
decidable `WF`), (3) `combineInitial_reads_leaves`, (4) `merkle_roundtrip_first_wins` and its instance
for the initial trees (`initial_tree_paths_roundtrip`).
NOT proved: the instance of (4) for the per-layer trees and the final reassembly (5); hence no closed
`decompress (compress π) = some π`, and `hround` of `verifyCompressed_of_roundtrip` is not
discharged.
-/
import P2.Lemmas.C16Glue
import P2.Lemmas.PathCompression
import P2.Props.C03
namespace P2.Props.C16
open P2 P2.Fri P2.Merkle P2.Compress P2.Decompress P2.Lemmas.C16

/-- **(d1)** `entry(k).or_insert(v)` for the pairs `kvs` in order, starting from `m`: the binding of
`m` if there is one, else the value of the FIRST pair of `kvs` with that key. -/
theorem lookup_after_first_wins_fold {α : Type} (m kvs : List (Nat × α)) (k : Nat) :
    lookupKey (kvs.foldl (fun m kv => insertFirstWins m kv.1 kv.2) m) k
      = (lookupKey m k).or (lookupKey kvs k) :=
  lookupKey_foldIns kvs m k

theorem first_wins_fold_keys_nodup {α : Type} (kvs : List (Nat × α)) :
    ((kvs.foldl (fun m kv => insertFirstWins m kv.1 kv.2) []).map (·.1)).Nodup :=
  nodup_keys_foldIns kvs [] (by simp [keys])

/-- **(d2)** `sortByKey` (`Array.qsort`) returns a permutation -/
theorem sortByKey_is_perm {α : Type} (m : List (Nat × α)) : (sortByKey m).Perm m := sortByKey_perm m

/-- **(d3)** sorting by key preserves lookups when the keys are distinct -/
theorem lookup_after_sort {α : Type} (m : List (Nat × α)) (hn : (m.map (·.1)).Nodup) (k : Nat) :
    lookupKey (sortByKey m) k = lookupKey m k := lookupKey_sortByKey m hn k

/-- **(d)** the maps `compress` builds: the value found under `k` is that of the FIRST query whose
key is `k` -/
theorem lookup_in_compressed_map {α : Type} (kvs : List (Nat × α)) (k : Nat) :
    lookupKey (sortByKey (kvs.foldl (fun m kv => insertFirstWins m kv.1 kv.2) [])) k
      = (kvs.find? (·.1 == k)).map (·.2) :=
  lookupKey_sorted_foldIns kvs k

example : lookupKey (sortByKey ([(5, "a"), (2, "b"), (5, "c"), (3, "d")].foldl
    (fun m kv => insertFirstWins m kv.1 kv.2) [])) 5 = some "a" := by
  rw [lookup_in_compressed_map]; rfl

/-- **(d) on `FriProof::compress`**: the initial-tree map of the compressed proof answers a lookup
for `k` with the entry (leaf data and compressed Merkle paths, `initKVs`) of the FIRST query whose
index is `k`. (`…_partial`: the initial-tree map only; the per-layer step maps are
`compress_step_first_wins`.) -/
theorem compress_initial_first_wins_partial (π : Fri.Proof) (idx : List Nat) (p : FriParams)
    (cp : CompressedFriProof) (h : Compress.compress π idx p = some cp) :
    ∃ q0, π.queries[0]? = some q0 ∧
      ∀ k, lookupKey cp.rounds.initial k
        = ((initKVs π idx p q0.initial.length).find? (·.1 == k)).map (·.2) :=
  compress_initial_lookup π idx p cp h

/-- **(b)** if `verify_fri_proof` accepts then every query round is consistent: the combination of
its initial openings is defined and, at every reduction layer, the evaluation at the query's
position within the coset — the one `FriProof::compress` removes — equals the value folded from
the previous layer by `compute_evaluation` — the one `get_inferred_elements` re-inserts. -/
theorem consistent_of_accept (inst : Instance) (openings : List (List GL2)) (ch : Challenges)
    (caps : List (List Digest)) (π : Fri.Proof) (p : FriParams)
    (h : Fri.verify inst openings ch caps π p = .accept) :
    ∀ xq ∈ ch.queryIndices.zip π.queries,
      Consistent inst ch (openings.map fun vals => reduceExt vals ch.alpha) p xq.1 xq.2 := by
  intro xq hxq
  have hq := ((P2.Props.C05.verify_accept_iff inst openings ch caps π p).1 h).2.2.2 xq hxq
  obtain ⟨_, old0, lastEval, xf, hc, hs, _⟩ :=
    P2.Props.C05.queryRound_accept inst ch _ caps π xq.1 xq.2 p hq
  exact ⟨old0, hc, consistentFrom_of_stepsFrom π ch xq.2 p.arityBits 0 xq.1 _ old0 lastEval xf hs⟩

theorem consistentFrom_cons (betas : List GL2) (q : QueryRound) (ab : Nat) (rest : List Nat)
    (i xIndex : Nat) (x : GL) (old : GL2) :
    ConsistentFrom betas q (ab :: rest) i xIndex x old ↔
      ∃ st beta, q.steps[i]? = some st ∧ betas[i]? = some beta ∧
        st.evals[xIndex % 2 ^ ab]? = some old ∧
        ConsistentFrom betas q rest (i + 1) (xIndex / 2 ^ ab) (GL.pow x (2 ^ ab))
          (computeEvaluation x (xIndex % 2 ^ ab) ab st.evals beta) := Iff.rfl

/-- re-inserting the omitted evaluation: `Vec::insert` undoes `Vec::remove` exactly when the
inserted value is the removed one -/
theorem insert_undoes_remove {α} (xs : List α) (w : Nat) (v : α) (h : xs[w]? = some v) :
    insertAt (removeAt xs w) w v = some xs := insertAt_removeAt xs w v h

/-- **(a), one query round, all layers** (`…_partial`: one query; the glue over the query list is
`inferred_and_rebuilt`, the Merkle trees are not covered). `steps` are the step maps of a compressed proof, `q` a query round at leaf
`xIndex`, `seen` the state of `seen_indices_by_depth` when the query is started, `byDepth` the state
of `evals_by_depth`, related by `StateInv` (same keys; cached vectors are the true ones `E`).
`LayersOK` says: `q` is consistent from `old`; `E` gives `q`'s evaluation vectors; the step maps have
an entry for each coset of `q`, storing — if the coset has not been seen — the vector minus `q`'s own
position; a seen coset has a seen parent. Then `get_inferred_elements` appends `vals`, and
`decompress`, fed `vals ++ more`, consumes `vals` and returns the true vectors for every layer. -/
theorem decompress_query_aligned_partial (steps : List (List (Nat × QueryStep))) (betas : List GL2)
    (E : Nat → Nat → List GL2) (M : Nat → Nat → List Digest) (q : QueryRound)
    (seen : List (List Nat)) (byDepth : List (List (Nat × List GL2)))
    (abs : List Nat) (xIndex : Nat) (x : GL) (old : GL2) (out : List GL2)
    (hok : LayersOK steps betas E M q seen abs 0 xIndex x old)
    (hinv : StateInv E seen byDepth) :
    ∃ vals seen' byDepth',
      inferLayers steps betas abs 0 xIndex x old seen out = some (seen', out ++ vals) ∧
      (∀ more, rebuildLayers steps abs 0 xIndex byDepth (vals ++ more)
        = some (expectedFrom E M abs 0 xIndex, byDepth', more)) ∧
      StateInv E seen' byDepth' :=
  align_layers steps betas E M q seen abs 0 xIndex x old seen byDepth out hok hinv (fun _ _ => rfl)

/-! #### non-vacuity: two queries on the same coset

One layer of arity 2; the queries sit at leaves 2 and 3, both in coset 1. The compressed map stores
the vector of the first query (position 0 removed). -/
section Example
def e0 : GL2 := ⟨GL.ofNat 5, GL.ofNat 7⟩
def e1 : GL2 := ⟨GL.ofNat 11, GL.ofNat 13⟩
def exQ : QueryRound := ⟨[], [⟨[e0, e1], []⟩]⟩
def exSteps : List (List (Nat × QueryStep)) := [[(1, ⟨[e1], []⟩)]]
def exE : Nat → Nat → List GL2 := fun _ _ => [e0, e1]
def exM : Nat → Nat → List Digest := fun _ _ => []

/-- first query (leaf 2, position 0 in coset 1, nothing seen yet) -/
example : LayersOK exSteps [e0] exE exM exQ [[]] [1] 0 2 GL.multGen e0 :=
  ⟨⟨[e0, e1], []⟩, e0, [(1, ⟨[e1], []⟩)], [e1], rfl, rfl, rfl, rfl, rfl, rfl, rfl,
    fun _ => rfl, fun h => by simp at h, trivial⟩

/-- second query (leaf 3, position 1 in the same coset, which has been seen) -/
example : LayersOK exSteps [e0] exE exM exQ [[1]] [1] 0 3 GL.multGen e1 :=
  ⟨⟨[e0, e1], []⟩, e0, [(1, ⟨[e1], []⟩)], [e1], rfl, rfl, rfl, rfl, rfl, rfl, rfl,
    fun h => absurd (by simp) h, fun _ => trivial, trivial⟩

example : StateInv exE [[]] [[]] := ⟨rfl, fun i c ev h => by
  rcases i with _ | _ | i <;> simp [lookupKey] at h⟩

/-- the model on this data: the first query produces one inferred element, the second none; the
consumer rebuilds `[e0, e1]` for both from the single stored vector `[e1]` -/
example :
    inferLayers exSteps [e0] [1] 0 2 GL.multGen e0 [[]] [] = some ([[1]], [e0]) ∧
    inferLayers exSteps [e0] [1] 0 3 GL.multGen e1 [[1]] [e0] = some ([[1]], [e0]) ∧
    rebuildLayers exSteps [1] 0 2 [[]] [e0] = some ([(1, [e0, e1], [])], [[(1, [e0, e1])]], []) ∧
    rebuildLayers exSteps [1] 0 3 [[(1, [e0, e1])]] [] = some ([(1, [e0, e1], [])], [[(1, [e0, e1])]], []) := by
  refine ⟨by decide, by decide, by rfl, by rfl⟩
end Example

/- Non-vacuity of (b): the hypothesis `Fri.verify … = .accept` is met by every honest proof the
harness produces (the driver's `ACCEPT` answers to `c05 verify`, `c03 verify`, `c16 vcompressed`); an
in-kernel instance is out of reach (`GL.pow`/`primitiveRoot` do not reduce by `decide`, and a real
instance needs Poseidon). The conclusion is satisfiable with a non-trivial layer: -/
example : ConsistentFrom [e0] exQ [1] 0 2 GL.multGen e0 :=
  ⟨⟨[e0, e1], []⟩, e0, rfl, rfl, rfl, trivial⟩

/-- **(1) first-wins, step maps.** For every layer `j`, a lookup for coset index `k` in the step map
of the compressed proof returns the entry (`stepKVs`: evaluation vector minus the query's own
position, compressed path) built from the FIRST query whose layer-`j` coset index is `k`. -/
theorem compress_step_first_wins (π : Fri.Proof) (idx : List Nat) (p : FriParams)
    (cp : CompressedFriProof) (h : Compress.compress π idx p = some cp) (j : Nat)
    (hj : j < p.arityBits.length) :
    ∃ m, cp.rounds.steps[j]? = some m ∧
      ∀ k, lookupKey m k = ((stepKVs π idx p j).find? (·.1 == k)).map (·.2) :=
  compress_step_lookup π idx p cp h j hj

/-- **(3)** `fri_combine_initial` depends only on the leaf parts of the initial-tree openings -/
theorem combineInitial_reads_leaves (inst : Instance) (initial initial' : List (List GL × List Digest))
    (alpha : GL2) (x : GL) (red : List GL2) (p : FriParams)
    (h : initial.map Prod.fst = initial'.map Prod.fst) :
    combineInitial inst initial alpha x red p = combineInitial inst initial' alpha x red p :=
  combineInitial_congr inst initial initial' alpha x red p h

/-- **(2) evaluation part of the round trip.** From `compress π idx p = some cp`, the decidable
shape predicate `WF π idx p` and the consistency of every query round: `get_inferred_elements`
succeeds on `cp`, and the first loop of `decompress` returns one record per query (`rebuiltOf`). -/
theorem inferred_and_rebuilt (π : Fri.Proof) (idx : List Nat) (p : FriParams) (cp : CompressedFriProof)
    (hc : Compress.compress π idx p = some cp) (hwf : WF π idx p)
    (inst : Instance) (ch : Challenges) (openings : List (List GL2)) (hidx : ch.queryIndices = idx)
    (numInitial : Nat) (hnum : ∀ q ∈ π.queries, q.initial.length = numInitial)
    (hcons : ∀ xq ∈ idx.zip π.queries,
      Consistent inst ch (openings.map fun vals => reduceExt vals ch.alpha) p xq.1 xq.2) :
    ∃ inferred, inferredElements cp ch openings inst p = some inferred ∧
      rebuildAll cp p numInitial idx (List.replicate p.arityBits.length []) inferred
        = some ((idx.zip π.queries).map (rebuiltOf π idx p cp)) := by
  have hidxeq := hwf.map_fst
  have hgetD : ∀ {α : Type} (n j : Nat), (List.replicate n ([] : List α)).getD j [] = [] := by
    intro α n j
    rw [List.getD_eq_getElem?_getD, List.getElem?_replicate]
    split <;> rfl
  have hs : SeenIs p.arityBits [] (List.replicate p.arityBits.length []) := by
    refine ⟨by simp, fun j _ c => ?_⟩
    rw [hgetD]; simp
  have hinv : StateInv (Etrue π idx p) (List.replicate p.arityBits.length [])
      (List.replicate p.arityBits.length []) := by
    refine ⟨by simp [keys], fun i c ev h => ?_⟩
    rw [hgetD] at h; cases h
  obtain ⟨vals, sfin, f1, f2⟩ := glue_queries π idx p cp hc hwf inst ch _ numInitial hnum hcons
    (idx.zip π.queries) [] _ _ [] (by simp) hs hinv
  rw [hidxeq] at f1 f2
  refine ⟨vals, ?_, ?_⟩
  · unfold inferredElements
    simp only [hidx, f1, Option.bind_eq_bind, Option.bind_some, Option.pure_def, List.nil_append]
  · have := f2 []
    rwa [List.append_nil] at this

/-- … and the records carry exactly the evaluation vectors of `π`, at the right coset indices -/
theorem rebuilt_evals (π : Fri.Proof) (idx : List Nat) (p : FriParams) (cp : CompressedFriProof)
    (hwf : WF π idx p) (x : Nat) (q : QueryRound) (hm : (x, q) ∈ idx.zip π.queries)
    (j : Nat) (hj : j < p.arityBits.length) :
    ((rebuiltOf π idx p cp (x, q)).steps.getD j default).1 = idxAt p.arityBits x (j + 1) ∧
    ((rebuiltOf π idx p cp (x, q)).steps.getD j default).2.1 = (q.steps.getD j default).evals := by
  have h := expectedFrom_eq (Etrue π idx p) (Mstored π idx p) p.arityBits x p.arityBits 0 rfl
  have hx : idxAt p.arityBits x 0 = x := rfl
  rw [hx] at h
  simp only [rebuiltOf, h, Nat.sub_zero, List.getD_eq_getElem?_getD, List.getElem?_map,
    List.getElem?_range' (by omega : j < p.arityBits.length), Option.map_some, Option.getD_some,
    Nat.zero_add, Nat.one_mul]
  exact ⟨trivial, Etrue_eq hwf hm hj⟩

/-- the same with acceptance as the source of consistency -/
theorem inferred_and_rebuilt_of_accept (π : Fri.Proof) (idx : List Nat) (p : FriParams)
    (cp : CompressedFriProof) (hc : Compress.compress π idx p = some cp) (hwf : WF π idx p)
    (inst : Instance) (ch : Challenges) (openings : List (List GL2)) (caps : List (List Digest))
    (hidx : ch.queryIndices = idx) (numInitial : Nat)
    (hnum : ∀ q ∈ π.queries, q.initial.length = numInitial)
    (hacc : Fri.verify inst openings ch caps π p = .accept) :
    ∃ inferred, inferredElements cp ch openings inst p = some inferred ∧
      rebuildAll cp p numInitial idx (List.replicate p.arityBits.length []) inferred
        = some ((idx.zip π.queries).map (rebuiltOf π idx p cp)) :=
  inferred_and_rebuilt π idx p cp hc hwf inst ch openings hidx numInitial hnum
    (hidx ▸ consistent_of_accept inst openings ch caps π p hacc)

/-- **(4) Merkle paths, general.** `decompress_merkle_proofs` on FIRST-WINS compressed proofs: `ws`
agrees with `compress_merkle_proofs` at every position whose index did not occur earlier and is
arbitrary elsewhere (in a compressed FRI proof: the first query's stream); against an honest tree
(`node`, `leafAt`) the honest proofs come back. Generalises `merkle_roundtrip_node`. -/
theorem merkle_roundtrip_first_wins {L D : Type} (h : Hasher L D) (height capHeight : Nat)
    (hc : capHeight ≤ height) (leafAt : Nat → L) (node : Nat → D)
    (hleaf : ∀ i, i < 2 ^ height → node (i + 2 ^ height) = h.hashLeaf (leafAt i))
    (hnode : ∀ x, 1 ≤ x → x < 2 ^ height → node x = h.two (node (2 * x)) (node (2 * x + 1)))
    (is : List Nat) (his : ∀ i ∈ is, i < 2 ^ height) (ws : List (List D)) (hl : ws.length = is.length)
    (hws : ∀ a (_ : a < is.length), is[a] ∉ is.take a →
      ws[a]? = (PathCompression.compress height capHeight is
        (is.map (P2.Lemmas.PathCompression.honest node height capHeight)))[a]?) :
    PathCompression.decompress h (is.map leafAt) is ws height capHeight
      = some (is.map (P2.Lemmas.PathCompression.honest node height capHeight)) :=
  roundtrip_firstwins h height capHeight leafAt node hleaf hnode is his ws hl hws

theorem getD_fst {α β : Type} (l : List (α × β)) (t : Nat) (d : α × β) :
    (l.getD t d).1 = (l.map Prod.fst).getD t d.1 := by
  simp only [List.getD_eq_getElem?_getD, List.getElem?_map]
  cases l[t]? <;> rfl

/-- on honest openings of one tree, `compress` stores for initial tree `t` the compressed honest
paths -/
theorem initialCompressed_honest (π : Fri.Proof) (idx : List Nat) (p : FriParams) (t : Nat)
    (node : Nat → Digest) (H : Nat) (hH : p.config.capHeight ≤ H) (hne : idx ≠ [])
    (hfst : (idx.zip π.queries).map (·.1) = idx)
    (hq : ((idx.zip π.queries).map fun xq => (xq.2.initial.getD t ([], [])).2)
      = idx.map (P2.Lemmas.PathCompression.honest node H p.config.capHeight)) :
    initialCompressed π idx p t = PathCompression.compress H p.config.capHeight idx
      (idx.map (P2.Lemmas.PathCompression.honest node H p.config.capHeight)) := by
  unfold initialCompressed
  simp only []
  rw [hfst, hq]
  obtain ⟨x0, rest, rfl⟩ := List.exists_cons_of_ne_nil hne
  rw [List.map_cons, List.headD_cons, P2.Lemmas.PathCompression.honest_length,
    Nat.add_sub_of_le hH]

/-- **(4a) Merkle paths of initial tree `t` inside `decompress`**: if the `t`-th openings of all
queries are the honest openings of one tree (`∃ node leafAt` in the statement of the closed
theorem), the path decompression of `decompressFri` for that tree returns the paths of `π`. -/
theorem initial_tree_paths_roundtrip (π : Fri.Proof) (idx : List Nat) (p : FriParams)
    (cp : CompressedFriProof) (hc : Compress.compress π idx p = some cp) (hwf : WF π idx p)
    (numInitial : Nat) (hnum : ∀ q ∈ π.queries, q.initial.length = numInitial) (t : Nat)
    (ht : t < numInitial) (hcap : p.config.capHeight ≤ p.ldeBits) (hidx : ∀ x ∈ idx, x < 2 ^ p.ldeBits)
    (leafAt : Nat → List GL) (node : Nat → Digest)
    (hleaf : ∀ i, i < 2 ^ p.ldeBits → node (i + 2 ^ p.ldeBits) = digestHasher.hashLeaf (leafAt i))
    (hnode : ∀ x, 1 ≤ x → x < 2 ^ p.ldeBits → node x = digestHasher.two (node (2 * x)) (node (2 * x + 1)))
    (hq : ∀ xq ∈ idx.zip π.queries, xq.2.initial.getD t ([], []) =
      (leafAt xq.1, P2.Lemmas.PathCompression.honest node p.ldeBits p.config.capHeight xq.1)) :
    decompressPaths digestHasher
      (((idx.zip π.queries).map (rebuiltOf π idx p cp)).map fun r => (r.initial.getD t default).1) idx
      (((idx.zip π.queries).map (rebuiltOf π idx p cp)).map fun r => (r.initial.getD t default).2)
      p.ldeBits p.config.capHeight
      = some ((idx.zip π.queries).map fun xq => (xq.2.initial.getD t ([], [])).2) := by
  have hidxeq : idx = (idx.zip π.queries).map Prod.fst := hwf.map_fst.symm
  have hres : ((idx.zip π.queries).map fun xq => (xq.2.initial.getD t ([], [])).2)
      = idx.map (P2.Lemmas.PathCompression.honest node p.ldeBits p.config.capHeight) := by
    conv => rhs; rw [← hwf.map_fst, List.map_map]
    exact List.map_congr_left fun xq hxq => congrArg Prod.snd (hq xq hxq)
  have hic := fun hne => initialCompressed_honest π idx p t node p.ldeBits hcap hne hwf.map_fst hres
  generalize hzdef : idx.zip π.queries = zip at *
  have hdef : (default : List GL × List Digest) = ([], []) := rfl
  unfold decompressPaths
  rw [if_neg (by omega)]
  -- leaves
  have hleaves : (zip.map (rebuiltOf π idx p cp)).map (fun r => (r.initial.getD t default).1)
      = idx.map leafAt := by
    rw [hidxeq, List.map_map, List.map_map]
    apply List.map_congr_left
    intro xq hxq
    rcases xq with ⟨x, q⟩
    obtain ⟨e, hel, _, hefst⟩ := initial_entry π idx p cp hc hwf x q (hzdef ▸ hxq)
    simp only [Function.comp, rebuiltOf, hel, Option.getD_some]
    rw [getD_fst, hefst, ← getD_fst, hdef, hq (x, q) hxq]
  rw [hleaves, hres]
  apply roundtrip_firstwins digestHasher p.ldeBits p.config.capHeight leafAt node hleaf hnode idx hidx
  · simp [hidxeq]
  · intro a h1 hnew
    have ha : a < zip.length := by rw [hidxeq] at h1; simpa using h1
    obtain ⟨q0, hq0, hl⟩ := compress_initial_lookup π idx p cp hc
    have hq0m : q0 ∈ π.queries := List.mem_of_getElem? hq0
    have hn0 : q0.initial.length = numInitial := hnum q0 hq0m
    have hat := lookupKey_zipIdx_at (fun (a : Nat × QueryRound) => a.1)
      (iniVal π idx p q0.initial.length) zip a ha (by
        have : zip.map (fun a => a.1) = idx := hidxeq.symm
        simp only [this]; exact hnew)
    have hkv := initKVs_eq π idx p q0.initial.length
    rw [hzdef] at hkv
    rw [← hkv, ← hl] at hat
    rw [List.getElem?_map, List.getElem?_map, List.getElem?_eq_getElem ha]
    simp only [Option.map_some, rebuiltOf, hat, Option.getD_some]
    have hic := hic fun h => by rw [h] at h1; exact Nat.not_lt_zero _ h1
    have hlenC : a < (PathCompression.compress p.ldeBits p.config.capHeight idx
        (idx.map (P2.Lemmas.PathCompression.honest node p.ldeBits p.config.capHeight))).length := by
      rw [P2.Lemmas.PathCompression.compress_honest_length node _ _ idx hidx]; exact h1
    rw [List.getElem?_eq_getElem hlenC]
    congr 1
    simp only [iniVal, hn0]
    rw [hdef, List.getD_eq_getElem?_getD, List.getElem?_map, List.getElem?_range ht]
    simp only [Option.map_some, Option.getD_some, hic]
    rw [List.getD_eq_getElem?_getD, List.getElem?_eq_getElem hlenC]
    rfl

/-- `WF` is decidable; a two-query instance with a shared coset satisfies it -/
example : WF ⟨[], [exQ, exQ], [], GL.ofNat 0⟩ [2, 3] ⟨⟨0, 0, 0, .fixed [1], 2⟩, false, 2, [1]⟩ := by
  decide

open P2.Plonk P2.Codec

/-- `FriProof::compress` keeps the parts of the FRI proof that enter the transcript -/
theorem compress_keeps_transcript_parts (π : Fri.Proof) (idx : List Nat) (p : FriParams)
    (cfp : CompressedFriProof) (h : Compress.compress π idx p = some cfp) :
    cfp.commitCaps = π.commitCaps ∧ cfp.finalPoly = π.finalPoly ∧ cfp.powWitness = π.powWitness ∧
      cfp.rounds.indices = idx := by
  obtain ⟨_, _, _, _, h⟩ := compress_eq π idx p cfp h
  exact h

/-- `get_challenges` reads the caps, the openings, and of the FRI proof only the commit-phase
caps, the final polynomial and the PoW witness -/
theorem getChallenges_congr (c : CommonData) (pih d : Digest) (p1 p2 : Plonk.Proof)
    (h1 : p1.wiresCap = p2.wiresCap) (h2 : p1.zsPartialProductsCap = p2.zsPartialProductsCap)
    (h3 : p1.quotientPolysCap = p2.quotientPolysCap) (h4 : p1.openings = p2.openings)
    (h5 : p1.openingProof.commitCaps = p2.openingProof.commitCaps)
    (h6 : p1.openingProof.finalPoly = p2.openingProof.finalPoly)
    (h7 : p1.openingProof.powWitness = p2.openingProof.powWitness) :
    getChallenges c pih d p1 = getChallenges c pih d p2 := by
  unfold getChallenges plonkSchedule friSchedule
  rw [h1, h2, h3, h4, h5, h6, h7]

/-- **the Fiat–Shamir challenges of a proof and of its compressed form coincide** -/
theorem challenges_of_compressed (c : CommonData) (d : Digest) (pp : ProofWithPis)
    (cpp : CompressedProofWithPis) (h : compressProof c d pp = some cpp) :
    cpp.publicInputs = pp.publicInputs ∧
    getChallenges c (publicInputsHash cpp.publicInputs) d (challengeView cpp.proof)
      = getChallenges c (publicInputsHash pp.publicInputs) d pp.proof := by
  unfold compressProof at h
  simp only [Option.bind_eq_bind, Option.pure_def] at h
  cases hc : Compress.compress pp.proof.openingProof
      (getChallenges c (publicInputsHash pp.publicInputs) d pp.proof).fri.queryIndices c.friParams with
  | none => simp [hc] at h
  | some cfp =>
    simp only [hc, Option.bind_some, Option.some.injEq] at h
    subst h
    obtain ⟨k1, k2, k3, _⟩ := compress_keeps_transcript_parts _ _ _ _ hc
    refine ⟨rfl, ?_⟩
    apply getChallenges_congr <;> simp [challengeView, k1, k2, k3]

/-- **(c), conditional.** For a proof `pp` accepted by the PLONK verifier, IF decompressing its
compressed form (with the challenges of the transcript) returns `pp`'s proof — the conclusion of
the round trip (a) — THEN `verify_compressed` accepts the compressed form. (Since the repair of F-C16-1 the decompressed proof's shape is validated; the
challenge derivation and decompression themselves still run on unvalidated data, F-C18-2.) -/
theorem verifyCompressed_of_roundtrip (c : CommonData) (vd : VerifierOnly) (pp : ProofWithPis)
    (cpp : CompressedProofWithPis)
    (hacc : Plonk.verify c vd pp = .accept)
    (hcomp : compressProof c vd.circuitDigest pp = some cpp)
    (hround : decompressWith c (getChallenges c (publicInputsHash pp.publicInputs) vd.circuitDigest pp.proof)
      cpp.proof = some pp.proof) :
    verifyCompressed c vd cpp = .accept := by
  obtain ⟨hpis, hch⟩ := challenges_of_compressed c vd.circuitDigest pp cpp hcomp
  unfold Plonk.verify at hacc
  cases hs : Plonk.validateShape c pp with
  | reject s => simp [hs] at hacc
  | panic s => simp [hs] at hacc
  | accept =>
    simp only [hs] at hacc
    obtain ⟨_, _, _, _, _, _, _, _, _, _, _, _, hlen⟩ := P2.Props.C03.shape_accept_lengths c pp hs
    unfold verifyCompressed
    simp only []
    rw [hch, hpis, if_neg (by simp [hlen]), hround]
    have hs' : Plonk.validateShape c ⟨pp.proof, pp.publicInputs⟩ = .accept := hs
    simp only [hs']
    exact hacc

/-- **F-C16-1 as repaired**: whatever compressed proof is presented, acceptance by `verify_compressed`
implies that the DECOMPRESSED proof passed the full shape validation of the plain verifier (all opening
lists have the lengths the circuit dictates — in particular one chunk of quotient openings per
challenge) and was accepted by `verify_with_challenges` under the challenges of the compressed
transcript. Before the repair the shape conjunct was absent, and with no quotient openings the
identity check was vacuous. -/
theorem verifyCompressed_accept_imp (c : CommonData) (vd : VerifierOnly) (cpp : CompressedProofWithPis)
    (h : verifyCompressed c vd cpp = .accept) :
    cpp.publicInputs.length = c.numPublicInputs ∧
    ∃ proof, decompressWith c (getChallenges c (publicInputsHash cpp.publicInputs) vd.circuitDigest
        (challengeView cpp.proof)) cpp.proof = some proof ∧
      Plonk.validateShape c ⟨proof, cpp.publicInputs⟩ = .accept ∧
      verifyWithChallenges c vd proof (publicInputsHash cpp.publicInputs)
        (getChallenges c (publicInputsHash cpp.publicInputs) vd.circuitDigest (challengeView cpp.proof)) = .accept := by
  unfold verifyCompressed at h
  split at h
  · cases h
  rename_i hl
  refine ⟨Decidable.not_not.mp hl, ?_⟩
  simp only [] at h
  split at h
  · cases h
  rename_i proof hd
  split at h
  · rename_i hs
    exact ⟨proof, hd, hs, h⟩
  · rename_i hs
    exact absurd h hs

/-- a compressed proof whose decompressed form is mis-shaped (e.g. no quotient openings) is never
accepted -/
theorem verifyCompressed_rejects_bad_shape (c : CommonData) (vd : VerifierOnly) (cpp : CompressedProofWithPis)
    (proof : Plonk.Proof)
    (hd : decompressWith c (getChallenges c (publicInputsHash cpp.publicInputs) vd.circuitDigest
        (challengeView cpp.proof)) cpp.proof = some proof)
    (hs : Plonk.validateShape c ⟨proof, cpp.publicInputs⟩ ≠ .accept) :
    verifyCompressed c vd cpp ≠ .accept := by
  intro h
  obtain ⟨_, proof', hd', hs', _⟩ := verifyCompressed_accept_imp c vd cpp h
  rw [hd] at hd'
  cases hd'
  exact hs hs'

end P2.Props.C16
