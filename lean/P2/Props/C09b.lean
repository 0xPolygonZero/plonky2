/-
C09 (general theorems over an arbitrary field `K`): the algebra of the STARK vanishing-polynomial
check, with the model's operations instantiated through `FOps.ofField K`.

 A. the `ConstraintConsumer` is Horner in `α` from the left: accumulator `i` is
    `Σ_j c_j · α_i^(n−1−j)` (= `reduce_with_powers` of the REVERSED constraint list), hence a
    constraint list with a non-zero value is annihilated by at most `n − 1` values of `α`;
 B. `eval_l_0_and_l_last`: the two Lagrange values and `z_last`, through a field-generic twin
    `evalL0LLastK` of the model's `P2.Stark.evalL0LLast` (which is fixed to `GL2`), and the link
    between the two.
-/
import P2.Lemmas.StarkAlg
import Mathlib.Algebra.Field.Rat
import Mathlib.Algebra.Order.Ring.Rat
namespace P2.Props.C09b
open P2 P2.Air P2.PlonkAlg P2.Lemmas.StarkAlg

variable {K : Type} [Field K] [DecidableEq K]

/-! ## A. the α-combination of the consumer -/

/-- `acc ← acc·α + c` over `cs`, from 0, is `reduce_with_powers` of the reversed list -/
theorem horner_eq_reduce (cs : List K) (α : K) :
    cs.foldl (fun acc c => acc * α + c) (0 : K)
      = @reduceWithPowers K (FOps.ofField K) cs.reverse α :=
  @horner_eq_reduce_generic K (FOps.ofField K) cs α

/-- the same with `FOps.reduceWithPowers` (of which `PlonkAlg.reduceWithPowers` is a synonym) -/
theorem horner_eq_reduce' (cs : List K) (α : K) :
    cs.foldl (fun acc c => acc * α + c) (0 : K)
      = @FOps.reduceWithPowers K (FOps.ofField K) cs.reverse α :=
  horner_eq_reduce cs α

omit [DecidableEq K] in
theorem getD_reverse (cs : List K) (j : Nat) (hj : j < cs.length) :
    cs.reverse.getD (cs.length - 1 - j) 0 = cs.getD j 0 := by
  rw [List.getD_eq_getElem?_getD, List.getD_eq_getElem?_getD,
    List.getElem?_reverse (Nat.lt_of_le_of_lt (Nat.sub_le _ _) (Nat.sub_lt (Nat.zero_lt_of_lt hj)
      Nat.one_pos)), Nat.sub_sub_self (Nat.le_sub_one_of_lt hj)]

theorem horner_eq_sum_range (cs : List K) (α : K) :
    cs.foldl (fun acc c => acc * α + c) (0 : K)
      = ∑ i ∈ Finset.range cs.length, cs.getD i 0 * α ^ (cs.length - 1 - i) := by
  rw [horner_eq_reduce, Lemmas.PlonkAlg.reduce_eq_sum_range, List.length_reverse,
    ← Finset.sum_range_reflect]
  exact Finset.sum_congr rfl fun j hj => by rw [getD_reverse cs j (Finset.mem_range.1 hj)]

/-- the first constraint emitted gets the highest power of `α` -/
theorem horner_eq_sum (cs : List K) (α : K) :
    cs.foldl (fun acc c => acc * α + c) (0 : K)
      = ∑ i : Fin cs.length, cs[i] * α ^ (cs.length - 1 - (i : Nat)) := by
  rw [horner_eq_sum_range,
    ← Fin.sum_univ_eq_sum_range (fun i => cs.getD i 0 * α ^ (cs.length - 1 - i))]
  exact Finset.sum_congr rfl fun i _ => by rw [← List.getElem_eq_getD (h := i.2) 0]; rfl

omit [DecidableEq K] in
theorem exists_mem_reverse {cs : List K} (h : ∃ c ∈ cs, c ≠ 0) : ∃ c ∈ cs.reverse, c ≠ 0 :=
  h.imp fun _ hc => ⟨List.mem_reverse.2 hc.1, hc.2⟩

/-- Schwartz–Zippel for one accumulator: if some constraint value is non-zero, at most
`length − 1` values of `α` make the accumulator vanish -/
theorem consumer_acc_zero_set (cs : List K) (h : ∃ c ∈ cs, c ≠ 0) :
    {α : K | cs.foldl (fun acc c => acc * α + c) (0 : K) = 0}.Finite ∧
    {α : K | cs.foldl (fun acc c => acc * α + c) (0 : K) = 0}.ncard ≤ cs.length - 1 := by
  have := Lemmas.PlonkAlg.reduce_zero_set cs.reverse (exists_mem_reverse h)
  rw [List.length_reverse] at this
  simpa only [horner_eq_reduce] using this

theorem consumer_acc_zeros_card (cs : List K) (h : ∃ c ∈ cs, c ≠ 0) (S : Finset K)
    (hS : ∀ α ∈ S, cs.foldl (fun acc c => acc * α + c) (0 : K) = 0) :
    S.card ≤ cs.length - 1 := by
  have := Lemmas.PlonkAlg.reduce_zeros_card cs.reverse (exists_mem_reverse h) S
    (fun α hα => by rw [← horner_eq_reduce]; exact hS α hα)
  rwa [List.length_reverse] at this

/-- contrapositive: vanishing for `cs.length` distinct `α` forces every constraint value to be 0 -/
theorem consumer_terms_zero_of_many_zeros (cs : List K) (S : Finset K)
    (hcard : cs.length ≤ S.card)
    (hS : ∀ α ∈ S, cs.foldl (fun acc c => acc * α + c) (0 : K) = 0) :
    ∀ c ∈ cs, c = 0 := fun c hc =>
  Lemmas.PlonkAlg.reduce_terms_zero_of_many_zeros cs.reverse S (by rwa [List.length_reverse])
    (fun α hα => by rw [← horner_eq_reduce]; exact hS α hα) c (List.mem_reverse.2 hc)

/-- completeness: all constraint values zero ⇒ the accumulator is zero for every `α` -/
theorem consumer_acc_of_all_zero (cs : List K) (h : ∀ c ∈ cs, c = 0) (α : K) :
    cs.foldl (fun acc c => acc * α + c) (0 : K) = 0 := by
  rw [horner_eq_reduce]
  exact Lemmas.PlonkAlg.reduce_of_all_zero cs.reverse (fun t ht => h t (List.mem_reverse.1 ht)) α

/-- on the model's consumer: after `constraint` has been called with the values `cs`, the
accumulator of `α` is `Σ_i cs[i]·α^(n−1−i)` -/
theorem consumer_accs_eq_sum (alphas : List K) (z l0 ll : K) (cs : List K) :
    (cs.foldl (@Consumer.constraint K (FOps.ofField K))
        (@Consumer.new K (FOps.ofField K) alphas z l0 ll)).accs
      = alphas.map fun α => ∑ i : Fin cs.length, cs[i] * α ^ (cs.length - 1 - (i : Nat)) := by
  rw [consumer_accs_field]
  exact List.map_congr_left fun α _ => horner_eq_sum cs α

theorem consumer_accs_eq_reduce (alphas : List K) (z l0 ll : K) (cs : List K) :
    (cs.foldl (@Consumer.constraint K (FOps.ofField K))
        (@Consumer.new K (FOps.ofField K) alphas z l0 ll)).accs
      = alphas.map fun α => @reduceWithPowers K (FOps.ofField K) cs.reverse α := by
  rw [consumer_accs_field]
  exact List.map_congr_left fun α _ => horner_eq_reduce cs α

/-- if all accumulators are zero and the challenges contain at least `cs.length` distinct values,
every constraint value is zero -/
theorem consumer_all_zero_of_many_alphas (alphas : List K) (z l0 ll : K) (cs : List K)
    (hcard : cs.length ≤ alphas.toFinset.card)
    (h : ∀ a ∈ (cs.foldl (@Consumer.constraint K (FOps.ofField K))
        (@Consumer.new K (FOps.ofField K) alphas z l0 ll)).accs, a = 0) :
    ∀ c ∈ cs, c = 0 := by
  rw [consumer_accs_field] at h
  apply consumer_terms_zero_of_many_zeros cs alphas.toFinset hcard
  intro α hα
  exact h _ (List.mem_map.2 ⟨α, List.mem_toFinset.1 hα, rfl⟩)

/-- for ONE challenge `α` and a non-zero constraint list: the accumulator vanishes only for `α` in
a set of at most `cs.length − 1` elements (the soundness error of the α-combination is
`(cs.length − 1)/|K|` per challenge) -/
theorem consumer_acc_zero_mem (alphas : List K) (z l0 ll : K) (cs : List K)
    (hne : ∃ c ∈ cs, c ≠ 0)
    (h : ∀ a ∈ (cs.foldl (@Consumer.constraint K (FOps.ofField K))
        (@Consumer.new K (FOps.ofField K) alphas z l0 ll)).accs, a = 0) :
    ∃ B : Finset K, B.card ≤ cs.length - 1 ∧ ∀ α ∈ alphas, α ∈ B := by
  rw [consumer_accs_field] at h
  obtain ⟨hfin, hcard⟩ := consumer_acc_zero_set cs hne
  refine ⟨hfin.toFinset, ?_, ?_⟩
  · rwa [← Set.ncard_eq_toFinset_card _ hfin]
  · intro α hα
    rw [Set.Finite.mem_toFinset]
    exact h _ (List.mem_map.2 ⟨α, hα, rfl⟩)

/-- the interpreted AIR's `eval_packed_generic`: every constraint value is multiplied by the
weight of its kind (`lagrange_first`, `lagrange_last`, `z_last`, or nothing) and the accumulator
of `α` is the Horner combination of these products -/
theorem evalConstraints_accs (a : Air) (lv nv pis : Array K) (alphas : List K) (z l0 ll : K) :
    (@Air.evalConstraints K (FOps.ofField K) a lv nv pis
        (@Consumer.new K (FOps.ofField K) alphas z l0 ll)).accs
      = alphas.map fun α =>
          (a.constraints.map fun p =>
            @weigh K (FOps.ofField K) z l0 ll p.1
              (@Expr.eval K (FOps.ofField K) lv nv pis p.2)).foldl
            (fun acc c => acc * α + c) (0 : K) := by
  rw [@evalConstraints_eq K (FOps.ofField K)]
  exact consumer_accs_field alphas z l0 ll _

example : [1, 2, 3].foldl (fun acc c => acc * (2 : ℚ) + c) 0 = 11 := by
  norm_num [horner_eq_sum_range, Finset.sum_range_succ]
example : ([1, 2, 3].foldl (@Consumer.constraint ℚ (FOps.ofField ℚ))
    (@Consumer.new ℚ (FOps.ofField ℚ) [2, 10] 0 0 0)).accs = [11, 123] := by
  rw [consumer_accs_field]
  norm_num
/-- `x² − 3x + 2` vanishes at 1 and 2: two zeros for three terms, not three -/
example : ∀ α ∈ ({1, 2} : Finset ℚ), [1, -3, 2].foldl (fun acc c => acc * α + c) (0 : ℚ) = 0 := by
  intro α hα
  simp only [Finset.mem_insert, Finset.mem_singleton] at hα
  rcases hα with rfl | rfl <;> norm_num
example : ({1, 2} : Finset ℚ).card ≤ [(1 : ℚ), -3, 2].length - 1 :=
  consumer_acc_zeros_card [1, -3, 2] ⟨1, by simp, by norm_num⟩ {1, 2} (by
    intro α hα
    simp only [Finset.mem_insert, Finset.mem_singleton] at hα
    rcases hα with rfl | rfl <;> norm_num)
/-- hypotheses of `consumer_all_zero_of_many_alphas` are satisfiable -/
example : ∀ c ∈ [(0 : ℚ), 0], c = 0 :=
  consumer_all_zero_of_many_alphas [5, 7] 0 0 0 [0, 0] (by decide) (by
    rw [consumer_accs_field]; norm_num)

example : {α : ℚ | [1, -3, 2].foldl (fun acc c => acc * α + c) (0 : ℚ) = 0}.ncard ≤ 2 :=
  (consumer_acc_zero_set [1, -3, 2] ⟨1, by simp, by norm_num⟩).2
example : ∃ B : Finset ℚ, B.card ≤ 2 ∧ ∀ α ∈ [(1 : ℚ), 2], α ∈ B :=
  consumer_acc_zero_mem [1, 2] 0 0 0 [1, -3, 2] ⟨1, by simp, by norm_num⟩ (by
    rw [consumer_accs_field]; norm_num)
example : ∀ c ∈ [(0 : ℚ), 0], c = 0 :=
  consumer_terms_zero_of_many_zeros [0, 0] {5, 7} (by decide) (by
    intro α _; norm_num)

/-! ## B. `eval_l_0_and_l_last` -/

/-- the twin over a field, in Mathlib notation -/
theorem evalL0LLastK_eq (N : Nat) (ω x : K) :
    @evalL0LLastK K (FOps.ofField K) (N : K) ω N x
      = ((x ^ N - 1) * ((N : K) * (x - 1))⁻¹, (x ^ N - 1) * ((N : K) * (ω * x - 1))⁻¹,
          x - ω⁻¹) := by
  unfold evalL0LLastK
  rw [Lemmas.C15.pow_eq]
  rfl

theorem fopsPow_eq (x : K) (e : Nat) : @FOps.pow K (FOps.ofField K) x e = x ^ e :=
  Lemmas.C15.pow_eq x e

/-- off the point 1: `L_0(x) · N · (x − 1) = x^N − 1` -/
theorem l0_mul (N : Nat) (hN : (N : K) ≠ 0) (ω x : K) (hx : x ≠ 1) :
    (@evalL0LLastK K (FOps.ofField K) (N : K) ω N x).1 * ((N : K) * (x - 1)) = x ^ N - 1 := by
  rw [evalL0LLastK_eq]
  exact inv_mul_cancel_right₀ (mul_ne_zero hN (sub_ne_zero.2 hx)) _

/-- the FORMULA vanishes at every `N`-th root of unity — including `x = 1`, where the true `L_0`
is 1: there the denominator is zero, and the model (like the code) refuses to evaluate -/
theorem l0_of_pow_eq_one (N : Nat) (ω x : K) (hxn : x ^ N = 1) :
    (@evalL0LLastK K (FOps.ofField K) (N : K) ω N x).1 = 0 := by
  rw [evalL0LLastK_eq]
  show (x ^ N - 1) * _ = 0
  rw [hxn, sub_self, zero_mul]

/-- off the point 1 it is `eval_l_0` of PLONK (C02b `evalL0_root`: the indicator of the first row
on the subgroup) -/
theorem l0_eq_evalL0 (N : Nat) (ω x : K) (hx : x ≠ 1) :
    (@evalL0LLastK K (FOps.ofField K) (N : K) ω N x).1 = @evalL0 K (FOps.ofField K) N x := by
  rw [evalL0LLastK_eq, Lemmas.PlonkAlg.evalL0_eq, if_neg hx]

/-- off the point 1 it is the polynomial `(1/N)·Σ_{j<N} x^j`, … -/
theorem l0_eq_geom (N : Nat) (ω x : K) (hx : x ≠ 1) :
    (@evalL0LLastK K (FOps.ofField K) (N : K) ω N x).1
      = (N : K)⁻¹ * ∑ j ∈ Finset.range N, x ^ j := by
  rw [evalL0LLastK_eq]
  show (x ^ N - 1) * ((N : K) * (x - 1))⁻¹ = _
  rw [← geom_sum_mul, mul_inv, mul_comm (N : K)⁻¹, ← mul_assoc,
    mul_inv_cancel_right₀ (sub_ne_zero.2 hx), mul_comm]

omit [DecidableEq K] in
/-- … whose value at 1 is 1 -/
theorem l0_poly_at_one (N : Nat) (hN : (N : K) ≠ 0) :
    (N : K)⁻¹ * ∑ j ∈ Finset.range N, (1 : K) ^ j = 1 := by
  rw [Finset.sum_congr rfl fun j _ => one_pow j, Finset.sum_const, Finset.card_range, nsmul_eq_mul,
    mul_one, inv_mul_cancel₀ hN]

/-- `L_last(x) = L_0(ω·x)` (formula level), for `ω^N = 1` -/
theorem lLast_eq_l0 (N : Nat) (ω x : K) (hω : ω ^ N = 1) :
    (@evalL0LLastK K (FOps.ofField K) (N : K) ω N x).2.1
      = (@evalL0LLastK K (FOps.ofField K) (N : K) ω N (ω * x)).1 := by
  rw [evalL0LLastK_eq, evalL0LLastK_eq, mul_pow, hω, one_mul]

/-- `L_last(x) · N · (ω·x − 1) = x^N − 1` off the last row's point -/
theorem lLast_mul (N : Nat) (hN : (N : K) ≠ 0) (ω x : K) (hx : ω * x ≠ 1) :
    (@evalL0LLastK K (FOps.ofField K) (N : K) ω N x).2.1 * ((N : K) * (ω * x - 1))
      = x ^ N - 1 := by
  rw [evalL0LLastK_eq]
  exact inv_mul_cancel_right₀ (mul_ne_zero hN (sub_ne_zero.2 hx)) _

/-- the formula vanishes at every `N`-th root of unity (at `x = ω⁻¹` by division by zero) -/
theorem lLast_of_pow_eq_one (N : Nat) (ω x : K) (hxn : x ^ N = 1) :
    (@evalL0LLastK K (FOps.ofField K) (N : K) ω N x).2.1 = 0 := by
  rw [evalL0LLastK_eq]
  show (x ^ N - 1) * _ = 0
  rw [hxn, sub_self, zero_mul]

/-- off the last row's point it is `eval_l_0(ω·x)`, the indicator of the last row … -/
theorem lLast_eq_evalL0 (N : Nat) (ω x : K) (hω : ω ^ N = 1) (hx : ω * x ≠ 1) :
    (@evalL0LLastK K (FOps.ofField K) (N : K) ω N x).2.1
      = @evalL0 K (FOps.ofField K) N (ω * x) := by
  rw [lLast_eq_l0 N ω x hω, l0_eq_evalL0 N ω (ω * x) hx]

/-- … on the subgroup: `eval_l_0(ω·ω^k)` is 1 on row `N − 1` and 0 elsewhere -/
theorem lLast_poly_root (N : Nat) (ω : K) (hω : IsPrimitiveRoot ω N) (k : Nat) :
    @evalL0 K (FOps.ofField K) N (ω * ω ^ k) = if (k + 1) % N = 0 then 1 else 0 := by
  rw [← pow_succ']
  exact Lemmas.PlonkAlg.evalL0_root N ω hω (k + 1)

/-- the polynomial form: `(1/N)·Σ_{j<N} (ω·x)^j` -/
theorem lLast_eq_geom (N : Nat) (ω x : K) (hω : ω ^ N = 1) (hx : ω * x ≠ 1) :
    (@evalL0LLastK K (FOps.ofField K) (N : K) ω N x).2.1
      = (N : K)⁻¹ * ∑ j ∈ Finset.range N, (ω * x) ^ j := by
  rw [lLast_eq_l0 N ω x hω, l0_eq_geom N ω (ω * x) hx]

/-- `z_last` vanishes exactly at the last row's point `ω⁻¹ = ω^(N−1)` -/
theorem zLast_eq_zero_iff (N : Nat) (hN : 0 < N) (ω x : K) (hω : IsPrimitiveRoot ω N) :
    (@evalL0LLastK K (FOps.ofField K) (N : K) ω N x).2.2 = 0 ↔ x = ω ^ (N - 1) := by
  rw [evalL0LLastK_eq, ← inv_eq_pow_pred N hN ω hω.pow_eq_one]
  exact sub_eq_zero

/-- on the subgroup: `z_last(ω^k) = 0` iff `k` is the last row (mod `N`) -/
theorem zLast_root (N : Nat) (hN : 0 < N) (ω : K) (hω : IsPrimitiveRoot ω N) (k : Nat) :
    (@evalL0LLastK K (FOps.ofField K) (N : K) ω N (ω ^ k)).2.2 = 0 ↔ (k + 1) % N = 0 := by
  rw [evalL0LLastK_eq, ← pow_eq_inv_iff N ω hω hN k]
  exact sub_eq_zero

/-! ### the model's `evalL0LLast` -/

/-- when `eval_l_0_and_l_last` returns, it returns the three expressions of the twin with
`n = 2^logN` embedded, `N = 2^logN`, multiplication by `g` being `scalar_mul`, and `g⁻¹` taken in
the base field -/
theorem evalL0LLast_ok (logN : Nat) (x : GL2) (r : GL2 × GL2 × GL2)
    (h : Stark.evalL0LLast logN x = .ok r) :
    r = ((FOps.pow x (2 ^ logN) - FOps.one) *
            FOps.inv (GL2.ofBase (GL.ofNat (2 ^ logN)) * (x - FOps.one)),
         (FOps.pow x (2 ^ logN) - FOps.one) *
            FOps.inv (GL2.ofBase (GL.ofNat (2 ^ logN)) *
              (GL2.scalarMul x (GL.primitiveRoot logN) - FOps.one)),
         x - GL2.ofBase (GL.inv (GL.primitiveRoot logN))) := by
  unfold Stark.evalL0LLast at h
  split at h
  · exact absurd h (by simp)
  · simp only [] at h
    split at h
    · exact absurd h (by simp)
    · exact (Except.ok.inj h).symm

/-- `L_0` and `L_last` are literally the twin's (at `K = GL2`, `g` embedded); `z_last` differs only
in where `g` is inverted -/
theorem evalL0LLast_eq_twin (logN : Nat) (x : GL2) (r : GL2 × GL2 × GL2)
    (h : Stark.evalL0LLast logN x = .ok r) :
    r.1 = (evalL0LLastK (GL2.ofBase (GL.ofNat (2 ^ logN))) (GL2.ofBase (GL.primitiveRoot logN))
            (2 ^ logN) x).1 ∧
    r.2.1 = (evalL0LLastK (GL2.ofBase (GL.ofNat (2 ^ logN))) (GL2.ofBase (GL.primitiveRoot logN))
            (2 ^ logN) x).2.1 ∧
    r.2.2 = x - GL2.ofBase (GL.inv (GL.primitiveRoot logN)) := by
  rw [evalL0LLast_ok logN x r h]
  refine ⟨rfl, ?_, rfl⟩
  show _ = _ * FOps.inv (_ * (GL2.ofBase (GL.primitiveRoot logN) * x - FOps.one))
  rw [← scalarMul_eq x (GL.primitiveRoot logN)]

/-- it fails (a panic in the code) exactly for `logN > 32` or a zero denominator -/
theorem evalL0LLast_error_iff (logN : Nat) (x : GL2) :
    (∃ e, Stark.evalL0LLast logN x = .error e) ↔
      logN > 32 ∨
      ((GL2.ofBase (GL.ofNat (2 ^ logN)) * (x - FOps.one)) *
        (GL2.ofBase (GL.ofNat (2 ^ logN)) *
          (GL2.scalarMul x (GL.primitiveRoot logN) - FOps.one)) == (FOps.zero : GL2)) = true := by
  unfold Stark.evalL0LLast
  split
  · next h => simp [h]
  · next h =>
    simp only []
    split
    · next h2 => simp [h2]
    · next h2 => simp [h, h2]

/-- the hypothesis of `evalL0LLast_ok` is satisfiable: `logN = 1`, `x = 2` -/
example : ∃ r, Stark.evalL0LLast 1 (⟨2, 0⟩ : GL2) = .ok r := by
  cases he : Stark.evalL0LLast 1 (⟨2, 0⟩ : GL2) with
  | ok r => exact ⟨r, rfl⟩
  | error e => exact absurd ((evalL0LLast_error_iff 1 _).1 ⟨e, he⟩) (by decide +kernel)
/-- … and so is the error case: the first row's point `x = 1` -/
example : ∃ e, Stark.evalL0LLast 1 (⟨1, 0⟩ : GL2) = .error e := by
  rw [evalL0LLast_error_iff]
  right
  decide +kernel

/-- `-1` is a primitive 2nd root of unity in ℚ: `N = 2`, rows at `1, −1` -/
theorem negOne_primitive : IsPrimitiveRoot (-1 : ℚ) 2 := by
  rw [show (2 : ℕ) = 2 ^ 1 by norm_num]; exact IsPrimitiveRoot.neg_one 0 (by norm_num)

example : (@evalL0LLastK ℚ (FOps.ofField ℚ) ((2 : ℕ) : ℚ) (-1) 2 3) = (2, -1, 4) := by
  rw [evalL0LLastK_eq]; norm_num
example : (@evalL0LLastK ℚ (FOps.ofField ℚ) ((2 : ℕ) : ℚ) (-1) 2 3).1 * (((2 : ℕ) : ℚ) * (3 - 1))
    = 3 ^ 2 - 1 := l0_mul 2 (by norm_num) (-1) 3 (by norm_num)
example : (@evalL0LLastK ℚ (FOps.ofField ℚ) ((2 : ℕ) : ℚ) (-1) 2 (-1)).1 = 0 :=
  l0_of_pow_eq_one 2 (-1) (-1) (by norm_num)
example : (@evalL0LLastK ℚ (FOps.ofField ℚ) ((2 : ℕ) : ℚ) (-1) 2 1).2.1 = 0 :=
  lLast_of_pow_eq_one 2 (-1) 1 (by norm_num)
example : (@evalL0LLastK ℚ (FOps.ofField ℚ) ((2 : ℕ) : ℚ) (-1) 2 3).2.1
    = @evalL0 ℚ (FOps.ofField ℚ) 2 (-1 * 3) :=
  lLast_eq_evalL0 2 (-1) 3 (by norm_num) (by norm_num)
example : (@evalL0LLastK ℚ (FOps.ofField ℚ) ((2 : ℕ) : ℚ) (-1) 2 (-1)).2.2 = 0 :=
  (zLast_eq_zero_iff 2 (by norm_num) (-1) (-1) negOne_primitive).2 (by norm_num)
example : @evalL0 ℚ (FOps.ofField ℚ) 2 (-1 * (-1) ^ 1) = 1 := by
  simpa using lLast_poly_root 2 (-1 : ℚ) negOne_primitive 1

end P2.Props.C09b
