/-
GL2Inst: the field-generic theorems of C05b (FRI fold / opening combination), C10b (logUp), C02b
(partial products, selector filters) and C07b (gates) INSTANTIATED at the model's own extension
field `GL2` (resp. base field `GL`), following Section 5 of `P2.Props.GL2Field`.

NO local instance is active anywhere in this file: every `+ * -` on `GL2` below is the operation of
the model's `instFOpsGL2` (`GL2.add/mul/sub`), `FOps.inv` is `GL2.inv`, `FOps.pow` the model's
square-and-multiply, `FOps.sum/prod` the model's left folds, `FOps.reduceWithPowers`/`Fri.reduceExt`
the model's Horner loop, `Poly.eval`/`Poly.divideByLinear`/`Poly.lagrangeEval` the model's list
polynomials; on `GL = Fin GLP` the operations are those of `Fin`. No statement mentions `Field`,
`FOps.ofField`, `gl2Field` or `glField`; the Mathlib field structure occurs in the proofs only (here
and in `P2.Lemmas.GL2Inst`).

Polynomials are given by coefficient lists (low degree first) and evaluated by the model's
`Poly.eval`; the FRI split `P(w) = Σ_{i<r} w^i · P_i(w^r)` of the polynomial with parts
`Ps = [P_0, …, P_{r−1}]` is `reduceWithPowers (Ps.map fun c => Poly.eval c (pow w r)) w`, and the
prover's fold `(Σ_i β^i P_i)(y)` is `reduceWithPowers (Ps.map fun c => Poly.eval c y) β`.
-/
import P2.Lemmas.GL2Inst
import P2.Props.GL2Field
import P2.Props.C10b
import P2.Props.C02b
import P2.Props.C07b
namespace P2.Props.GL2Inst
open P2 P2.Gates P2.Lemmas.C07

/-! ## (i) FRI — C05b at `K := GL2` -/

/-- C05b `fold_layer_complete` for the model's `Poly.lagrangeEval` on `GL2`: the verifier is handed
coset evaluations `ev` (natural order); if they are the values of `P`, interpolation at `β` gives
the value at `s^(2^a)` of the prover's next-layer polynomial -/
theorem lagrangeEval_fold_layer_complete (a : ℕ) (ha : a ≤ 32) (s : P2.GL) (hs : s ≠ 0)
    (Ps : List (List GL2)) (hlen : Ps.length = 2 ^ a) (β : GL2) (ev : List GL2)
    (hev : ∀ j, j < 2 ^ a → ev.getD j GL2.zero =
      FOps.reduceWithPowers (Ps.map fun c => Poly.eval c
        (FOps.pow (GL2.ofBase (s * GL.pow (GL.primitiveRoot a) j)) (2 ^ a)))
        (GL2.ofBase (s * GL.pow (GL.primitiveRoot a) j))) :
    Poly.lagrangeEval ((List.range (2 ^ a)).map fun i =>
        (GL2.ofBase (s * GL.pow (GL.primitiveRoot a) i), ev.getD i GL2.zero)) β
      = FOps.reduceWithPowers (Ps.map fun c => Poly.eval c (GL2.ofBase (GL.pow s (2 ^ a)))) β :=
  Lemmas.GL2Inst.m_fold_layer_complete a ha s hs Ps hlen β ev hev

/-- C05b `fold_identity_pow2` for the model's `Poly.lagrangeEval` on `GL2`, on the model's coset
`s·⟨g⟩`, `g = primitive_root_of_unity(a)` embedded by `GL2.ofBase`: interpolating the values of
`P = Σ_i X^i P_i(X^r)` (`r = 2^a`) on the coset and evaluating at `β` gives the fold
`(Σ_i β^i P_i)(s^r)` -/
theorem lagrangeEval_fold_identity_pow2 (a : ℕ) (ha : a ≤ 32) (s : P2.GL) (hs : s ≠ 0)
    (Ps : List (List GL2)) (hlen : Ps.length = 2 ^ a) (β : GL2) :
    Poly.lagrangeEval ((List.range (2 ^ a)).map fun j =>
        (GL2.ofBase (s * GL.pow (GL.primitiveRoot a) j),
          FOps.reduceWithPowers (Ps.map fun c => Poly.eval c
            (FOps.pow (GL2.ofBase (s * GL.pow (GL.primitiveRoot a) j)) (2 ^ a)))
            (GL2.ofBase (s * GL.pow (GL.primitiveRoot a) j)))) β
      = FOps.reduceWithPowers (Ps.map fun c => Poly.eval c (GL2.ofBase (GL.pow s (2 ^ a)))) β := by
  rw [← lagrangeEval_fold_layer_complete a ha s hs Ps hlen β _ fun j hj =>
    Lemmas.GL2Inst.getD_range_map (2 ^ a) _ GL2.zero j hj]
  congr 1
  exact List.map_congr_left fun j hj => by
    rw [Lemmas.GL2Inst.getD_range_map (2 ^ a) _ GL2.zero j (List.mem_range.1 hj)]

/-- **the FRI folding identity for the model's `Fri.computeEvaluation`** (`compute_evaluation`,
with its bit-reversal, its coset start `x·g^(arity − rev(k))` and its "β is an interpolation
point" shortcut): if the `2^ab` (bit-reversed) evaluations the verifier is handed are the values on
the coset of `P = Σ_i X^i P_i(X^arity)`, the result is `(Σ_i β^i P_i)(x^arity)` — the value of the
prover's folded polynomial at the point `GL.pow x arity` with which `Fri.stepsFrom` continues.
Holds for every `β` and every index `k` (no hypothesis `k < 2^ab`). -/
theorem computeEvaluation_fold (ab : ℕ) (hab : ab ≤ 32) (x : P2.GL) (hx : x ≠ 0) (k : ℕ)
    (Ps : List (List GL2)) (hlen : Ps.length = 2 ^ ab) (β : GL2) (evals : List GL2)
    (hev : ∀ j, j < 2 ^ ab → evals.getD (BitRev.bitrev ab j) GL2.zero =
      FOps.reduceWithPowers (Ps.map fun c => Poly.eval c
        (FOps.pow (GL2.ofBase (x * GL.pow (GL.primitiveRoot ab) (2 ^ ab - BitRev.bitrev ab k)
          * GL.pow (GL.primitiveRoot ab) j)) (2 ^ ab)))
        (GL2.ofBase (x * GL.pow (GL.primitiveRoot ab) (2 ^ ab - BitRev.bitrev ab k)
          * GL.pow (GL.primitiveRoot ab) j))) :
    Fri.computeEvaluation x k ab evals β
      = FOps.reduceWithPowers
          (Ps.map fun c => Poly.eval c (GL2.ofBase (GL.pow x (2 ^ ab)))) β :=
  Lemmas.GL2Inst.m_computeEvaluation_fold ab hab x hx k Ps hlen β evals hev

/-- **completeness of one FRI layer for the model's `Fri.computeEvaluation`, for an arbitrary
polynomial** (C05b `fold_layer_complete_any`, with the folded polynomial made explicit): `P` is
given by ONE coefficient list `c` of length `≤ d·arity`; if the verifier is handed the values of `P`
on the coset, `compute_evaluation` returns the value at `x^arity` of the polynomial of length `d`
whose `m`-th coefficient is `reduce_with_powers(c[m·arity .. (m+1)·arity], β)` — the coefficient list
the plonky2 prover computes (`coeffs.chunks_exact(arity).map(|chunk| reduce_with_powers(chunk,
beta))`). The degree bound is divided by the arity. -/
theorem computeEvaluation_fold_coeffs (ab : ℕ) (hab : ab ≤ 32) (x : P2.GL) (hx : x ≠ 0) (k : ℕ)
    (c : List GL2) (d : ℕ) (hd : 0 < d) (hc : c.length ≤ d * 2 ^ ab) (β : GL2) (evals : List GL2)
    (hev : ∀ j, j < 2 ^ ab → evals.getD (BitRev.bitrev ab j) GL2.zero =
      Poly.eval c (GL2.ofBase (x * GL.pow (GL.primitiveRoot ab) (2 ^ ab - BitRev.bitrev ab k)
        * GL.pow (GL.primitiveRoot ab) j))) :
    Fri.computeEvaluation x k ab evals β
      = Poly.eval ((List.range d).map fun m => FOps.reduceWithPowers
          ((List.range (2 ^ ab)).map fun i => c.getD (i + 2 ^ ab * m) GL2.zero) β)
          (GL2.ofBase (GL.pow x (2 ^ ab))) := by
  rw [← Lemmas.GL2Inst.m_strided_fold]
  apply computeEvaluation_fold ab hab x hx k _ (Lemmas.GL2Inst.strided_length _ d c)
  intro j hj
  rw [Lemmas.GL2Inst.m_strided_split (2 ^ ab) d c hd (Nat.two_pow_pos ab) hc]
  exact hev j hj

/-- C05b `combine_identity_lists` at `K := GL2`, in the shape of one batch of the model's
`Fri.combineInitial` (`(reduceExt evals α − reducedOpening) * FOps.inv (x − point)`): when the
reduced opening is the α-combination of the true values at `z`, the quotient is the α-combination of
the values at `x` of the quotient polynomials `Poly.divideByLinear c z` -/
theorem combine_identity_lists (cs : List (List GL2)) (α z x : GL2) (hx : x ≠ z) :
    (Fri.reduceExt (cs.map fun c => Poly.eval c x) α
        - Fri.reduceExt (cs.map fun c => Poly.eval c z) α) * FOps.inv (x - z)
      = Fri.reduceExt (cs.map fun c => Poly.eval (Poly.divideByLinear c z) x) α :=
  Lemmas.GL2Inst.m_combine_identity_lists cs α z x hx

/-- C05b `combine_soundness` at `K := GL2` (polynomials = coefficient lists `cs`, claimed openings
`vs`). Divisibility of the batched numerator `Σ α^k (F_k − v_k)` by `X − z` is expressed by its
value at `z`: the α-combination of the true values equals the α-combination of the claimed ones.
If some claimed opening is wrong, this happens for at most `n − 1` challenges `α`. -/
theorem combine_soundness (cs : List (List GL2)) (vs : List GL2) (hlen : vs.length = cs.length)
    (z : GL2) (hbad : ∃ k, k < cs.length ∧ vs.getD k GL2.zero ≠ Poly.eval (cs.getD k []) z)
    (A : Finset GL2)
    (hA : ∀ α ∈ A, Fri.reduceExt (cs.map fun c => Poly.eval c z) α = Fri.reduceExt vs α) :
    A.card ≤ cs.length - 1 :=
  Lemmas.GL2Inst.m_combine_soundness cs vs hlen z hbad A hA

/-- the same with divisibility spelled out: for every `α ∈ A` SOME coefficient list `q` satisfies
`numerator(x) = q(x)·(x − z)` for all `x ∈ GL2` -/
theorem combine_soundness_quotient (cs : List (List GL2)) (vs : List GL2)
    (hlen : vs.length = cs.length) (z : GL2)
    (hbad : ∃ k, k < cs.length ∧ vs.getD k GL2.zero ≠ Poly.eval (cs.getD k []) z)
    (A : Finset GL2)
    (hA : ∀ α ∈ A, ∃ q : List GL2, ∀ x : GL2,
      Fri.reduceExt (cs.map fun c => Poly.eval c x) α - Fri.reduceExt vs α
        = Poly.eval q x * (x - z)) :
    A.card ≤ cs.length - 1 :=
  Lemmas.GL2Inst.m_combine_soundness_quotient cs vs hlen z hbad A hA

/-! ## (ii) logUp — C10b at `K := GL2` -/

/-- C10b `helper_pair_constraint_iff`: the value `Stark.evalHelperColumns` hands to the consumer
for a chunk of two columns (`combin1 * combin0 * h - f0v * combin1 - f1v * combin0`) -/
theorem helper_pair_constraint_iff (c0 c1 h f0 f1 : GL2) :
    c1 * c0 * h - f0 * c1 - f1 * c0 = GL2.zero ↔ h * (c0 * c1) = f0 * c1 + f1 * c0 :=
  @C10b.helper_pair_constraint_iff GL2 Lemmas.GL2Field.gl2Field c0 c1 h f0 f1

/-- C10b `helper_pair_iff`: with non-vanishing denominators, the helper constraint holds iff the
helper is the sum of the two fractions (`/` is `* FOps.inv`, i.e. `GL2.inv`) -/
theorem helper_pair_iff (h f₁ f₂ x y α : GL2) (hx : x + α ≠ GL2.zero) (hy : y + α ≠ GL2.zero) :
    h * ((x + α) * (y + α)) = f₁ * (y + α) + f₂ * (x + α) ↔
      h = f₁ * FOps.inv (x + α) + f₂ * FOps.inv (y + α) :=
  @C10b.helper_pair_iff GL2 Lemmas.GL2Field.gl2Field h f₁ f₂ x y α hx hy

/-- C10b `running_constraint_iff`: the value `Stark.evalPackedLookups` hands to the consumer for
the running sum (`(nextZ - z) * twc - y`, `y = Σhelpers * twc - freq`) -/
theorem running_constraint_iff (nz z twc hs fr : GL2) :
    (nz - z) * twc - (hs * twc - fr) = GL2.zero ↔ (nz - z) * twc = hs * twc - fr :=
  @C10b.running_constraint_iff GL2 Lemmas.GL2Field.gl2Field nz z twc hs fr

/-- C10b `running_sum_telescopes`: cyclic telescoping; the sum is the model's `FOps.sum` (the left
fold `eval_packed_lookups_generic` uses for the helper sum) -/
theorem running_sum_telescopes (n : ℕ) (Z d : ℕ → GL2)
    (h : ∀ r, r < n → Z ((r + 1) % n) - Z r = d r) :
    FOps.sum ((List.range n).map d) = GL2.zero :=
  (Lemmas.GL2Inst.m_sum_range n d).trans
    (@C10b.running_sum_telescopes GL2 Lemmas.GL2Field.gl2Field n Z d h)

/-- C10b `logup_running_sum`: the running-sum constraint on every row of the cyclic domain, table
denominators non-zero ⇒ helper sums and table fractions balance -/
theorem logup_running_sum (n : ℕ) (Z hs t m : ℕ → GL2) (α : GL2)
    (ht : ∀ r, r < n → t r + α ≠ GL2.zero)
    (h : ∀ r, r < n → (Z ((r + 1) % n) - Z r) * (t r + α) = hs r * (t r + α) - m r) :
    FOps.sum ((List.range n).map fun r => hs r - m r * FOps.inv (t r + α)) = GL2.zero :=
  (Lemmas.GL2Inst.m_sum_range n _).trans
    (@C10b.logup_running_sum GL2 Lemmas.GL2Field.gl2Field n Z hs t m α ht h)

/-! ## (iii) partial products and selector filters — C02b at `K := GL2` -/

/-- C02b `checkPartialProducts_sound` for the model's `Plonk.checkPartialProducts`: if every
returned term is zero, `z(gx)·∏dens = z(x)·∏nums` (`FOps.prod` = the model's left fold) -/
theorem checkPartialProducts_sound (nums dens partials : List GL2) (zx zgx : GL2) (d : ℕ)
    (hd : 0 < d) (hlen : nums.length = dens.length)
    (hp : partials.length + 1 = (nums.length + d - 1) / d)
    (h : ∀ t ∈ Plonk.checkPartialProducts nums dens partials zx zgx d, t = GL2.zero) :
    zgx * FOps.prod dens = zx * FOps.prod nums := by
  have := @C02.checkPartialProducts_sound GL2 Lemmas.GL2Field.gl2Field _ nums dens partials zx zgx d
    hd hlen hp
  rw [← Lemmas.GL2Field.fops_GL2_eq] at this
  rw [Lemmas.GL2Inst.m_fops_prod, Lemmas.GL2Inst.m_fops_prod]
  exact this h

/-- C02b `checkPartialProducts_complete`: honest running products pass the check -/
theorem checkPartialProducts_complete (nums dens partials : List GL2) (zx zgx : GL2) (d : ℕ)
    (hd : 0 < d) (hlen : nums.length = dens.length)
    (hp : partials.length + 1 = (nums.length + d - 1) / d)
    (hne : ∀ x ∈ dens, x ≠ GL2.zero)
    (hpart : ∀ i, i < partials.length →
      partials.getD i GL2.zero = zx * FOps.prod ((List.range (i + 1)).map fun k =>
        FOps.prod ((nums.drop (k * d)).take d) * FOps.inv (FOps.prod ((dens.drop (k * d)).take d))))
    (hz : zgx = zx * FOps.prod ((List.range ((nums.length + d - 1) / d)).map fun k =>
        FOps.prod ((nums.drop (k * d)).take d) * FOps.inv (FOps.prod ((dens.drop (k * d)).take d)))) :
    ∀ t ∈ Plonk.checkPartialProducts nums dens partials zx zgx d, t = GL2.zero := by
  have := @C02.checkPartialProducts_complete GL2 Lemmas.GL2Field.gl2Field _ nums dens partials zx zgx
    d hd hlen hp hne
    (by
      intro i hi
      refine (hpart i hi).trans ?_
      rw [Lemmas.GL2Inst.m_prod_range]
      simp only [Lemmas.GL2Inst.m_fops_prod]
      rfl)
    (by
      refine hz.trans ?_
      rw [Lemmas.GL2Inst.m_prod_range]
      simp only [Lemmas.GL2Inst.m_fops_prod]
      rfl)
  rw [← Lemmas.GL2Field.fops_GL2_eq] at this
  exact this

/-- C02b `computeFilter_eq_zero_iff` for the model's `Plonk.computeFilter`; the side condition
`hinj` is discharged by `GL2Field.hinj` (characteristic `GLP > 2^32`); the selector value `j` is
the model's `GL2.ofBase (GL.ofNat j)` -/
theorem computeFilter_eq_zero_iff (lo hi row j : ℕ) (many : Bool)
    (hrow : lo ≤ row ∧ row < hi) (hhi : hi ≤ 2 ^ 32 - 1)
    (hj : (lo ≤ j ∧ j < hi) ∨ (many = true ∧ j = PlonkAlg.UNUSED_SELECTOR)) :
    Plonk.computeFilter row (lo, hi) (GL2.ofBase (GL.ofNat j)) many = GL2.zero ↔ j ≠ row := by
  have h := @C02.computeFilter_eq_zero_iff GL2 Lemmas.GL2Field.gl2Field _ lo hi row j many GL2Field.hinj hrow hhi hj
  rw [← Lemmas.GL2Field.fops_GL2_eq] at h
  exact h

/-- C02b `filters_disjoint` for the model's `Plonk.computeFilter` -/
theorem filters_disjoint (lo hi i i' : ℕ) (many : Bool)
    (hi_ : lo ≤ i ∧ i < hi) (hi' : lo ≤ i' ∧ i' < hi) (hhi : hi ≤ 2 ^ 32 - 1) (hne : i ≠ i') :
    Plonk.computeFilter i' (lo, hi) (GL2.ofBase (GL.ofNat i)) many = GL2.zero := by
  have h := @C02.filters_disjoint GL2 Lemmas.GL2Field.gl2Field _ lo hi i i' many GL2Field.hinj hi_ hi' hhi hne
  rw [← Lemmas.GL2Field.fops_GL2_eq] at h
  exact h

/-! ## (iv) gates — C07b at `K := GL` (the executable `GateKind.evalUnfiltered` on `EvalVars GL`) -/

/-- C07b `arithmetic_sat_iff` for the model's evaluator over Goldilocks -/
theorem arithmetic_sat_iff (n : ℕ) (v : EvalVars P2.GL) :
    (∀ c ∈ (GateKind.arithmetic n).evalUnfiltered v, c = 0) ↔ ∀ i, i < n →
      v.wires[4 * i + 3]! = v.wires[4 * i]! * v.wires[4 * i + 1]! * v.constants[0]!
        + v.wires[4 * i + 2]! * v.constants[1]! := by
  rw [evalGL]
  exact @C07.arithmetic_sat_iff P2.GL glField _ _ n v

/-- C07b `baseSum_sat_unique` over Goldilocks; the injectivity side condition becomes `b^l ≤ GLP` -/
theorem baseSum_sat_unique (b l s : ℕ) (hs : s < b ^ l) (hbl : b ^ l ≤ GLP)
    (v : EvalVars P2.GL) (hsat : ∀ c ∈ (GateKind.baseSum b l).evalUnfiltered v, c = 0)
    (h0 : v.wires[0]! = GL.ofNat s) :
    ∀ i, i < l → v.wires[1 + i]! = GL.ofNat ((s / b ^ i) % b) := by
  rw [evalGL] at hsat
  exact @C07.baseSum_sat_unique P2.GL glField _ _ b l s hs
    (@C07.natCast_inj_of_charP P2.GL glField _ _ GLP (ZMod.charP GLP) (b ^ l) (Or.inl hbl)) v hsat h0

/-- C07b `baseSum_pinned_sat` over Goldilocks: no single-limb replacement of a satisfying row
satisfies the gate -/
theorem baseSum_pinned_sat (b l s : ℕ) (hs : s < b ^ l) (hbl : b ^ l ≤ GLP)
    (v v' : EvalVars P2.GL) (i : ℕ) (hi : i < l) (hd : DiffersOnlyAt v v' (1 + i))
    (hsat : ∀ c ∈ (GateKind.baseSum b l).evalUnfiltered v, c = 0)
    (h0 : v.wires[0]! = GL.ofNat s) :
    ¬ ∀ c ∈ (GateKind.baseSum b l).evalUnfiltered v', c = 0 := by
  rw [evalGL] at hsat ⊢
  exact @C07.baseSum_pinned_sat P2.GL glField _ _ b l s hs
    (@C07.natCast_inj_of_charP P2.GL glField _ _ GLP (ZMod.charP GLP) (b ^ l) (Or.inl hbl)) v v' i hi hd hsat h0

/-- C07b `exponentiation_semantics` over Goldilocks, with the model's `GL.pow` -/
theorem exponentiation_semantics (n : ℕ) (hn : 1 ≤ n) (v : EvalVars P2.GL)
    (hb : ∀ i, i < n → v.wires[1 + i]! = 0 ∨ v.wires[1 + i]! = 1)
    (hs : ∀ c ∈ (GateKind.exponentiation n).evalUnfiltered v, c = 0) :
    v.wires[1 + n]! = GL.pow v.wires[0]!
      (∑ j ∈ Finset.range n, (if v.wires[1 + j]! = 1 then 1 else 0) * 2 ^ j) := by
  rw [evalGL] at hs
  rw [Lemmas.C07.gl_pow_eq]
  exact @C07.exponentiation_semantics P2.GL glField _ _ n hn v hb hs

/-! ## non-vacuity (concrete instances over `GL2` / `GL`, evaluated by the kernel) -/

section NonVacuity

/-- (i) arity 2 (`ab = 1`), `x = 3`, `P_0 = 1 + (2 + 5X)·Y`, `P_1 = 5 + X`, i.e.
`P(w) = P_0(w²) + w·P_1(w²)`: `P(3) = 34 + 48X`, `P(−3) = 4 + 42X`; `β = 7 + 2X` -/
example : Fri.computeEvaluation 3 0 1 [⟨34, 48⟩, ⟨4, 42⟩] ⟨7, 2⟩
    = FOps.reduceWithPowers (([[⟨1, 0⟩, ⟨2, 5⟩], [⟨5, 1⟩]] : List (List GL2)).map fun c =>
        Poly.eval c (GL2.ofBase (GL.pow 3 (2 ^ 1)))) ⟨7, 2⟩ :=
  computeEvaluation_fold 1 (by decide) 3 (by decide) 0 _ rfl _ _ (by decide +kernel)
/-- … and the common value -/
example : Fri.computeEvaluation 3 0 1 [⟨34, 48⟩, ⟨4, 42⟩] ⟨7, 2⟩ = ⟨68, 62⟩ := by decide +kernel
/-- the shortcut branch (`β = −3` is the second interpolation point) -/
example : Fri.computeEvaluation 3 0 1 [⟨34, 48⟩, ⟨4, 42⟩] (GL2.ofBase (GL.ofNat (GLP - 3)))
    = FOps.reduceWithPowers (([[⟨1, 0⟩, ⟨2, 5⟩], [⟨5, 1⟩]] : List (List GL2)).map fun c =>
        Poly.eval c (GL2.ofBase (GL.pow 3 (2 ^ 1)))) (GL2.ofBase (GL.ofNat (GLP - 3))) :=
  computeEvaluation_fold 1 (by decide) 3 (by decide) 0 _ rfl _ _ (by decide +kernel)
example : Fri.computeEvaluation 3 0 1 [⟨34, 48⟩, ⟨4, 42⟩] (GL2.ofBase (GL.ofNat (GLP - 3)))
    = ⟨4, 42⟩ := by decide +kernel
/-- the same polynomial as ONE coefficient list `1 + (5 + X)·W + (2 + 5X)·W²`, `d = 2`: the folded
coefficients are `[1 + (5 + X)·β, 2 + 5X]` -/
example : Fri.computeEvaluation 3 0 1 [⟨34, 48⟩, ⟨4, 42⟩] ⟨7, 2⟩
    = Poly.eval ((List.range 2).map fun m => FOps.reduceWithPowers
        ((List.range (2 ^ 1)).map fun i =>
          ([⟨1, 0⟩, ⟨5, 1⟩, ⟨2, 5⟩] : List GL2).getD (i + 2 ^ 1 * m) GL2.zero) ⟨7, 2⟩)
        (GL2.ofBase (GL.pow 3 (2 ^ 1))) :=
  computeEvaluation_fold_coeffs 1 (by decide) 3 (by decide) 0 _ 2 (by decide) (by decide) _ _
    (by decide +kernel)
example : ((List.range 2).map fun m => FOps.reduceWithPowers
    ((List.range (2 ^ 1)).map fun i =>
      ([⟨1, 0⟩, ⟨5, 1⟩, ⟨2, 5⟩] : List GL2).getD (i + 2 ^ 1 * m) GL2.zero) ⟨7, 2⟩)
    = [⟨50, 17⟩, ⟨2, 5⟩] := by decide +kernel
/-- the same data through `lagrangeEval_fold_layer_complete` (coset `3·⟨−1⟩`) -/
example : Poly.lagrangeEval ((List.range (2 ^ 1)).map fun i =>
      (GL2.ofBase (3 * GL.pow (GL.primitiveRoot 1) i),
        ([⟨34, 48⟩, ⟨4, 42⟩] : List GL2).getD i GL2.zero)) ⟨7, 2⟩
    = FOps.reduceWithPowers (([[⟨1, 0⟩, ⟨2, 5⟩], [⟨5, 1⟩]] : List (List GL2)).map fun c =>
        Poly.eval c (GL2.ofBase (GL.pow 3 (2 ^ 1)))) ⟨7, 2⟩ :=
  lagrangeEval_fold_layer_complete 1 (by decide) 3 (by decide) _ rfl _ _ (by decide +kernel)
example : Poly.lagrangeEval ((List.range (2 ^ 1)).map fun j =>
      (GL2.ofBase (3 * GL.pow (GL.primitiveRoot 1) j),
        FOps.reduceWithPowers (([[⟨1, 0⟩, ⟨2, 5⟩], [⟨5, 1⟩]] : List (List GL2)).map fun c =>
          Poly.eval c (FOps.pow (GL2.ofBase (3 * GL.pow (GL.primitiveRoot 1) j)) (2 ^ 1)))
          (GL2.ofBase (3 * GL.pow (GL.primitiveRoot 1) j)))) ⟨7, 2⟩
    = ⟨68, 62⟩ :=
  (lagrangeEval_fold_identity_pow2 1 (by decide) 3 (by decide) _ rfl _).trans (by decide +kernel)

/-- (i) combine: `F_0 = 1 + 2Y + 3Y²`, `F_1 = 4 + (5 + X)Y`, `α = 2 + X`, `z = 3`, `x = 10 + X` -/
example : (Fri.reduceExt (([[⟨1, 0⟩, ⟨2, 0⟩, ⟨3, 0⟩], [⟨4, 0⟩, ⟨5, 1⟩]] : List (List GL2)).map
        fun c => Poly.eval c ⟨10, 1⟩) ⟨2, 1⟩
      - Fri.reduceExt (([[⟨1, 0⟩, ⟨2, 0⟩, ⟨3, 0⟩], [⟨4, 0⟩, ⟨5, 1⟩]] : List (List GL2)).map
        fun c => Poly.eval c ⟨3, 0⟩) ⟨2, 1⟩) * FOps.inv ((⟨10, 1⟩ : GL2) - ⟨3, 0⟩)
    = Fri.reduceExt (([[⟨1, 0⟩, ⟨2, 0⟩, ⟨3, 0⟩], [⟨4, 0⟩, ⟨5, 1⟩]] : List (List GL2)).map
        fun c => Poly.eval (Poly.divideByLinear c ⟨3, 0⟩) ⟨10, 1⟩) ⟨2, 1⟩ :=
  combine_identity_lists _ _ _ _ (by decide)
/-- the quotients are `11 + 3Y` and `5 + X`; the combination at `x = 10 + X`, `α = 2 + X` -/
example : (([[⟨1, 0⟩, ⟨2, 0⟩, ⟨3, 0⟩], [⟨4, 0⟩, ⟨5, 1⟩]] : List (List GL2)).map
    fun c => Poly.divideByLinear c ⟨3, 0⟩) = [[⟨11, 0⟩, ⟨3, 0⟩], [⟨5, 1⟩]] := by decide +kernel
example : Fri.reduceExt (([[⟨1, 0⟩, ⟨2, 0⟩, ⟨3, 0⟩], [⟨4, 0⟩, ⟨5, 1⟩]] : List (List GL2)).map
    fun c => Poly.eval (Poly.divideByLinear c ⟨3, 0⟩) ⟨10, 1⟩) ⟨2, 1⟩ = ⟨58, 10⟩ := by
  decide +kernel

/-- (i) soundness: two constant polynomials `1, 1`, claimed openings `2, 0` (the first is wrong):
`1 + α = 2` has the single solution `α = 1`, and `1 ≤ 2 − 1` -/
example : ({⟨1, 0⟩} : Finset GL2).card ≤ 2 - 1 :=
  combine_soundness [[⟨1, 0⟩], [⟨1, 0⟩]] [⟨2, 0⟩, ⟨0, 0⟩] rfl ⟨5, 3⟩ ⟨0, by decide, by decide +kernel⟩ _
    (by
      intro α hα
      rw [Finset.mem_singleton] at hα
      subst hα
      decide +kernel)
/-- … and in quotient form (numerator `(1 + α) − 2 = 0` at `α = 1`: quotient `[]`) -/
example : ({⟨1, 0⟩} : Finset GL2).card ≤ 2 - 1 :=
  combine_soundness_quotient [[⟨1, 0⟩], [⟨1, 0⟩]] [⟨2, 0⟩, ⟨0, 0⟩] rfl ⟨5, 3⟩
    ⟨0, by decide, by decide +kernel⟩ _
    (by
      intro α hα
      rw [Finset.mem_singleton] at hα
      subst hα
      exact ⟨[], fun x => by
        show GL2.sub (Fri.reduceExt [GL2.add (GL2.mul GL2.zero x) ⟨1, 0⟩,
            GL2.add (GL2.mul GL2.zero x) ⟨1, 0⟩] ⟨1, 0⟩) (Fri.reduceExt [⟨2, 0⟩, ⟨0, 0⟩] ⟨1, 0⟩)
          = GL2.mul GL2.zero (GL2.sub x ⟨5, 3⟩)
        rw [Lemmas.GL2Field.zero_mul', Lemmas.GL2Field.zero_mul']
        decide +kernel⟩)

/-- (ii) `x = 1`, `y = 2`, `α = 1 + X`, filters `4`, `3 + X`: the helper value that is the sum of
the two fractions satisfies the constraint … -/
example : ((⟨4, 0⟩ : GL2) * FOps.inv ((⟨1, 0⟩ : GL2) + ⟨1, 1⟩)
      + ⟨3, 1⟩ * FOps.inv ((⟨2, 0⟩ : GL2) + ⟨1, 1⟩))
      * ((((⟨1, 0⟩ : GL2) + ⟨1, 1⟩)) * ((⟨2, 0⟩ : GL2) + ⟨1, 1⟩))
    = (⟨4, 0⟩ : GL2) * ((⟨2, 0⟩ : GL2) + ⟨1, 1⟩) + ⟨3, 1⟩ * ((⟨1, 0⟩ : GL2) + ⟨1, 1⟩) :=
  (helper_pair_iff _ ⟨4, 0⟩ ⟨3, 1⟩ ⟨1, 0⟩ ⟨2, 0⟩ ⟨1, 1⟩ (by decide) (by decide)).2 rfl
/-- … and the value the consumer receives is then zero -/
example : ((⟨2, 0⟩ : GL2) + ⟨1, 1⟩) * ((⟨1, 0⟩ : GL2) + ⟨1, 1⟩)
      * ((⟨4, 0⟩ : GL2) * FOps.inv ((⟨1, 0⟩ : GL2) + ⟨1, 1⟩)
        + ⟨3, 1⟩ * FOps.inv ((⟨2, 0⟩ : GL2) + ⟨1, 1⟩))
      - ⟨4, 0⟩ * ((⟨2, 0⟩ : GL2) + ⟨1, 1⟩) - ⟨3, 1⟩ * ((⟨1, 0⟩ : GL2) + ⟨1, 1⟩) = GL2.zero :=
  (helper_pair_constraint_iff _ _ _ _ _).2
    ((helper_pair_iff _ ⟨4, 0⟩ ⟨3, 1⟩ ⟨1, 0⟩ ⟨2, 0⟩ ⟨1, 1⟩ (by decide) (by decide)).2 rfl)
example : ((⟨9, 1⟩ : GL2) - ⟨2, 0⟩) * ⟨1, 1⟩ - (⟨7, 1⟩ * ⟨1, 1⟩ - GL2.zero) = GL2.zero :=
  (running_constraint_iff _ _ _ _ _).2 (by decide +kernel)

/-- (ii) two rows, increments `5 + X`, `−(5 + X)`: `Z = (0, 5 + X)` closes cyclically -/
example : FOps.sum ((List.range 2).map fun r => if r = 0 then (⟨5, 1⟩ : GL2) else GL2.neg ⟨5, 1⟩)
    = GL2.zero :=
  running_sum_telescopes 2 (fun r => if r = 0 then GL2.zero else ⟨5, 1⟩) _ (by decide +kernel)
/-- (ii) two rows, one looking column `x = (1, 2)` with filter 1, table `t = (2, 1)` with
multiplicity 1, `α = 1 + X`: helper sums `1/(x_r + α)`, `Z = (0, 1/(1 + α) − 1/(2 + α))` -/
example : FOps.sum ((List.range 2).map fun r =>
      (fun r => FOps.inv ((if r = 0 then (⟨1, 0⟩ : GL2) else ⟨2, 0⟩) + ⟨1, 1⟩)) r
        - (fun _ => GL2.one) r
          * FOps.inv ((fun r => if r = 0 then (⟨2, 0⟩ : GL2) else ⟨1, 0⟩) r + ⟨1, 1⟩))
    = GL2.zero :=
  logup_running_sum 2
    (fun r => if r = 0 then GL2.zero
      else FOps.inv ((⟨1, 0⟩ : GL2) + ⟨1, 1⟩) - FOps.inv ((⟨2, 0⟩ : GL2) + ⟨1, 1⟩))
    _ _ _ ⟨1, 1⟩ (by decide +kernel) (by decide +kernel)

/-- (iii) 5 wires, chunks of 2, `z = 7 + X`: honest partial products `z·2`, `z·4`, `z(gx) = z·5` -/
example : Plonk.checkPartialProducts
    [⟨1, 0⟩, ⟨2, 0⟩, ⟨3, 0⟩, ⟨4, 0⟩, ⟨5, 0⟩] [⟨1, 0⟩, ⟨1, 0⟩, ⟨2, 0⟩, ⟨3, 0⟩, ⟨4, 0⟩]
    [⟨14, 2⟩, ⟨28, 4⟩] ⟨7, 1⟩ ⟨35, 5⟩ 2 = [GL2.zero, GL2.zero, GL2.zero] := by decide +kernel
example : (⟨35, 5⟩ : GL2) * FOps.prod [⟨1, 0⟩, ⟨1, 0⟩, ⟨2, 0⟩, ⟨3, 0⟩, ⟨4, 0⟩]
    = ⟨7, 1⟩ * FOps.prod [⟨1, 0⟩, ⟨2, 0⟩, ⟨3, 0⟩, ⟨4, 0⟩, ⟨5, 0⟩] :=
  checkPartialProducts_sound _ _ [⟨14, 2⟩, ⟨28, 4⟩] _ _ 2 (by decide) rfl (by decide)
    (by decide +kernel)
example : ∀ t ∈ Plonk.checkPartialProducts
    [⟨1, 0⟩, ⟨2, 0⟩, ⟨3, 0⟩, ⟨4, 0⟩, ⟨5, 0⟩] [⟨1, 0⟩, ⟨1, 0⟩, ⟨2, 0⟩, ⟨3, 0⟩, ⟨4, 0⟩]
    [⟨14, 2⟩, ⟨28, 4⟩] ⟨7, 1⟩ ⟨35, 5⟩ 2, t = GL2.zero :=
  checkPartialProducts_complete _ _ _ _ _ 2 (by decide) rfl (by decide) (by decide +kernel)
    (by decide +kernel) (by decide +kernel)
/-- a wrong `z(gx)` is caught -/
example : Plonk.checkPartialProducts
    [⟨1, 0⟩, ⟨2, 0⟩, ⟨3, 0⟩, ⟨4, 0⟩, ⟨5, 0⟩] [⟨1, 0⟩, ⟨1, 0⟩, ⟨2, 0⟩, ⟨3, 0⟩, ⟨4, 0⟩]
    [⟨14, 2⟩, ⟨28, 4⟩] ⟨7, 1⟩ ⟨36, 5⟩ 2 = [GL2.zero, GL2.zero, GL2.neg ⟨4, 0⟩] := by decide +kernel

/-- (iii) group `[3, 6)`: the filter of gate 4 vanishes on a row selected for gate 5, not on its own -/
example : Plonk.computeFilter 4 (3, 6) (GL2.ofBase (GL.ofNat 5)) true = GL2.zero :=
  filters_disjoint 3 6 5 4 true (by omega) (by omega) (by omega) (by omega)
example : Plonk.computeFilter 4 (3, 6) (GL2.ofBase (GL.ofNat 4)) true ≠ GL2.zero := fun h =>
  (computeFilter_eq_zero_iff 3 6 4 4 true (by omega) (by omega) (Or.inl (by omega))).1 h rfl
example : Plonk.computeFilter 4 (3, 6) (GL2.ofBase (GL.ofNat 4)) false = GL2.neg GL2.one := by
  decide +kernel

/-- (iv) `5·7·2 + 11·3 = 103` -/
example : ∀ c ∈ (GateKind.arithmetic 1).evalUnfiltered
    (⟨#[2, 3], #[5, 7, 11, 103], #[]⟩ : EvalVars P2.GL), c = 0 :=
  (arithmetic_sat_iff 1 _).2 (by decide +kernel)
/-- (iv) the row `BaseSplitGenerator` fills in for `5 = 1 + 0·2 + 1·4` (three binary limbs) … -/
example : (genRow (.baseSum 2 3) #[] #[5] #[]).wires = #[5, 1, 0, 1] := by decide +kernel
/-- … satisfies the gate; changing limb 1 to `1` breaks it -/
example : ¬ ∀ c ∈ (GateKind.baseSum 2 3).evalUnfiltered
    (setW (genRow (.baseSum 2 3) #[] #[5] #[]) 2 1), c = 0 :=
  baseSum_pinned_sat 2 3 5 (by decide) (by decide) (genRow (.baseSum 2 3) #[] #[5] #[]) _ 1
    (by decide) (setW_differs _ 2 1 (by decide +kernel) (by decide +kernel))
    (C07.baseSum_generate_sat 2 3 #[] #[5] #[] (by decide)) (by decide +kernel)
example : ∀ i, i < 3 → (genRow (.baseSum 2 3) #[] #[5] #[]).wires[1 + i]!
    = GL.ofNat ((5 / 2 ^ i) % 2) :=
  baseSum_sat_unique 2 3 5 (by decide) (by decide) _
    (C07.baseSum_generate_sat 2 3 #[] #[5] #[] (by decide)) (by decide +kernel)
/-- (iv) base 3, bits `(1, 1)`: the row `ExponentiationGenerator` fills in … -/
example : (genRow (.exponentiation 2) #[] #[3, 1, 1] #[]).wires = #[3, 1, 1, 27, 3, 27] := by
  decide +kernel
/-- … carries `3^(1 + 2) = 27` in the output wire -/
example : (genRow (.exponentiation 2) #[] #[3, 1, 1] #[]).wires[1 + 2]!
    = GL.pow (genRow (.exponentiation 2) #[] #[3, 1, 1] #[]).wires[0]!
      (∑ j ∈ Finset.range 2,
        (if (genRow (.exponentiation 2) #[] #[3, 1, 1] #[]).wires[1 + j]! = 1 then 1 else 0)
          * 2 ^ j) :=
  exponentiation_semantics 2 (by decide) _ (by decide +kernel)
    (C07.exponentiation_generate_sat 2 #[] #[3, 1, 1] #[] (by decide))

end NonVacuity

end P2.Props.GL2Inst
