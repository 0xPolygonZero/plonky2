/-
C18b: SHAPE VALIDATION EXCLUDES EVERY PANIC OF THE FRI VERIFIER.

`Fri.verify` (the model of `verify_fri_proof`) makes every out-of-bounds index / `usize` underflow
of the Rust code an explicit `.panic`:
  `validateShape` ("codeword_len_bits underflow", "final_poly_bits underflow"),
  `initialChecks` / `stepsFrom` ("cap index out of range" from `Merkle.verifyToCap`),
  `queryRound` ("fri_combine_initial index" from `combineInitial = none`),
  `stepsFrom` ("steps index", "evals index", "betas index", "commit cap index").
The theorems below show that none of them is reachable: everything about the attacker-controlled
`proof` is obtained from `Fri.validateShape proof inst p = .accept` (which `Fri.verify` checks
first); the hypotheses only speak about verifier-side data (parameters, instance, challenges, the
initial caps).  No FINDING: every panic point of the model is excluded (the commit-cap count check
in the first line of `validateShape`, whose absence was finding F-C18-5, is what makes `betas[i]` /
`commit_phase_merkle_caps[i]` safe).

Helper lemmas (and the loop-free restatement `validateShapeP` with `validateShape_eq`) are in
`P2/Lemmas/FriShape.lean`.
-/
import P2.Lemmas.FriShape
import P2.Props.C03
import P2.Props.C18
namespace P2.Props.C18b
open P2 P2.Fri P2.Lemmas.FriShape

/-- `validate_fri_proof_shape` never panics (no `codeword_len_bits -= arity_bits` underflow, no
`degree_bits - total_arities` underflow in `final_poly_len`) once `totalArities ≤ degreeBits`
(enforced at circuit-build time, F-C01-1 repair). -/
theorem fri_validateShape_never_panics (proof : Fri.Proof) (inst : Fri.Instance) (p : Fri.FriParams)
    (h_arity : p.totalArities ≤ p.degreeBits) :
    ∀ s, Fri.validateShape proof inst p ≠ .panic s := by
  intro s hs
  have := validateShape_spec proof inst p
  rw [hs] at this
  exact Nat.not_lt.mpr h_arity this

/-- what an accepting `validate_fri_proof_shape` establishes about the (attacker-controlled) proof -/
theorem fri_validateShape_accept_facts (proof : Fri.Proof) (inst : Fri.Instance) (p : Fri.FriParams)
    (h : Fri.validateShape proof inst p = .accept) :
    proof.commitCaps.length = p.arityBits.length ∧
    (∀ cap ∈ proof.commitCaps, cap.length = 2 ^ p.config.capHeight) ∧
    (∀ q ∈ proof.queries,
      q.initial.length = inst.oracles.length ∧
      (∀ x ∈ q.initial.zip inst.oracles,
        x.1.1.length = x.2.numPolys + saltSize (x.2.blinding && p.isHiding) ∧
        x.1.2.length + p.config.capHeight = p.ldeBits) ∧
      q.steps.length = p.arityBits.length ∧
      stepsV p q.steps p.arityBits p.ldeBits = none) := by
  have := validateShape_spec proof inst p
  rw [h] at this
  obtain ⟨h1, h2, h3⟩ := this
  exact ⟨h1, h2, fun q hq => ⟨(h3 q hq).initLen, (h3 q hq).init, (h3 q hq).stepsLen, (h3 q hq).steps⟩⟩

/-- **`verify_fri_proof` never panics.**  Hypotheses (verifier-side data only):
* `h_arity` — `total_arities ≤ degree_bits`: enforced when the circuit is built (F-C01-1 repair);
  excludes both the `codeword_len_bits` and the `final_poly_bits` underflow;
* `h_betas` — one β per commit-phase cap: `Challenger::fri_challenges` maps over
  `commit_phase_merkle_caps` (proved for `Plonk.getChallenges`: `getChallenges_betas_length`);
* `h_idx` — query indices are drawn `% lde_size` (proved for `Plonk.getChallenges`:
  `getChallenges_queryIndices_lt`);
* `h_caps` — every initial cap has `2^cap_height` entries: verifier data + the PLONK-layer
  `capCheck`s (proved for `Plonk.verify`: `C03.shape_accept_lengths`);
* `h_inst` — the FRI instance only refers to existing oracles / polynomial indices (proved for
  `Plonk.friInstance`: `friInstance_wf`).
Not needed (the code `zip`s): `initialCaps.length = inst.oracles.length`, and any relation
between `openings` and `inst.batches`.
Nothing is assumed about `proof.queries`, `proof.finalPoly`, `proof.commitCaps`. -/
theorem fri_verify_never_panics (inst : Fri.Instance) (openings : List (List GL2))
    (ch : Fri.Challenges) (initialCaps : List (List Merkle.Digest)) (proof : Fri.Proof)
    (p : Fri.FriParams)
    (h_arity : p.totalArities ≤ p.degreeBits)
    (h_betas : ch.betas.length = proof.commitCaps.length)
    (h_idx : ∀ xi ∈ ch.queryIndices, xi < 2 ^ p.ldeBits)
    (h_caps : ∀ cap ∈ initialCaps, cap.length = 2 ^ p.config.capHeight)
    (h_inst : InstanceWF inst = true) :
    ∀ s, Fri.verify inst openings ch initialCaps proof p ≠ .panic s := by
  intro s
  unfold Fri.verify
  have hspec := validateShape_spec proof inst p
  cases hvs : Fri.validateShape proof inst p with
  | panic t => rw [hvs] at hspec; exact absurd hspec (Nat.not_lt.mpr h_arity)
  | reject t => exact Verdict.noConfusion
  | accept =>
    rw [hvs] at hspec
    obtain ⟨hcl, hcaps, hq⟩ := hspec
    dsimp only
    split
    · exact Verdict.noConfusion
    split
    · exact Verdict.noConfusion
    apply C18.firstBad_not_panic
    intro v hv t
    obtain ⟨⟨xi, q⟩, hmem, rfl⟩ := List.mem_map.mp hv
    obtain ⟨hxi, hqm⟩ := List.of_mem_zip hmem
    exact queryRound_no_panic inst ch _ initialCaps proof xi q p (hq q hqm) hcl hcaps h_betas
      (h_idx xi hxi) h_caps h_inst t

/-- well-formedness of the common circuit data (decidable): the FRI reduction schedule does not
exceed the degree (checked at build time since the repair of F-C01-1).  The cap height needs no
consistency condition: the PLONK-layer `capCheck`s and the FRI layer both use
`c.friParams.config.capHeight`. -/
def CommonWF (c : Plonk.CommonData) : Prop := c.friParams.totalArities ≤ c.friParams.degreeBits

instance (c : Plonk.CommonData) : Decidable (CommonWF c) := by unfold CommonWF; exact inferInstance

section
open P2.Plonk

/-- the challenger draws one β per commit-phase cap -/
theorem getChallenges_betas_length (c : Plonk.CommonData) (pih cd : Merkle.Digest) (pr : Plonk.Proof) :
    (Plonk.getChallenges c pih cd pr).fri.betas.length = pr.openingProof.commitCaps.length := by
  rw [getChallenges]
  dsimp only
  split <;> exact (List.length_map _).trans List.length_range

/-- the query indices are reduced modulo the LDE size -/
theorem getChallenges_queryIndices_lt (c : Plonk.CommonData) (pih cd : Merkle.Digest) (pr : Plonk.Proof) :
    ∀ xi ∈ (Plonk.getChallenges c pih cd pr).fri.queryIndices, xi < 2 ^ c.friParams.ldeBits := by
  intro xi hxi
  rw [getChallenges] at hxi
  dsimp only at hxi
  split at hxi <;>
  · obtain ⟨x, _, rfl⟩ := List.mem_map.mp hxi
    exact Nat.mod_lt _ (Nat.two_pow_pos _)

/-- every polynomial of a `polyRange` into oracle `o` up to `hi` exists, if oracle `o` has `hi` polynomials -/
theorem polyRange_wf {oracles : List Fri.OracleInfo} {o lo hi : Nat} {orc : Fri.OracleInfo} {pi : Fri.PolyInfo}
    (h : pi ∈ polyRange o lo hi) (ho : oracles[o]? = some orc) (hhi : hi ≤ orc.numPolys) :
    ∃ o', oracles[pi.oracle]? = some o' ∧ pi.poly < o'.numPolys := by
  obtain ⟨i, hi', rfl⟩ := List.mem_map.mp h
  exact ⟨orc, ho, Nat.lt_of_lt_of_le (Nat.add_lt_of_lt_sub' (List.mem_range.mp hi')) hhi⟩

/-- `get_fri_instance` is well-formed for every common data and every ζ -/
theorem friInstance_wf (c : Plonk.CommonData) (zeta : GL2) :
    InstanceWF (Plonk.friInstance c zeta) = true := by
  rw [instanceWF_iff]
  intro b hb pi hpi
  have hnc : c.config.numChallenges ≤ c.numZsPartialProductsPolys :=
    Nat.le_mul_of_pos_right _ (Nat.add_pos_left Nat.one_pos _)
  simp only [friInstance, List.mem_cons, List.not_mem_nil, or_false] at hb
  rcases hb with rfl | rfl
  · simp only [List.mem_append] at hpi
    rcases hpi with (((h | h) | h) | h) | h
    · exact polyRange_wf h rfl (Nat.le_refl _)
    · exact polyRange_wf h rfl (Nat.le_refl _)
    · exact polyRange_wf h rfl (Nat.le_add_right _ _)
    · exact polyRange_wf h rfl (Nat.le_refl _)
    · exact polyRange_wf h rfl (Nat.le_refl _)
  · simp only [List.mem_append] at hpi
    rcases hpi with h | h
    · exact polyRange_wf h rfl (Nat.le_trans hnc (Nat.le_add_right _ _))
    · exact polyRange_wf h rfl (Nat.le_refl _)

end

/-- **`verify` (PLONK) never panics** on any proof value, for well-formed common data and a
verifier-data cap of the right length.  (`identityHolds` has no panic verdict: its index misses are
totalised to `false`, i.e. to the clean rejection "identity" — nothing to prove there.) -/
theorem plonk_verify_never_panics (c : Plonk.CommonData) (vd : Plonk.VerifierOnly)
    (pp : Plonk.ProofWithPis)
    (hc : CommonWF c)
    (hvd : vd.constantsSigmasCap.length = 2 ^ c.friParams.config.capHeight) :
    ∀ s, Plonk.verify c vd pp ≠ .panic s := by
  intro s
  unfold Plonk.verify
  cases hvs : Plonk.validateShape c pp with
  | panic t => exact absurd hvs (C18.validateShape_never_panics c pp t)
  | reject t => exact Verdict.noConfusion
  | accept =>
    dsimp only
    unfold Plonk.verifyWithChallenges
    split
    · exact Verdict.noConfusion
    · obtain ⟨h1, h2, h3, _⟩ := C03.shape_accept_lengths c pp hvs
      apply fri_verify_never_panics _ _ _ _ _ _ hc (getChallenges_betas_length _ _ _ _)
        (getChallenges_queryIndices_lt _ _ _ _) _ (friInstance_wf _ _)
      intro cap hcap
      simp only [List.mem_cons, List.not_mem_nil, or_false] at hcap
      rcases hcap with rfl | rfl | rfl | rfl <;> assumption

/-- trivial parameters: no reduction step, no query -/
def p0 : Fri.FriParams :=
  { config := { rateBits := 1, capHeight := 0, powBits := 0, strategy := .fixed [], numQueryRounds := 0 },
    isHiding := false, degreeBits := 1, arityBits := [] }

def inst0 : Fri.Instance := { oracles := [⟨1, false⟩], batches := [⟨FOps.zero, [⟨0, 0⟩]⟩] }
def ch0 : Fri.Challenges := { alpha := FOps.zero, betas := [], powResponse := 0, queryIndices := [] }
def proof0 : Fri.Proof :=
  { commitCaps := [], queries := [], finalPoly := [FOps.zero, FOps.zero], powWitness := 0 }

/-- the hypotheses of `fri_verify_never_panics` are satisfiable, and on this instance the shape
validation accepts -/
example :
    p0.totalArities ≤ p0.degreeBits ∧ ch0.betas.length = proof0.commitCaps.length ∧
    (∀ xi ∈ ch0.queryIndices, xi < 2 ^ p0.ldeBits) ∧
    (∀ cap ∈ [[([] : Merkle.Digest)]], cap.length = 2 ^ p0.config.capHeight) ∧
    InstanceWF inst0 = true ∧ Fri.validateShape proof0 inst0 p0 = .accept := by
  refine ⟨by decide, by decide, by decide, by decide, by decide, by rfl⟩

/-- one reduction step of arity 2; with `ch1`, `proof1`: one query round with index 3 (`ldeBits = 2`) -/
def p1 : Fri.FriParams :=
  { config := { rateBits := 1, capHeight := 0, powBits := 0, strategy := .fixed [1], numQueryRounds := 1 },
    isHiding := false, degreeBits := 1, arityBits := [1] }
def ch1 : Fri.Challenges := { alpha := FOps.zero, betas := [FOps.one], powResponse := 0, queryIndices := [3] }
def proof1 : Fri.Proof :=
  { commitCaps := [[[]]],
    queries := [{ initial := [([0], [[], []])], steps := [⟨[FOps.zero, FOps.zero], [[]]⟩] }],
    finalPoly := [FOps.zero], powWitness := 0 }

/-- the query passes shape validation, so the theorem says the later stages (Merkle, combine, fold)
cannot panic on it -/
example :
    p1.totalArities ≤ p1.degreeBits ∧ ch1.betas.length = proof1.commitCaps.length ∧
    (∀ xi ∈ ch1.queryIndices, xi < 2 ^ p1.ldeBits) ∧
    (∀ cap ∈ [[([] : Merkle.Digest)]], cap.length = 2 ^ p1.config.capHeight) ∧
    InstanceWF inst0 = true ∧ Fri.validateShape proof1 inst0 p1 = .accept := by
  refine ⟨by decide, by decide, by decide, by decide, by decide, by rfl⟩

example : ∀ s, Fri.verify inst0 [[FOps.zero]] ch1 [[[]]] proof1 p1 ≠ .panic s :=
  fri_verify_never_panics _ _ _ _ _ _ (by decide) (by decide) (by decide) (by decide) (by decide)

/-! Sharpness: every hypothesis is needed (the panic points of the model are live). Each witness
violates exactly one hypothesis of `fri_verify_never_panics` and drives the model into the corresponding panic.  None of them is a finding about the real verifier: the violated
hypothesis is guaranteed there by the code cited in the theorem's doc comment. -/

def instE : Fri.Instance := { oracles := [], batches := [] }
def q1 : Fri.QueryRound := { initial := [], steps := [⟨[FOps.zero, FOps.zero], [[]]⟩] }
def proof2 : Fri.Proof := { commitCaps := [[[]]], queries := [q1], finalPoly := [FOps.zero], powWitness := 0 }

/-- without `h_betas` (no β for the commit-phase cap): `challenges.fri_betas[i]` -/
example : Fri.verify instE [] { ch1 with betas := [] } [] proof2 p1 = .panic "betas index" := by rfl

/-- without `h_idx` (index 4 ≥ lde_size 4): `merkle_cap.0[index]` in the initial Merkle check -/
example : Fri.verify inst0 [[FOps.zero]] { ch1 with queryIndices := [4] } [[[]]] proof1 p1 =
    .panic "cap index out of range" := by rfl

/-- without `h_caps` (an empty initial cap): `merkle_cap.0[index]` -/
example : Fri.verify inst0 [[FOps.zero]] ch1 [[]] proof1 p1 = .panic "cap index out of range" := by rfl

/-- without `h_inst` (a batch polynomial referring to a non-existent oracle): `instance.oracles[..]` -/
example : Fri.verify { oracles := [], batches := [⟨FOps.zero, [⟨0, 0⟩]⟩] } [[FOps.zero]] ch1 [] proof2 p1 =
    .panic "fri_combine_initial index" := by rfl

/-- without `h_arity` (`total_arities = 3 > degree_bits = 1`, and `> lde_bits = 2`) -/
example : Fri.verify instE [] ch1 [] proof2 { p1 with arityBits := [3] } =
    .panic "codeword_len_bits underflow" := by rfl
example : Fri.verify instE [] ch1 [] { proof2 with queries := [] } { p1 with arityBits := [3] } =
    .panic "final_poly_bits underflow" := by rfl

end P2.Props.C18b
