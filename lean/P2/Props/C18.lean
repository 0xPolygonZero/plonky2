/-
C18: verifiers fail cleanly on malformed input: the PLONK-level shape validation
of the model never panics on a structurally arbitrary proof (after the repair of F-C18-1), a proof
of wrong shape is rejected with an error — never accepted — and the historical witness of F-C18-1.
-/
import P2.Model.Plonk
import P2.Props.C05
namespace P2.Props.C18
open P2 P2.Plonk
open P2.Fri (Verdict firstBad log2Strict)

theorem capCheck_not_panic (h : Nat) (cap : List Merkle.Digest) (s : String) : capCheck h cap ≠ .panic s := by
  unfold capCheck; split <;> exact Verdict.noConfusion

theorem lenCheck_not_panic (b : Bool) (st s : String) : lenCheck b st ≠ .panic s := by
  unfold lenCheck; split <;> exact Verdict.noConfusion

theorem firstBad_not_panic (vs : List Verdict) (h : ∀ v ∈ vs, ∀ s, v ≠ .panic s) :
    ∀ s, firstBad vs ≠ .panic s :=
  fun s hp => h _ (C05.firstBad_mem vs (by rw [hp]; exact Verdict.noConfusion)) s hp

/-- **Shape validation is total and panic-free** for every structurally arbitrary proof value
(any list lengths, any cap lengths incl. 0 and non powers of two). -/
theorem validateShape_never_panics (c : CommonData) (pp : ProofWithPis) (s : String) :
    validateShape c pp ≠ .panic s := by
  refine firstBad_not_panic _ ?_ s
  simp only [shapeChecks, List.forall_mem_cons, capCheck_not_panic, lenCheck_not_panic, ne_eq, not_false_eq_true,
    implies_true, List.not_mem_nil, false_imp_iff, and_self]

/-- a proof whose shape check fails is rejected by `verify` with an error, never accepted and never a panic -/
theorem bad_shape_is_clean_error (c : CommonData) (vd : VerifierOnly) (pp : ProofWithPis)
    (h : validateShape c pp ≠ .accept) :
    ∃ stage, Plonk.verify c vd pp = .reject stage := by
  unfold Plonk.verify
  cases hs : validateShape c pp with
  | accept => exact absurd hs h
  | reject s => exact ⟨s, rfl⟩
  | panic s => exact absurd hs (validateShape_never_panics c pp s)

/-- the witness of F-C18-1 (repaired in /repo): a cap of length 3 has no `log2_strict`, which is
where `MerkleCap::height()` used to panic inside shape validation -/
example : log2Strict 3 = none ∧ log2Strict 0 = none ∧ log2Strict 4 = some 2 := by decide

end P2.Props.C18
