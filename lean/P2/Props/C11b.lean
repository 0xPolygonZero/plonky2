/-
C11b: the final-polynomial tail bound of the variable-degree in-circuit FRI verifier (repair of
finding F-C11-3). The mask `in_use` the circuit computes for coefficient block `t` is exactly
`[t < r]` with `r = d − (arities of the active reduction steps)` — the number of bits of the final
polynomial the native shape validation enforces for a proof of `2^d` rows — so the constraints
`tailConstraints` hold iff every coefficient at a position `≥ 2^r` is zero.
Core Lean only.
-/
import P2.Model.FriTail
import P2.Props.C11
namespace P2.Props.C11b
open P2 P2.FriTail

/-! ## prefix sums, step bits -/

theorem prefixSum_succ (arities : List Nat) (m : Nat) (hm : m < arities.length) :
    prefixSum arities (m + 1) = prefixSum arities m + arities[m] := by
  rw [prefixSum, List.take_succ_eq_append_getElem hm, List.sum_append_nat, List.sum_singleton]
  rfl

theorem prefixSum_le_sum (arities : List Nat) (m : Nat) : prefixSum arities m ≤ arities.sum :=
  Nat.le.intro (k := (arities.drop m).sum) (by
    rw [prefixSum, ← List.sum_append_nat, List.take_append_drop])

theorem prefixSum_mono (arities : List Nat) {m m' : Nat} (h : m' ≤ m) :
    prefixSum arities m' ≤ prefixSum arities m := by
  rw [prefixSum, ← Nat.min_eq_left h, ← List.take_take]
  exact prefixSum_le_sum _ _

theorem stepBit_mono (dmax : Nat) (arities : List Nat) {m m' : Nat} (h : m' ≤ m) :
    stepBit dmax arities m' ≤ stepBit dmax arities m := by
  unfold stepBit
  have := prefixSum_mono arities h
  omega

/-- the indices the Rust code reads `degree_sub_one_bits_vec` at are in range (no panic at build
time): with positive arities whose sum is at most `dmax`, `step_bit[m] < dmax` -/
theorem stepBit_lt_dmax (dmax : Nat) (arities : List Nat) (m : Nat) (hsum : arities.sum ≤ dmax)
    (hpos : ∀ a ∈ arities, 0 < a) (hm : m < arities.length) : stepBit dmax arities m < dmax := by
  unfold stepBit
  have h1 := prefixSum_succ arities m hm
  have h2 := prefixSum_le_sum arities (m + 1)
  have h3 := hpos arities[m] (List.getElem_mem hm)
  omega

/-! ## 1. the active steps are a prefix of the schedule -/

theorem active_prefix (dmax : Nat) (arities : List Nat) (d m m' : Nat)
    (h : active dmax arities d m = true) (hm : m' ≤ m) : active dmax arities d m' = true := by
  simp only [active, bit, Bool.and_eq_true, decide_eq_true_eq] at h ⊢
  have := stepBit_mono dmax arities hm
  omega

/-- counting a downward-closed predicate on `0..n` -/
theorem lt_countP_range_iff (p : Nat → Bool) (hp : ∀ m m', p m = true → m' ≤ m → p m' = true) :
    ∀ n m, m < (List.range n).countP p ↔ (m < n ∧ p m = true) := by
  intro n
  induction n with
  | zero =>
    intro m
    exact ⟨fun h => absurd h (Nat.not_lt_zero _), fun h => absurd h.1 (Nat.not_lt_zero _)⟩
  | succ n ih =>
    intro m
    rw [List.range_succ, List.countP_append, List.countP_singleton]
    cases hn : p n with
    | true =>
      rw [(List.countP_eq_length.2 fun k hk =>
        hp n k hn (Nat.le_of_lt (List.mem_range.1 hk))).trans List.length_range, if_pos rfl]
      exact ⟨fun h => ⟨h, hp n m hn (Nat.le_of_lt_succ h)⟩, fun h => h.1⟩
    | false =>
      rw [if_neg Bool.false_ne_true, Nat.add_zero, ih m]
      refine ⟨fun h => ⟨Nat.lt_succ_of_lt h.1, h.2⟩, fun h => ⟨?_, h.2⟩⟩
      refine (Nat.lt_or_eq_of_le (Nat.le_of_lt_succ h.1)).resolve_right fun e => ?_
      rw [e, hn] at h
      exact Bool.false_ne_true h.2

theorem lt_numActive_iff (dmax : Nat) (arities : List Nat) (d m : Nat) :
    m < numActive dmax arities d ↔ active dmax arities d m = true := by
  unfold numActive
  rw [lt_countP_range_iff _ (fun m m' h hm => active_prefix dmax arities d m m' h hm)]
  constructor
  · intro h; exact h.2
  · intro h
    refine ⟨?_, h⟩
    simp only [active, Bool.and_eq_true, decide_eq_true_eq] at h
    exact h.1

theorem numActive_le (dmax : Nat) (arities : List Nat) (d : Nat) :
    numActive dmax arities d ≤ arities.length := by
  cases hN : numActive dmax arities d with
  | zero => omega
  | succ N =>
    have h := (lt_numActive_iff dmax arities d N).1 (by omega)
    simp only [active, Bool.and_eq_true, decide_eq_true_eq] at h
    omega

/-! ## 2. exactly one `exactly_first[m]` is on -/

/-- below the schedule's length, the bit at `step_bit[m]` says whether step `m` is among the active ones -/
theorem bit_stepBit_iff (dmax : Nat) (arities : List Nat) (d m : Nat) (hm : m < arities.length) :
    bit d (stepBit dmax arities m) = true ↔ m < numActive dmax arities d := by
  rw [lt_numActive_iff, active, decide_eq_true hm, Bool.true_and]

theorem exactlyFirst_iff (dmax : Nat) (arities : List Nat) (d m : Nat) (hm : m ≤ arities.length) :
    exactlyFirst dmax arities d m = true ↔ m = numActive dmax arities d := by
  have hle := numActive_le dmax arities d
  have h1 : (m = 0 ∨ bit d (stepBit dmax arities (m - 1)) = true) ↔ m ≤ numActive dmax arities d := by
    rcases Nat.eq_zero_or_pos m with rfl | hpos
    · exact ⟨fun _ => Nat.zero_le _, fun _ => Or.inl rfl⟩
    · rw [bit_stepBit_iff dmax arities d (m - 1) (by omega)]
      omega
  have h2 : (m = arities.length ∨ bit d (stepBit dmax arities m) = false) ↔
      numActive dmax arities d ≤ m := by
    rcases Nat.eq_or_lt_of_le hm with rfl | hlt
    · exact ⟨fun _ => hle, fun _ => Or.inl rfl⟩
    · rw [← Bool.not_eq_true, bit_stepBit_iff dmax arities d m hlt, Nat.not_lt]
      exact ⟨fun h => h.resolve_left (Nat.ne_of_lt hlt), Or.inr⟩
  rw [exactlyFirst, Bool.and_eq_true, Bool.or_eq_true, Bool.or_eq_true, decide_eq_true_eq,
    decide_eq_true_eq, Bool.not_eq_true', h1, h2]
  exact Nat.le_antisymm_iff.symm

theorem exactlyFirst_unique (dmax : Nat) (arities : List Nat) (d : Nat) :
    ∃ m, m ≤ arities.length ∧ exactlyFirst dmax arities d m = true ∧
      ∀ m', m' ≤ arities.length → exactlyFirst dmax arities d m' = true → m' = m :=
  ⟨numActive dmax arities d, numActive_le dmax arities d,
    (exactlyFirst_iff dmax arities d _ (numActive_le dmax arities d)).2 rfl,
    fun m' hm' h => (exactlyFirst_iff dmax arities d m' hm').1 h⟩

/-! ## 3. the mask -/

/-- a sum of indicator terms of which only the `N`-th can be non-zero -/
theorem sum_range_single (f : Nat → Nat) (N : Nat) :
    ∀ n, (∀ m, m < n → m ≠ N → f m = 0) →
      ((List.range n).map f).sum = if N < n then f N else 0 := by
  intro n
  induction n with
  | zero => intro _; rfl
  | succ n ih =>
    intro hf
    rw [List.range_succ, List.map_append, List.sum_append_nat, ih fun m hm => hf m (Nat.lt_succ_of_lt hm),
      List.map_singleton, List.sum_singleton]
    rcases Nat.lt_trichotomy N n with h | rfl | h
    · rw [if_pos h, if_pos (Nat.lt_succ_of_lt h), hf n (Nat.lt_succ_self n) (Nat.ne_of_gt h)]
      rfl
    · rw [if_neg (Nat.lt_irrefl _), if_pos (Nat.lt_succ_self _), Nat.zero_add]
    · rw [if_neg (Nat.lt_asymm h), if_neg (Nat.not_lt.2 h), hf n (Nat.lt_succ_self n) (Nat.ne_of_lt h)]

/-- the term of the selected `m` carries the mask -/
theorem inUseTerm_numActive (dmax : Nat) (arities : List Nat) (d t : Nat) (hd : d ≤ dmax) :
    inUseTerm dmax arities d t (numActive dmax arities d)
      = if t < finalBits dmax arities d then 1 else 0 := by
  rw [inUseTerm, (exactlyFirst_iff dmax arities d _ (numActive_le dmax arities d)).2 rfl,
    Bool.true_and, bit, finalBits]
  by_cases h : t + prefixSum arities (numActive dmax arities d) < d
  · rw [if_pos (Nat.lt_of_lt_of_le h hd), decide_eq_true h, if_pos rfl,
      if_pos (Nat.lt_sub_of_add_lt h)]
  · rw [decide_eq_false h, if_neg Bool.false_ne_true, ite_self,
      if_neg fun h' => h (Nat.add_lt_of_lt_sub h')]

/-- **the mask the circuit computes is `[t < r]`**, `r = finalBits` -/
theorem inUse_eq (dmax : Nat) (arities : List Nat) (d t : Nat) (hd : d ≤ dmax) :
    inUse dmax arities d t = if t < finalBits dmax arities d then 1 else 0 := by
  have h0 : ∀ m, m < arities.length + 1 → m ≠ numActive dmax arities d →
      inUseTerm dmax arities d t m = 0 := fun m hm hne => by
    rw [inUseTerm, Bool.eq_false_iff.2 fun he =>
      hne ((exactlyFirst_iff dmax arities d m (Nat.le_of_lt_succ hm)).1 he), Bool.false_and,
      if_neg Bool.false_ne_true, ite_self]
  rw [inUse, sum_range_single _ (numActive dmax arities d) _ h0,
    if_pos (Nat.lt_succ_of_le (numActive_le dmax arities d)), inUseTerm_numActive dmax arities d t hd]

/-- the mask is a bit, so `unused = 1 − in_use` is the complementary bit -/
theorem inUse_le_one (dmax : Nat) (arities : List Nat) (d t : Nat) (hd : d ≤ dmax) :
    inUse dmax arities d t ≤ 1 := by
  rw [inUse_eq dmax arities d t hd]
  split <;> omega

theorem inUse_ne_one_iff (dmax : Nat) (arities : List Nat) (d t : Nat) (hd : d ≤ dmax) :
    inUse dmax arities d t ≠ 1 ↔ finalBits dmax arities d ≤ t := by
  rw [inUse_eq dmax arities d t hd]
  by_cases h : t < finalBits dmax arities d
  · simp only [h, if_true]; omega
  · simp only [h, if_false]; omega

/-! ## 4. which coefficients are forced to zero -/

theorem tail_forced_zero_iff (dmax : Nat) (arities : List Nat) (d j : Nat) (hd : d ≤ dmax)
    (hj : 1 ≤ j) :
    forcedZero dmax arities d j = true ↔ 2 ^ finalBits dmax arities d ≤ j := by
  unfold forcedZero
  simp only [Bool.and_eq_true, decide_eq_true_eq]
  rw [inUse_ne_one_iff dmax arities d _ hd, Nat.le_log2 (by omega)]
  constructor
  · intro h; exact h.2
  · intro h; exact ⟨hj, h⟩

theorem forcedZero_zero (dmax : Nat) (arities : List Nat) (d : Nat) :
    forcedZero dmax arities d 0 = false := by
  simp [forcedZero]

/-- **the tail constraints hold iff the final polynomial has no non-zero coefficient at a position
`≥ 2^r`** (within the `2^maxFinalBits` coefficients the circuit carries) -/
theorem tailConstraints_iff {K : Type} (zero : K) (dmax : Nat) (arities : List Nat) (d : Nat)
    (coeffs : List K) (hd : d ≤ dmax) :
    tailConstraints zero dmax arities d coeffs ↔
      ∀ j, 2 ^ finalBits dmax arities d ≤ j → j < 2 ^ maxFinalBits dmax arities →
        coeffs.getD j zero = zero := by
  unfold tailConstraints
  constructor
  · intro h j hlo hhi
    have hj0 : j ≠ 0 := Nat.ne_of_gt (Nat.lt_of_lt_of_le (Nat.two_pow_pos _) hlo)
    refine h (Nat.log2 j) ((Nat.log2_lt hj0).2 hhi) j (Nat.log2_self_le hj0) Nat.lt_log2_self ?_
    rw [inUse_ne_one_iff dmax arities d _ hd, Nat.le_log2 hj0]
    exact hlo
  · intro h t ht j hlo hhi hu
    rw [inUse_ne_one_iff dmax arities d _ hd] at hu
    exact h j (Nat.le_trans (Nat.pow_le_pow_right Nat.two_pos hu) hlo)
      (Nat.lt_of_lt_of_le hhi (Nat.pow_le_pow_right Nat.two_pos ht))

/-- in particular a proof of the largest degree (`d = dmax`, every step active when
`arities.sum ≤ dmax` and the arities are positive) is not constrained at all by the tail constraints:
`r = maxFinalBits` -/
theorem finalBits_full (dmax : Nat) (arities : List Nat) (hsum : arities.sum ≤ dmax)
    (hpos : ∀ a ∈ arities, 0 < a) :
    finalBits dmax arities dmax = maxFinalBits dmax arities := by
  have hN : numActive dmax arities dmax = arities.length := by
    have hle := numActive_le dmax arities dmax
    cases hl : arities.length with
    | zero => omega
    | succ n =>
      have hact : active dmax arities dmax n = true := by
        simp only [active, bit, Bool.and_eq_true, decide_eq_true_eq]
        exact ⟨by omega, stepBit_lt_dmax dmax arities n hsum hpos (by omega)⟩
      have := (lt_numActive_iff dmax arities dmax n).2 hact
      omega
  unfold finalBits maxFinalBits
  rw [hN]
  unfold prefixSum
  rw [List.take_length]

/-! ## 5. link to the native `ConstantArityBits` schedule -/

theorem prefixSum_replicate (k a m : Nat) : prefixSum (List.replicate k a) m = min m k * a := by
  unfold prefixSum
  rw [List.take_replicate, List.sum_replicate_nat]

theorem stepBit_replicate (a f k m : Nat) (hm : m ≤ k) :
    stepBit (f + 1 + k * a) (List.replicate k a) m = f + 1 + m * a := by
  rw [stepBit, List.sum_replicate_nat, prefixSum_replicate, Nat.add_sub_cancel, Nat.min_eq_left hm]

/-- for the circuit's own `ConstantArityBits(a, f)` schedule (`k` steps, `dmax = f + 1 + k·a`), the
number of active steps of a proof of `2^d` rows is the native number of reductions -/
theorem numActive_constantArity (a f k d : Nat) (ha : 1 ≤ a) (hd : d ≤ f + 1 + k * a) :
    numActive (f + 1 + k * a) (List.replicate k a) d = C11.numSteps a f d := by
  have key : ∀ m, m < numActive (f + 1 + k * a) (List.replicate k a) d ↔ m < C11.numSteps a f d := by
    intro m
    rw [lt_numActive_iff, C11.lt_numSteps_iff a f d m ha, active, List.length_replicate,
      Bool.and_eq_true, decide_eq_true_eq, bit, decide_eq_true_eq]
    constructor
    · rintro ⟨hm, h⟩
      rwa [stepBit_replicate a f k m (Nat.le_of_lt hm)] at h
    · intro h
      have hm : m < k := Nat.lt_of_mul_lt_mul_right (a := a) (by omega)
      exact ⟨hm, by rwa [stepBit_replicate a f k m (Nat.le_of_lt hm)]⟩
  exact Nat.le_antisymm (Nat.le_of_not_lt fun h => Nat.lt_irrefl _ ((key _).1 h))
    (Nat.le_of_not_lt fun h => Nat.lt_irrefl _ ((key _).2 h))

/-- **`finalBits` is the native final-polynomial size**: under the hypotheses of
`C11.constantArityBits_var`, the native schedule for `2^d` rows is some `l` and the native
`final_poly_bits = d − Σ l` equals the `r` the circuit's mask encodes -/
theorem finalBits_eq_native_partial (a f rate cap k fuel d : Nat) (ha : 1 ≤ a) (haf : a ≤ f + 2)
    (hr : 1 ≤ rate) (hcap : cap + a = f + 2 + rate) (hfuel : d ≤ fuel) (hd : d ≤ f + 1 + k * a) :
    ∃ l, Fri.constantArityBits a f rate cap fuel d = some l ∧
      finalBits (f + 1 + k * a) (List.replicate k a) d = d - l.sum := by
  refine ⟨_, C11.constantArityBits_var a f rate cap ha haf hr hcap fuel d hfuel, ?_⟩
  have hk : C11.numSteps a f d ≤ k := by
    have := C11.lt_numSteps_iff a f d k ha
    omega
  unfold finalBits
  rw [numActive_constantArity a f k d ha hd, prefixSum_replicate, List.sum_replicate_nat,
    Nat.min_eq_left hk]

/-! ## non-vacuity: `dmax = 14`, `arities = [4, 4]` (so `maxFinalBits = 6`, step bits 6 and 10) -/

example : stepBit 14 [4, 4] 0 = 6 ∧ stepBit 14 [4, 4] 1 = 10 := by decide
example : (List.map (numActive 14 [4, 4]) [4, 5, 6, 7, 9, 10, 11, 14]) = [0, 0, 0, 1, 1, 1, 2, 2] := by
  decide
example : finalBits 14 [4, 4] 4 = 4 := by decide
example : finalBits 14 [4, 4] 5 = 5 := by decide
example : finalBits 14 [4, 4] 6 = 6 := by decide
example : finalBits 14 [4, 4] 7 = 3 := by decide
example : finalBits 14 [4, 4] 9 = 5 := by decide
example : finalBits 14 [4, 4] 10 = 6 := by decide
example : finalBits 14 [4, 4] 11 = 3 := by decide
example : finalBits 14 [4, 4] 14 = 6 := by decide
-- the mask, block by block (`t = 0..5`)
example : (List.range 6).map (inUse 14 [4, 4] 4) = [1, 1, 1, 1, 0, 0] := by decide
example : (List.range 6).map (inUse 14 [4, 4] 7) = [1, 1, 1, 0, 0, 0] := by decide
example : (List.range 6).map (inUse 14 [4, 4] 9) = [1, 1, 1, 1, 1, 0] := by decide
example : (List.range 6).map (inUse 14 [4, 4] 11) = [1, 1, 1, 0, 0, 0] := by decide
example : (List.range 6).map (inUse 14 [4, 4] 14) = [1, 1, 1, 1, 1, 1] := by decide
example : (List.range 4).map (exactlyFirst 14 [4, 4] 9) = [false, true, false, false] := by decide
-- `d = 7`: `r = 3`, positions 8.. are forced, 0..7 are free
example : (List.range 12).map (forcedZero 14 [4, 4] 7)
    = [false, false, false, false, false, false, false, false, true, true, true, true] := by decide
-- a final polynomial with a non-zero coefficient at position 8 violates the constraints for
-- `d = 7` (this is the F-C11-3 witness shape) and satisfies them for `d = 9` (`r = 5`)
example : ¬ tailConstraints (0 : Nat) 14 [4, 4] 7 [1, 1, 1, 1, 1, 1, 1, 1, 5] := by
  intro h
  exact absurd (h 3 (by decide) 8 (by decide) (by decide) (by decide)) (by decide)
example : tailConstraints (0 : Nat) 14 [4, 4] 9 [1, 1, 1, 1, 1, 1, 1, 1, 5] := by
  rw [tailConstraints_iff _ _ _ _ _ (by decide)]
  intro j hlo hhi
  have e : finalBits 14 [4, 4] 9 = 5 := by decide
  rw [e] at hlo
  have hl : ¬ j < [1, 1, 1, 1, 1, 1, 1, 1, 5].length := by simp; omega
  simp [List.getD, List.getElem?_eq_none (Nat.le_of_not_lt hl)]
-- the native link, instantiated: `ConstantArityBits(4, 5)`, `rate_bits = 3`, `cap_height = 6`
example : Fri.constantArityBits 4 5 3 6 16 9 = some [4] ∧ finalBits 14 [4, 4] 9 = 9 - [4].sum := by
  decide

end P2.Props.C11b
