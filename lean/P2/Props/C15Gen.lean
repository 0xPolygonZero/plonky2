/-
C15 (translator tie + finite facts): the 6-bit reversal table extracted from util/src/lib.rs is
bit reversal (kernel evaluation of the 64 entries); hence the index arithmetic of
`reverse_index_bits_small` agrees with `bitrev` for every `n_power ≤ 6`; chunking thresholds.
-/
import P2.Gen.Util
import P2.Lemmas.C15BitRev
namespace P2.Props.C15Gen
open P2 P2.BitRev

theorem table_eq_map_bitrev6 : Gen.BIT_REVERSE_6BIT = (List.range 64).map (bitrev 6) := by
  decide +kernel

theorem table_is_bitrev6 : Gen.BIT_REVERSE_6BIT.length = 64 ∧ ∀ i, i < 64 → table6 i = bitrev 6 i := by
  refine ⟨rfl, fun i hi => ?_⟩
  rw [table6, table_eq_map_bitrev6, getElem!_pos _ i (by simpa using hi), List.getElem_map,
    List.getElem_range]

/-- `reverse_index_bits_small`: for every `n_power ≤ 6` and `i < 2^n_power` the source index is the
`n_power`-bit reversal -/
theorem srcSmall_eq_bitrev : ∀ nPower, nPower ≤ 6 → ∀ i, i < 2 ^ nPower → srcSmall nPower i = bitrev nPower i := by
  intro n hn i hi
  have h64 : i < 64 := Nat.lt_of_lt_of_le hi (Nat.pow_le_pow_right Nat.two_pos hn)
  -- the table entry is `bitrev n i` shifted left by the `6 - n` zero bits above `i`
  rw [srcSmall, table_is_bitrev6.2 i h64, show 6 = (6 - n) + n by omega, Nat.add_sub_cancel,
    Lemmas.C15.bitrev_add, Nat.div_eq_of_lt hi, Nat.mod_eq_of_lt hi, Lemmas.C15.bitrev_arg_zero,
    Nat.zero_add, Nat.mul_div_cancel _ (Nat.two_pow_pos _)]

/-- "Ensure that SMALL_ARR_SIZE >= 4 * BIG_T_SIZE" -/
theorem thresholds : Gen.SMALL_ARR_SIZE ≥ 4 * Gen.BIG_T_SIZE ∧ Gen.BIG_T_SIZE = 2 ^ 14 ∧ Gen.SMALL_ARR_SIZE = 2 ^ 16 := by
  decide

/-- the chunked in-place variant computes bit reversal, for `lb_n ≤ 10`; the statement for every
`lb_n` is in `P2.Props.C15`. -/
theorem chunkedMap_eq_bitrev_small : ∀ lbN, lbN ≤ 10 → ∀ i, i < 2 ^ lbN → chunkedMap lbN i = bitrev lbN i :=
  fun lbN _ i _ => Lemmas.C15.chunkedMap_eq_bitrev lbN i

end P2.Props.C15Gen
