/-
C13 (translator tie): facts about the Poseidon tables extracted from /repo on this run.
-/
import P2.Gen.Poseidon
import P2.Model.Goldilocks
import P2.Model.PoseidonFast
namespace P2.Props.C13Gen
open P2

/-- shapes of all tables -/
theorem table_shapes :
    Gen.SPONGE_RATE = 8 ∧ Gen.SPONGE_CAPACITY = 4 ∧ Gen.HALF_N_FULL_ROUNDS = 4 ∧
    Gen.N_PARTIAL_ROUNDS = 22 ∧ Gen.NUM_HASH_OUT_ELTS = 4 ∧
    Gen.ALL_ROUND_CONSTANTS.length = 12 * 30 ∧
    Gen.MDS_MATRIX_CIRC.length = 12 ∧ Gen.MDS_MATRIX_DIAG.length = 12 ∧
    Gen.FAST_PARTIAL_FIRST_ROUND_CONSTANT.length = 12 ∧
    Gen.FAST_PARTIAL_ROUND_CONSTANTS.length = 22 ∧
    Gen.FAST_PARTIAL_ROUND_VS.length = 22 ∧ (∀ row ∈ Gen.FAST_PARTIAL_ROUND_VS, row.length = 11) ∧
    Gen.FAST_PARTIAL_ROUND_W_HATS.length = 22 ∧ (∀ row ∈ Gen.FAST_PARTIAL_ROUND_W_HATS, row.length = 11) ∧
    Gen.FAST_PARTIAL_ROUND_INITIAL_MATRIX.length = 11 ∧
    (∀ row ∈ Gen.FAST_PARTIAL_ROUND_INITIAL_MATRIX, row.length = 11) ∧
    Gen.MDS_FREQ_BLOCK_ONE.length = 3 ∧ Gen.MDS_FREQ_BLOCK_TWO.length = 3 ∧
    (∀ row ∈ Gen.MDS_FREQ_BLOCK_TWO, row.length = 2) ∧ Gen.MDS_FREQ_BLOCK_THREE.length = 3 := by
  decide +kernel

/-- `constant_layer` uses `add_canonical_u64` legitimately: every round constant is canonical -/
theorem round_constants_canonical : ∀ c ∈ Gen.ALL_ROUND_CONSTANTS, c < L0.P := by decide +kernel

/-- the fast partial-round constants added with `add_canonical_u64` are canonical -/
theorem fast_partial_round_constants_canonical :
    ∀ c ∈ Gen.FAST_PARTIAL_ROUND_CONSTANTS, c < L0.P := by decide +kernel

/-- `from_canonical_u64` of the other fast tables is legitimate as well -/
theorem fast_tables_canonical :
    (∀ c ∈ Gen.FAST_PARTIAL_FIRST_ROUND_CONSTANT, c < L0.P) ∧
    (∀ row ∈ Gen.FAST_PARTIAL_ROUND_VS, ∀ c ∈ row, c < L0.P) ∧
    (∀ row ∈ Gen.FAST_PARTIAL_ROUND_W_HATS, ∀ c ∈ row, c < L0.P) ∧
    (∀ row ∈ Gen.FAST_PARTIAL_ROUND_INITIAL_MATRIX, ∀ c ∈ row, c < L0.P) := by decide +kernel

/-- "The values of MDS_MATRIX_CIRC and MDS_MATRIX_DIAG are known to be small": the u128 row
accumulation of twelve `u64 × entry` products plus the diagonal term stays below `2^96`
(entries sum to less than `2^32`), and only `diag[0]` is non-zero (the Goldilocks override adds
only that term). -/
theorem mds_entries_small :
    (Gen.MDS_MATRIX_CIRC.foldl (· + ·) 0) + (Gen.MDS_MATRIX_DIAG.foldl (· + ·) 0) < 2 ^ 32 ∧
    (∀ i, i < 12 → 0 < i → Gen.MDS_MATRIX_DIAG[i]! = 0) := by decide +kernel

end P2.Props.C13Gen
